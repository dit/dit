/-
C04 — Shannon entropy, conditional entropy and mutual information of any subsets of variables
equal −Σ p log₂ p and the corresponding entropy differences computed from the joint table;
Rényi and Tsallis entropies of any order, extropy and perplexity equal their defining formulas and
reduce to the Shannon entropy at order 1 (Tsallis in nats). Zero-probability outcomes contribute
nothing.

Everything is about the model definitions of `Core/Info.lean`, instantiated at `ℝ` with
`log := Real.logb 2`, `pow := Real.rpow`, `ofNat := Nat.cast`, `log2e := logb 2 e`
(`Dit.Lemmas.InfoReal.realOps`). Helper lemmas: Lemmas/InfoAlg.lean, Lemmas/InfoReal.lean.
-/
import DitModel.Lemmas.InfoReal

namespace Dit.Props.C04
open Dit Dit.Lemmas.InfoAlg Dit.Lemmas.InfoReal

/-! ### Shannon entropy of a list of probabilities -/

/-- **Shannon formula.** `entropyVals` is `−Σ p log₂ p`; the `p == 0` guard of the model is
harmless because `Real.logb 2 0 = 0`. -/
theorem entropyVals_eq_sum (ps : List ℝ) :
    entropyVals (Real.logb 2) ps = -(ps.map (fun p => p * Real.logb 2 p)).sum :=
  Lemmas.InfoReal.entropyVals_eq_sum ps

/-- **Order is irrelevant**: the entropy of a list is invariant under permutations (for any
`log` function). -/
theorem entropy_perm (log : ℝ → ℝ) (ps qs : List ℝ) (h : ps.Perm qs) :
    entropyVals log ps = entropyVals log qs :=
  entropyVals_perm log h

example : [(1 : ℝ) / 2, 0, 1 / 2].Perm [0, 1 / 2, 1 / 2] := List.Perm.swap _ _ _

/-- **Zero-probability outcomes contribute nothing**: removing (equivalently, inserting) zero
entries does not change the entropy, for any `log` function. -/
theorem entropy_zero_irrelevant (log : ℝ → ℝ) (ps : List ℝ) :
    entropyVals log (ps.filter (fun p => decide (p ≠ 0))) = entropyVals log ps := by
  rw [entropyVals_eq_sum_plogp, entropyVals_eq_sum_plogp, sum_map_filter_of_zero]
  intro x _ hx
  rw [not_not.mp (of_decide_eq_false hx)]
  exact plogp_zero log

/-- Inserting one zero anywhere does not change the entropy. -/
theorem entropy_insert_zero (log : ℝ → ℝ) (ps qs : List ℝ) :
    entropyVals log (ps ++ 0 :: qs) = entropyVals log (ps ++ qs) := by
  rw [← entropy_zero_irrelevant log (ps ++ 0 :: qs), ← entropy_zero_irrelevant log (ps ++ qs)]
  simp

/-- **Entropy is non-negative** for sub-probabilities (`0 ≤ p ≤ 1` entrywise; no normalisation
needed). -/
theorem entropy_nonneg (ps : List ℝ) (h : ∀ p ∈ ps, 0 ≤ p ∧ p ≤ 1) :
    0 ≤ entropyVals (Real.logb 2) ps :=
  Lemmas.InfoReal.entropy_nonneg ps h

/-- **Entropy is at most `log₂ |support|`** for a probability vector (non-negative entries of
sum 1; the sum is needed: scaling a vector changes its entropy). -/
theorem entropy_le_log_card (ps : List ℝ) (h : ∀ p ∈ ps, 0 ≤ p) (hs : ps.sum = 1) :
    entropyVals (Real.logb 2) ps ≤ Real.logb 2 (supportSize ps) :=
  Lemmas.InfoReal.entropy_le_log_card ps h hs

example : ∀ p ∈ [(1 : ℝ) / 2, 0, 1 / 2], 0 ≤ p ∧ p ≤ 1 := by
  intro p hp; simp at hp; rcases hp with rfl | rfl | rfl <;> norm_num
example : ([(1 : ℝ) / 2, 0, 1 / 2]).sum = 1 := by norm_num
example : supportSize [(1 : ℝ) / 2, 0, 1 / 2] = 2 := by simp [supportSize]
theorem logb_two_half : Real.logb 2 (1 / 2) = -1 := by
  rw [one_div, Real.logb_inv, Real.logb_self_eq_one (by norm_num)]

/-- The fair coin with a stored zero has exactly one bit, the bound `log₂ 2`. -/
example : entropyVals (Real.logb 2) [(1 : ℝ) / 2, 0, 1 / 2] = 1 := by
  rw [entropyVals_eq_sum]
  norm_num [logb_two_half]

/-! ### Entropy of a marginal of the joint table -/

/-- **Entropy of a subset of variables.** For any table `t` and index list `X`,
`entropyOf t X = −Σ_x P_X(x) log₂ P_X(x)`, where `x` runs over the distinct projections of the
stored outcomes on `X` (in order of first appearance) and `P_X(x)` is the sum of the values of
the rows projecting to `x` — the marginal computed from the joint table. -/
theorem entropyOf_eq_def {σ : Type} [DecidableEq σ] (t : Tab (List σ) ℝ) (X : List Nat) :
    entropyOf (Real.logb 2) t X
      = -((dedup (t.map (fun r => project X r.1))).map (fun x =>
          fibreSum (project X) t x * Real.logb 2 (fibreSum (project X) t x))).sum := by
  unfold entropyOf
  rw [entropyVals_eq_sum, pushforward_eq, vals, List.map_map, List.map_map]
  rfl

/-- The marginal table itself: `pushforward f t` lists the distinct images in order of first
appearance, each with the sum of its fibre (over any commutative additive monoid). -/
theorem marginal_eq_fibre_sums {κ κ' α : Type} [DecidableEq κ'] [AddCommMonoid α]
    (f : κ → κ') (t : Tab κ α) :
    pushforward f t = (dedup (t.map (fun r => f r.1))).map (fun x => (x, fibreSum f t x)) :=
  pushforward_eq f t

/-- Equivalent row form: `H(X) = −Σ_rows v · log₂ P_X(projection of the row)`. -/
theorem entropyOf_rows {σ : Type} [DecidableEq σ] (t : Tab (List σ) ℝ) (X : List Nat) :
    entropyOf (Real.logb 2) t X
      = -(t.map (fun r =>
          r.2 * Real.logb 2 (fibreSum (project X) t (project X r.1)))).sum :=
  Lemmas.InfoReal.entropyOf_rows t X

/-- The entropy of a marginal depends only on the *set* of variables (order and repetitions in
the index list are irrelevant), even for ragged tables with out-of-range indices. -/
theorem entropyOf_set {σ : Type} [DecidableEq σ] (t : Tab (List σ) ℝ) (X X' : List Nat)
    (h : ∀ v, v ∈ X ↔ v ∈ X') :
    entropyOf (Real.logb 2) t X = entropyOf (Real.logb 2) t X' :=
  entropyOf_congr t h

/-- Two perfectly correlated fair bits with a stored zero row: `H(X₀) = 1` bit. -/
example : entropyOf (Real.logb 2)
    ([(["0", "0"], 1 / 2), (["0", "1"], 0), (["1", "1"], 1 / 2)] : Tab (List String) ℝ) [0]
      = 1 := by
  -- the model computes the marginal on `X₀`: values `1/2 + 0` and `1/2`
  show entropyVals (Real.logb 2) [1 / 2 + 0, 1 / 2] = 1
  rw [entropyVals_eq_sum]
  norm_num [logb_two_half]

example : ∀ v, v ∈ [2, 0, 2] ↔ v ∈ [0, 2] := by intro v; simp; tauto

/-! ### Conditional entropy and mutual information as entropy differences -/

section Comb
variable {R : Type} [CommRing R] (cast : ℚ →+* R) (H : VSet → R)

/-- The set fact behind dit's shortcut: if `X ⊆ Z` then `X ∪ Z = Z` (as normalised sets). -/
theorem union_of_subset (X Z : VSet) (h : vsubset (vnorm X) (vnorm Z) = true) :
    vunion X Z = vnorm Z :=
  vunion_of_subset h

/-- **Conditional entropy** `H(X|Z) = H(X ∪ Z) − H(Z)` for ANY set function `H` into a
commutative ring, including dit's shortcut case `X ⊆ Z` (no hypothesis on `H` is needed: the
sets occurring in `condH` are already normalised). -/
theorem cond_entropy_def (X Z : VSet) :
    Comb.eval cast H (condH X Z) = H (vunion X Z) - H (vnorm Z) :=
  eval_condH cast H X Z

/-- In the shortcut case `X ⊆ Z` both sides are 0. -/
theorem cond_entropy_subset (X Z : VSet) (h : vsubset (vnorm X) (vnorm Z) = true) :
    Comb.eval cast H (condH X Z) = 0 ∧ H (vunion X Z) - H (vnorm Z) = 0 := by
  rw [cond_entropy_def, vunion_of_subset h]; simp

example : vsubset (vnorm [1]) (vnorm [0, 1]) = true := by decide +kernel
example : condH [1] [0, 1] = [] := by decide +kernel
example : condH [2] [0, 1] = [(1, [0, 1, 2]), (-1, [0, 1])] := by decide +kernel

/-- **Conditional mutual information**
`I(X:Y|Z) = H(X∪Z) + H(Y∪Z) − H(X∪Y∪Z) − H(Z)` for any set function `H`. -/
theorem mi_def (X Y Z : VSet) :
    Comb.eval cast H (cmiC X Y Z)
      = H (vunion X Z) + H (vunion Y Z) - H (vunion (vunion X Y) Z) - H (vnorm Z) := by
  rw [eval_cmiC]; unfold Hc; ring

end Comb

/-- **Conditional entropy from the joint table**: with `H := entropyOf t`, `condH X Z` evaluates
to `H(X ++ Z) − H(Z)`, both entropies being those of marginals of the same table `t`. -/
theorem cond_entropy_table {σ : Type} [DecidableEq σ] (t : Tab (List σ) ℝ) (X Z : List Nat) :
    Comb.eval (Rat.castHom ℝ) (entropyOf (Real.logb 2) t) (condH X Z)
      = entropyOf (Real.logb 2) t (X ++ Z) - entropyOf (Real.logb 2) t Z := by
  rw [eval_condH]; unfold Hc
  rw [entropyOf_congr t (X := vunion X Z) (X' := X ++ Z)
        (by intro v; rw [mem_vunion, List.mem_append]),
    ← entropyOf_vnorm]

/-- **Mutual information from the joint table**:
`I(X:Y|Z) = H(X++Z) + H(Y++Z) − H(X++Y++Z) − H(Z)` on the marginals of `t`. -/
theorem mi_table {σ : Type} [DecidableEq σ] (t : Tab (List σ) ℝ) (X Y Z : List Nat) :
    Comb.eval (Rat.castHom ℝ) (entropyOf (Real.logb 2) t) (cmiC X Y Z)
      = entropyOf (Real.logb 2) t (X ++ Z) + entropyOf (Real.logb 2) t (Y ++ Z)
        - entropyOf (Real.logb 2) t (X ++ Y ++ Z) - entropyOf (Real.logb 2) t Z := by
  rw [mi_def]
  rw [entropyOf_congr t (X := vunion X Z) (X' := X ++ Z)
        (by intro v; rw [mem_vunion, List.mem_append]),
    entropyOf_congr t (X := vunion Y Z) (X' := Y ++ Z)
        (by intro v; rw [mem_vunion, List.mem_append]),
    entropyOf_congr t (X := vunion (vunion X Y) Z) (X' := X ++ Y ++ Z)
        (by intro v; simp only [mem_vunion, List.mem_append]),
    ← entropyOf_vnorm]

/-- The mutual information of two perfectly correlated fair bits, computed from the joint table,
is 1 bit. -/
example : Comb.eval (Rat.castHom ℝ) (entropyOf (Real.logb 2)
    ([(["0", "0"], 1 / 2), (["0", "1"], 0), (["1", "1"], 1 / 2)] : Tab (List String) ℝ))
      (cmiC [0] [1] []) = 1 := by
  rw [mi_table]
  -- the value lists of the four marginals, as the model computes them
  show entropyVals (Real.logb 2) [1 / 2 + 0, 1 / 2] + entropyVals (Real.logb 2) [1 / 2, 0 + 1 / 2]
    - entropyVals (Real.logb 2) [1 / 2, 0, 1 / 2] - entropyVals (Real.logb 2) [1 / 2 + 0 + 1 / 2] = 1
  simp only [entropyVals_eq_sum]
  norm_num [logb_two_half]

/-! ### Rényi, Tsallis, extropy, perplexity -/

/-- **Rényi order 0** is `log₂ |support|` (Hartley entropy). -/
theorem renyi_zero (ps : List ℝ) :
    renyiVals realOps (.fin 0) ps = Real.logb 2 (supportSize ps) :=
  Lemmas.InfoReal.renyi_zero ps

/-- **Rényi order 1** is the Shannon entropy. -/
theorem renyi_one (ps : List ℝ) :
    renyiVals realOps (.fin 1) ps = entropyVals (Real.logb 2) ps :=
  Lemmas.InfoReal.renyi_one ps

/-- **Rényi order ∞** is `−log₂ (lmax ps)` (min-entropy); for `lmax` see `lmax_spec`. -/
theorem renyi_inf (ps : List ℝ) :
    renyiVals realOps .inf ps = -Real.logb 2 (lmax ps) :=
  Lemmas.InfoReal.renyi_inf ps

/-- `lmax ps` is the greatest element of a non-empty list of non-negative reals (both
hypotheses are needed: `lmax [] = 0` and `lmax [-1] = 0` are not elements). -/
theorem lmax_spec (ps : List ℝ) (hne : ps ≠ []) (hnn : ∀ p ∈ ps, 0 ≤ p) :
    lmax ps ∈ ps ∧ ∀ p ∈ ps, p ≤ lmax ps := by
  obtain ⟨hm, hle⟩ := Lemmas.ListBasics.foldl_max_spec ps (0 : ℝ)
  have h2 : ∀ p ∈ ps, p ≤ lmax ps := fun p hp => hle p (List.mem_cons_of_mem _ hp)
  refine ⟨?_, h2⟩
  rcases List.mem_cons.mp hm with h0 | h
  · -- the maximum is the starting value 0: then every element is 0, and `ps` has one
    obtain ⟨x, hx⟩ := List.exists_mem_of_ne_nil ps hne
    have hx0 : x = 0 := le_antisymm ((h2 x hx).trans_eq h0) (hnn x hx)
    have e : lmax ps = x := h0.trans hx0.symm
    rw [e]
    exact hx
  · exact h

example : lmax [(1 : ℝ) / 4, 1 / 2, 1 / 4] = 1 / 2 := by
  unfold lmax; norm_num
example : [(1 : ℝ) / 4, 1 / 2, 1 / 4] ≠ [] ∧ ∀ p ∈ [(1 : ℝ) / 4, 1 / 2, 1 / 4], 0 ≤ p := by
  refine ⟨by simp, ?_⟩
  intro p hp; simp at hp; rcases hp with rfl | rfl | rfl <;> norm_num
example : (2 : ℝ) ≠ 0 ∧ (2 : ℝ) ≠ 1 ∧ (0 : ℝ) < 2 := by norm_num

/-- **Rényi, generic order** `a ∉ {0, 1}`: `(1/(1−a)) log₂ Σ_{p ≠ 0} pᵃ` over the support. -/
theorem renyi_fin (a : ℝ) (h0 : a ≠ 0) (h1 : a ≠ 1) (ps : List ℝ) :
    renyiVals realOps (.fin a) ps
      = (1 / (1 - a))
        * Real.logb 2 (((ps.filter (fun p => decide (p ≠ 0))).map (· ^ a)).sum) := by
  simp only [renyiVals, realOps, beq_iff_eq, h0, h1, if_false, Lemmas.ListBasics.lsum_eq_sum, filter_ne_zero]

/-- For positive order the restriction to the support is immaterial (`0ᵃ = 0`). -/
theorem renyi_fin_pos (a : ℝ) (h0 : 0 < a) (h1 : a ≠ 1) (ps : List ℝ) :
    renyiVals realOps (.fin a) ps = (1 / (1 - a)) * Real.logb 2 ((ps.map (· ^ a)).sum) := by
  rw [renyi_fin a h0.ne' h1, sum_rpow_filter a h0]

/-- **Tsallis order 1** is the Shannon entropy in nats, `−Σ p ln p`. -/
theorem tsallis_one (ps : List ℝ) :
    tsallisVals realOps 1 ps = -(ps.map (fun p => p * Real.log p)).sum :=
  Lemmas.InfoReal.tsallis_one ps

/-- **Tsallis order 1** as dit computes it: the Shannon entropy in bits divided by `log₂ e`. -/
theorem tsallis_one_bits (ps : List ℝ) :
    tsallisVals realOps 1 ps = entropyVals (Real.logb 2) ps / Real.logb 2 (Real.exp 1) := by
  simp only [tsallisVals, realOps, beq_self_eq_true, if_true]

/-- **Tsallis, generic order** `q ≠ 1`: `(1/(q−1)) (1 − Σ_{p ≠ 0} p^q)` over the support. -/
theorem tsallis_fin (q : ℝ) (h1 : q ≠ 1) (ps : List ℝ) :
    tsallisVals realOps q ps
      = (1 / (q - 1)) * (1 - ((ps.filter (fun p => decide (p ≠ 0))).map (· ^ q)).sum) := by
  simp only [tsallisVals, realOps, beq_iff_eq, h1, if_false, Lemmas.ListBasics.lsum_eq_sum, filter_ne_zero]

/-- For positive order the restriction to the support is immaterial. -/
theorem tsallis_fin_pos (q : ℝ) (h0 : 0 < q) (h1 : q ≠ 1) (ps : List ℝ) :
    tsallisVals realOps q ps = (1 / (q - 1)) * (1 - (ps.map (· ^ q)).sum) := by
  rw [tsallis_fin q h1, sum_rpow_filter q h0]

/-- **Extropy** is `−Σ (1−p) log₂ (1−p)`. -/
theorem extropy_def (ps : List ℝ) :
    extropyVals (Real.logb 2) ps = -(ps.map (fun p => (1 - p) * Real.logb 2 (1 - p))).sum := by
  unfold extropyVals
  rw [entropyVals_eq_sum, List.map_map]; rfl

/-- **Perplexity** is `2 ^ H`. -/
theorem perplexity_def (ps : List ℝ) :
    perplexityVals realOps 2 ps = (2 : ℝ) ^ entropyVals (Real.logb 2) ps := rfl

/-- **Rényi → Shannon.** For a probability vector (non-negative entries of sum 1; the sum is
needed, since `log₂ Σ pᵃ → log₂ Σ p ≠ 0` otherwise) the Rényi entropy of order `a` tends to the
Shannon entropy as `a → 1`, `a ≠ 1`: the order-1 branch of `renyiVals` is the genuine limit. -/
theorem renyi_tendsto_one (ps : List ℝ) (hnn : ∀ p ∈ ps, 0 ≤ p) (hs : ps.sum = 1) :
    Filter.Tendsto (fun a => renyiVals realOps (.fin a) ps) (nhdsWithin 1 {1}ᶜ)
      (nhds (entropyVals (Real.logb 2) ps)) := by
  have hS1 : ((ps.filter (fun p => decide (p ≠ 0))).map (· ^ (1 : ℝ))).sum = 1 :=
    (sum_rpow_one_support ps).trans hs
  -- `a ↦ ln Σ pᵃ` has derivative `Σ p ln p` at 1, and the Rényi entropy is minus its slope there
  have hd := (hasDerivAt_sum_rpow_support ps hnn).log (hS1.trans_ne one_ne_zero)
  rw [hS1, div_one] at hd
  have ht := (hasDerivAt_iff_tendsto_slope.mp hd).neg.div_const (Real.log 2)
  rw [← entropyVals_eq_log] at ht
  refine ht.congr' ?_
  filter_upwards [eventually_ne_nhdsWithin one_ne_zero, eventually_mem_nhdsWithin] with a ha0 ha1
  rw [renyi_fin a ha0 ha1, slope_def_field, hS1, Real.log_one, sub_zero, ← Real.log_div_log]
  have : (1 : ℝ) - a ≠ 0 := sub_ne_zero.mpr (Ne.symm ha1)
  have : a - 1 ≠ 0 := sub_ne_zero.mpr ha1
  field_simp
  ring

/-- **Tsallis → Shannon (nats).** For a probability vector the Tsallis entropy of order `q` tends
to its order-1 value `−Σ p ln p` as `q → 1`, `q ≠ 1`. -/
theorem tsallis_tendsto_one (ps : List ℝ) (hnn : ∀ p ∈ ps, 0 ≤ p) (hs : ps.sum = 1) :
    Filter.Tendsto (fun q => tsallisVals realOps q ps) (nhdsWithin 1 {1}ᶜ)
      (nhds (tsallisVals realOps 1 ps)) := by
  have hS1 : ((ps.filter (fun p => decide (p ≠ 0))).map (· ^ (1 : ℝ))).sum = 1 :=
    (sum_rpow_one_support ps).trans hs
  -- the Tsallis entropy is minus the slope of `a ↦ Σ pᵃ` at 1
  have ht := (hasDerivAt_iff_tendsto_slope.mp (hasDerivAt_sum_rpow_support ps hnn)).neg
  rw [← tsallis_one] at ht
  refine ht.congr' ?_
  filter_upwards [eventually_mem_nhdsWithin] with a ha1
  rw [tsallis_fin a ha1, slope_def_field, hS1]
  have : a - 1 ≠ 0 := sub_ne_zero.mpr ha1
  field_simp
  ring

example : (∀ p ∈ [(1 : ℝ) / 4, 0, 3 / 4], 0 ≤ p) ∧ ([(1 : ℝ) / 4, 0, 3 / 4]).sum = 1 := by
  constructor
  · intro p hp; simp at hp; rcases hp with rfl | rfl | rfl <;> norm_num
  · norm_num

end Dit.Props.C04
