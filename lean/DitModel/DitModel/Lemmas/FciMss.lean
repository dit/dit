/-
Helper lemmas: inside a class of the minimal sufficient statistic the joint law of the two groups is a product.
Property theorems are in Props/C16FciMss.lean.

Everything is over an arbitrary field with decidable equality (values may be zero or negative): the block quantities
of `Core/SetPart.lean` are rewritten as event weights `wtBy`, the conditional law of `condLawAt` is the quotient
`condP` of two event weights (`lookupD_condLawAt`), and the product test of `blockIndep` follows from the
"cross-multiplied" equality of the conditional laws of two rows of one class, summed over the `X`-values of the class.
-/
import DitModel.Core.SetPart
import DitModel.Lemmas.Meet
import Mathlib.Algebra.BigOperators.Ring.List

namespace Dit.Lemmas.FciMss
open Dit Dit.Lemmas.Table Dit.Lemmas.Meet

section Block
variable {σ : Type} [DecidableEq σ] {α : Type} [Field α]

theorem blockMass_eq_wtBy (t : Tab (List σ) α) (hk : (keys t).Nodup) (B : List (List σ))
    (hB : B.Nodup) : blockMass t B = wtBy (fun o => o ∈ B) t :=
  ((ListBasics.lsum_eq_sum _).trans (sum_lookupD t hk hB)).trans (wtBy_congr' t fun _ _ => Iff.rfl)

theorem blockMargin_eq_wtBy (t : Tab (List σ) α) (hk : (keys t).Nodup) (B : List (List σ))
    (hB : B.Nodup) (g : List Nat) (v : List σ) :
    blockMargin t B g v = wtBy (fun o => project g o = v ∧ o ∈ B) t :=
  ((ListBasics.lsum_eq_sum _).trans (sum_lookupD t hk (hB.filter _))).trans
    (wtBy_congr' t fun k _ => by rw [List.mem_filter, decide_eq_true_eq, and_comm])

theorem blockJoint_eq_wtBy (t : Tab (List σ) α) (hk : (keys t).Nodup) (B : List (List σ))
    (hB : B.Nodup) (groups : List (List Nat)) (vs : List (List σ)) :
    blockJoint t B groups vs
      = wtBy (fun o => groups.map (fun g => project g o) = vs ∧ o ∈ B) t :=
  ((ListBasics.lsum_eq_sum _).trans (sum_lookupD t hk (hB.filter _))).trans
    (wtBy_congr' t fun k _ => by rw [List.mem_filter, decide_eq_true_eq, and_comm])

end Block

section Mss
variable {σ : Type} [DecidableEq σ] {α : Type} [Field α] [DecidableEq α]

/-- `P(X = x)`, the denominator of `condP`. -/
def pW (t : Tab (List σ) α) (X : List Nat) (x : List σ) : α :=
  wtBy (fun k => project X k = x) t

/-- `P(X = x, Y = y)`, the numerator of `condP`. -/
def jW (t : Tab (List σ) α) (X Y : List Nat) (x y : List σ) : α :=
  wtBy (fun k => project Y k = y ∧ project X k = x) t

omit [DecidableEq α] in
theorem pW_eq_sum (t : Tab (List σ) α) (X Y : List Nat) (x : List σ) :
    pW t X x = ((dedup ((keys t).map (project Y))).map (fun y => jW t X Y x y)).sum :=
  (sum_wtBy_fibre_on (nodup_dedup _) (project Y) (fun k => project X k = x) t
    fun _ hk _ => mem_dedup.mpr (List.mem_map_of_mem hk)).symm

/-- Cross-multiplied equality of the conditional laws of two related rows: no division, so valid whether or
not the marginal weights vanish. -/
theorem cross_of_mssRel (t : Tab (List σ) α) (X Y : List Nat) {o o' : List σ}
    (h : mssRel t X Y o o' = true) (y : List σ) :
    jW t X Y (project X o) y * pW t X (project X o')
      = pW t X (project X o) * jW t X Y (project X o') y := by
  rw [mssRel_iff] at h
  -- equal laws: the two marginal weights vanish together
  have h0 : ∀ {a b : List σ}, (∀ y, condP t X Y a y = condP t X Y b y) →
      pW t X (project X a) = 0 → pW t X (project X b) = 0 := fun hab ha => by
    by_contra hne
    refine hne ((pW_eq_sum t X Y _).trans (List.sum_eq_zero fun z hz => ?_))
    obtain ⟨y', -, rfl⟩ := List.mem_map.mp hz
    exact (div_eq_zero_iff.mp ((hab y').symm.trans (div_eq_zero_iff.mpr (Or.inr ha)))).resolve_right
      hne
  by_cases hx : pW t X (project X o) = 0
  · rw [hx, h0 h hx, mul_zero, zero_mul]
  · exact ((div_eq_div_iff hx fun e => hx (h0 (fun y' => (h y').symm) e)).mp (h y)).trans
      (mul_comm _ _)

variable (t : Tab (List σ) α) (X Y : List Nat)

theorem mem_class_of_project_eq {B : List (List σ)} (hB : B ∈ mssClasses t X Y) {a k : List σ}
    (ha : a ∈ B) (hk : k ∈ keys t) (h : project X k = project X a) : k ∈ B :=
  (mem_class_iff (mss_equivOn t X Y (keys t)) hB ha hk).mpr (mssRel_of_project_eq t X Y h.symm)

theorem mssRel_of_mem_class {B : List (List σ)} (hB : B ∈ mssClasses t X Y) {a a' : List σ}
    (ha : a ∈ B) (ha' : a' ∈ B) : mssRel t X Y a a' = true :=
  have he := mss_equivOn t X Y (keys t)
  (mem_class_iff he hB ha (mem_rows_of_mem_class he hB ha')).mp ha'

theorem class_nodup (hk : (keys t).Nodup) {B : List (List σ)} (hB : B ∈ mssClasses t X Y) :
    B.Nodup :=
  ((mss_equivOn t X Y (keys t)).classes.sublist hB).nodup hk

theorem wtBy_class_fibre {B : List (List σ)} (hB : B ∈ mssClasses t X Y) {a : List σ} (ha : a ∈ B)
    (E : List σ → Prop) [DecidablePred E] :
    wtBy (fun k => project X k = project X a ∧ E k ∧ k ∈ B) t
      = wtBy (fun k => E k ∧ project X k = project X a) t :=
  wtBy_congr' t fun _ hk =>
    ⟨fun h => ⟨h.2.1, h.1⟩, fun h => ⟨h.2, h.1, mem_class_of_project_eq t X Y hB ha hk h.2⟩⟩

theorem class_marginX {B : List (List σ)} (hB : B ∈ mssClasses t X Y) {a : List σ} (ha : a ∈ B) :
    wtBy (fun k => project X k = project X a ∧ k ∈ B) t = pW t X (project X a) :=
  wtBy_congr' t fun _ hk => ⟨And.left, fun h => ⟨h, mem_class_of_project_eq t X Y hB ha hk h⟩⟩

theorem class_mass {B : List (List σ)} (hB : B ∈ mssClasses t X Y) :
    wtBy (fun k => k ∈ B) t = ((dedup (B.map (project X))).map (fun x => pW t X x)).sum := by
  refine (sum_wtBy_fibre_on (nodup_dedup (B.map (project X))) (project X) (fun k => k ∈ B) t
    fun k _ hkB => mem_dedup.mpr (List.mem_map_of_mem hkB)).symm.trans ?_
  refine congrArg List.sum (List.map_congr_left fun x hx => ?_)
  obtain ⟨a, ha, rfl⟩ := List.mem_map.mp (mem_dedup.mp hx)
  exact class_marginX t X Y hB ha

theorem class_marginY {B : List (List σ)} (hB : B ∈ mssClasses t X Y) (y : List σ) :
    wtBy (fun k => project Y k = y ∧ k ∈ B) t
      = ((dedup (B.map (project X))).map (fun x => jW t X Y x y)).sum := by
  refine (sum_wtBy_fibre_on (nodup_dedup (B.map (project X))) (project X)
    (fun k => project Y k = y ∧ k ∈ B) t
    fun k _ hkB => mem_dedup.mpr (List.mem_map_of_mem hkB.2)).symm.trans ?_
  refine congrArg List.sum (List.map_congr_left fun x hx => ?_)
  obtain ⟨a, ha, rfl⟩ := List.mem_map.mp (mem_dedup.mp hx)
  exact wtBy_class_fibre t X Y hB ha (fun k => project Y k = y)

theorem class_joint {B : List (List σ)} (hB : B ∈ mssClasses t X Y) {a : List σ} (ha : a ∈ B)
    (y : List σ) :
    wtBy (fun k => [X, Y].map (fun g => project g k) = [project X a, y] ∧ k ∈ B) t
      = jW t X Y (project X a) y := by
  refine wtBy_congr' t fun k hk => ?_
  simp only [List.map_cons, List.map_nil, List.cons.injEq, and_true]
  exact ⟨fun h => ⟨h.1.2, h.1.1⟩,
    fun h => ⟨⟨h.2, h.1⟩, mem_class_of_project_eq t X Y hB ha hk h.2⟩⟩

/-- Product identity inside a class, without division: `P(x_a, y, B) · P(B) = P(x_a, B) · P(y, B)`. -/
theorem class_product (hk : (keys t).Nodup) {B : List (List σ)} (hB : B ∈ mssClasses t X Y)
    {a : List σ} (ha : a ∈ B) (y : List σ) :
    blockJoint t B [X, Y] [project X a, y] * blockMass t B
      = blockMargin t B X (project X a) * blockMargin t B Y y := by
  have hnd := class_nodup t X Y hk hB
  rw [blockJoint_eq_wtBy t hk B hnd, blockMass_eq_wtBy t hk B hnd, blockMargin_eq_wtBy t hk B hnd,
    blockMargin_eq_wtBy t hk B hnd, class_joint t X Y hB ha, class_marginX t X Y hB ha,
    class_marginY t X Y hB, class_mass t X Y hB, ← List.sum_map_mul_left, ← List.sum_map_mul_left]
  refine congrArg List.sum (List.map_congr_left fun x hx => ?_)
  obtain ⟨a', ha', rfl⟩ := List.mem_map.mp (mem_dedup.mp hx)
  exact cross_of_mssRel t X Y (mssRel_of_mem_class t X Y hB ha ha') y

end Mss

end Dit.Lemmas.FciMss
