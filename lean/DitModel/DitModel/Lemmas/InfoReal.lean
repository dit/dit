/-
Helper lemmas for C04/C05 over `ℝ`: what `pushforward` computes (fibre sums, keys in order of
first appearance), Shannon entropy of a list as an explicit sum, the entropy of the image of a
table under a map (`Meet.Hmap`; a marginal is the image under `project X`) with non-negativity of
conditional mutual information (`Hmap_submod`, `entropy_Submod`), Gibbs' inequality, and the
Rényi / Tsallis family.
-/
import DitModel.Lemmas.InfoAlg
import DitModel.Lemmas.Table
import Mathlib.Data.List.Induction
import Mathlib.Algebra.BigOperators.Fin
import Mathlib.Algebra.Order.BigOperators.Ring.Finset
import Mathlib.Analysis.SpecialFunctions.Log.Base
import Mathlib.Analysis.SpecialFunctions.Pow.Real
import Mathlib.Analysis.SpecialFunctions.Pow.Deriv
import Mathlib.Analysis.SpecialFunctions.Log.Deriv
import Mathlib.Analysis.Calculus.Deriv.Slope
import Mathlib.Tactic.Positivity

namespace Dit.Lemmas.InfoReal
open Dit Dit.Lemmas.ListBasics Dit.Lemmas.InfoAlg

/-! ### What `pushforward` computes -/

section Push
variable {κ κ' α : Type} [DecidableEq κ'] [AddCommMonoid α]

/-- Sum of the values of the rows of `t` whose key is mapped to `x` by `f`. -/
def fibreSum (f : κ → κ') (t : Tab κ α) (x : κ') : α :=
  ((t.filter (fun r => f r.1 = x)).map (·.2)).sum

theorem fibreSum_nil (f : κ → κ') (x : κ') : fibreSum f ([] : Tab κ α) x = 0 := rfl

theorem fibreSum_append (f : κ → κ') (s t : Tab κ α) (x : κ') :
    fibreSum f (s ++ t) x = fibreSum f s x + fibreSum f t x := by
  simp [fibreSum]

theorem fibreSum_single (f : κ → κ') (r : κ × α) (x : κ') :
    fibreSum f [r] x = if f r.1 = x then r.2 else 0 := by
  unfold fibreSum
  by_cases h : f r.1 = x <;> simp [h]

theorem fibreSum_eq_zero (f : κ → κ') (t : Tab κ α) (x : κ') (h : ∀ r ∈ t, f r.1 ≠ x) :
    fibreSum f t x = 0 := by
  unfold fibreSum
  rw [List.filter_eq_nil_iff.mpr fun r hr hx => h r hr (of_decide_eq_true hx)]
  rfl

theorem fibreSum_of_not_mem (f : κ → κ') (t : Tab κ α) (x : κ')
    (h : x ∉ t.map (fun r => f r.1)) : fibreSum f t x = 0 :=
  fibreSum_eq_zero f t x (fun r hr e => h (List.mem_map.mpr ⟨r, hr, e⟩))

theorem fibreSum_eq_ite (f : κ → κ') (t : Tab κ α) (x : κ') :
    fibreSum f t x = (t.map (fun r => if f r.1 = x then r.2 else 0)).sum := by
  induction t with
  | nil => rfl
  | cons r t ih =>
    have : fibreSum f (r :: t) x = fibreSum f [r] x + fibreSum f t x :=
      fibreSum_append f [r] t x
    rw [this, fibreSum_single, ih, List.map_cons, List.sum_cons]

theorem fibreSum_eq_wtBy (f : κ → κ') (t : Tab κ α) (x : κ') :
    fibreSum f t x = Lemmas.Table.wtBy (fun o => f o = x) t :=
  fibreSum_eq_ite f t x

theorem fibreSum_congr_key {κ'' : Type} [DecidableEq κ''] {f : κ → κ'} {g : κ → κ''}
    {t : Tab κ α} {x : κ'} {y : κ''} (h : ∀ r ∈ t, f r.1 = x ↔ g r.1 = y) :
    fibreSum f t x = fibreSum g t y := by
  unfold fibreSum
  rw [List.filter_congr (fun r hr => decide_eq_decide.mpr (h r hr))]

theorem fibreSum_perm (f : κ → κ') {s t : Tab κ α} (h : s.Perm t) (x : κ') :
    fibreSum f s x = fibreSum f t x :=
  ((h.filter _).map _).sum_eq

theorem fibreSum_of_vals_zero (f : κ → κ') (zs : Tab κ α) (hz : ∀ r ∈ zs, r.2 = 0) (x : κ') :
    fibreSum f zs x = 0 := by
  unfold fibreSum
  apply List.sum_eq_zero
  intro v hv
  obtain ⟨r, hr, rfl⟩ := List.mem_map.mp hv
  exact hz r (List.mem_filter.mp hr).1

theorem fibreSum_append_zero (f : κ → κ') (t zs : Tab κ α) (hz : ∀ r ∈ zs, r.2 = 0) (x : κ') :
    fibreSum f (t ++ zs) x = fibreSum f t x := by
  rw [fibreSum_append, fibreSum_of_vals_zero f zs hz, add_zero]

theorem fibreSum_filter_of_zero (f : κ → κ') (q : κ × α → Bool) (t : Tab κ α)
    (h : ∀ r ∈ t, q r = false → r.2 = 0) (x : κ') :
    fibreSum f (t.filter q) x = fibreSum f t x := by
  unfold fibreSum
  rw [List.filter_comm, sum_map_filter_of_zero]
  intro r hr hq
  exact h r (List.mem_filter.mp hr).1 hq

theorem fibreSum_nonneg (g : κ → κ') (u : Tab κ ℝ) (hu : ∀ r ∈ u, 0 ≤ r.2) (x : κ') :
    0 ≤ fibreSum g u x := by
  unfold fibreSum
  apply List.sum_nonneg
  intro y hy
  obtain ⟨r, hr, rfl⟩ := List.mem_map.mp hy
  exact hu r (List.mem_filter.mp hr).1

theorem le_fibreSum (g : κ → κ') (t : Tab κ ℝ) (hnn : ∀ r ∈ t, 0 ≤ r.2) {r : κ × ℝ}
    (hr : r ∈ t) : r.2 ≤ fibreSum g t (g r.1) := by
  unfold fibreSum
  apply List.single_le_sum
  · intro x hx
    obtain ⟨r', hr', rfl⟩ := List.mem_map.mp hx
    exact hnn r' (List.mem_filter.mp hr').1
  · exact List.mem_map_of_mem (List.mem_filter.mpr ⟨hr, by simp⟩)

theorem fibreSum_pos (f : κ → κ') (t : Tab κ ℝ) (hnn : ∀ r ∈ t, 0 ≤ r.2) {r : κ × ℝ}
    (hr : r ∈ t) (hpos : 0 < r.2) : 0 < fibreSum f t (f r.1) :=
  hpos.trans_le (le_fibreSum f t hnn hr)

theorem accum_of_not_mem {acc : Tab κ' α} {k : κ'} (v : α) (h : k ∉ keys acc) :
    accum acc k v = acc ++ [(k, v)] := by
  induction acc with
  | nil => rfl
  | cons a t ih =>
    obtain ⟨k', v'⟩ := a
    rw [keys, List.map_cons, List.mem_cons, not_or] at h
    rw [accum, if_neg (Ne.symm h.1), ih h.2, List.cons_append]

theorem accum_of_mem {acc : Tab κ' α} {k : κ'} (v : α) (hnd : (keys acc).Nodup)
    (h : k ∈ keys acc) :
    accum acc k v = acc.map (fun r => if r.1 = k then (r.1, r.2 + v) else r) := by
  induction acc with
  | nil => cases h
  | cons a t ih =>
    obtain ⟨k', v'⟩ := a
    rw [keys, List.map_cons, List.nodup_cons] at hnd
    rw [keys, List.map_cons, List.mem_cons] at h
    rw [accum, List.map_cons]
    by_cases hk : k' = k
    · subst hk
      rw [if_pos rfl, if_pos rfl]
      congr 1
      exact (List.map_id t).symm.trans (List.map_congr_left fun r hr =>
        (if_neg fun e => hnd.1 (List.mem_map.mpr ⟨r, hr, e⟩)).symm)
    · rw [if_neg hk, if_neg hk, ih hnd.2 (h.resolve_left (Ne.symm hk))]

/-- `pushforward f t` is exactly the table of fibre sums over the distinct images, in order of
first appearance. -/
theorem pushforward_eq (f : κ → κ') (t : Tab κ α) :
    pushforward f t
      = (dedup (t.map (fun r => f r.1))).map (fun x => (x, fibreSum f t x)) := by
  induction t using List.reverseRecOn with
  | nil => rfl
  | append_singleton t r ih =>
    have hkeys : keys ((dedup (t.map (fun r => f r.1))).map (fun x => (x, fibreSum f t x)))
        = dedup (t.map (fun r => f r.1)) := by
      rw [keys, List.map_map]; exact List.map_id _
    rw [Table.pushforward_concat, ih, List.map_append, List.map_singleton, Table.dedup_concat]
    simp only [fibreSum_append, fibreSum_single]
    by_cases hm : f r.1 ∈ t.map (fun r => f r.1)
    · rw [if_pos hm, accum_of_mem _ (by rw [hkeys]; exact Table.nodup_dedup _)
        (by rw [hkeys]; exact Table.mem_dedup.mpr hm), List.map_map]
      refine List.map_congr_left fun x _ => ?_
      by_cases hx : x = f r.1
      · simp only [Function.comp_apply, hx, if_true]
      · simp only [Function.comp_apply, hx, Ne.symm hx, if_false, add_zero]
    · rw [if_neg hm, accum_of_not_mem _ (by rw [hkeys, Table.mem_dedup]; exact hm),
        List.map_append, List.map_singleton, if_pos rfl,
        fibreSum_eq_zero f t _ fun r' hr' e => hm (List.mem_map.mpr ⟨r', hr', e⟩), zero_add]
      congr 1
      refine List.map_congr_left fun x hx => ?_
      rw [if_neg fun e => hm (by rw [e]; exact Table.mem_dedup.mp hx), add_zero]

theorem pushforward_val (f : κ → κ') (t : Tab κ α) (r : κ' × α) (hr : r ∈ pushforward f t) :
    r.2 = fibreSum f t r.1 := by
  rw [pushforward_eq] at hr
  obtain ⟨x, _, rfl⟩ := List.mem_map.mp hr
  rfl

theorem pushforward_inv (f : κ → κ') (t : Tab κ α) :
    (keys (pushforward f t)).Nodup ∧ (∀ r ∈ t, f r.1 ∈ keys (pushforward f t)) ∧
      (∀ r ∈ pushforward f t, r.2 = fibreSum f t r.1) := by
  rw [Table.keys_pushforward]
  exact ⟨Table.nodup_dedup _, fun r hr => Table.mem_dedup.mpr (List.mem_map_of_mem hr),
    pushforward_val f t⟩

end Push

/-! ### Shannon entropy of a list of reals -/

section Shannon

theorem log_two_pos : 0 < Real.log 2 := Real.log_pos one_lt_two

theorem plogp_zero {α : Type} [BEq α] [LawfulBEq α] [Zero α] [Mul α] (log : α → α) :
    plogp log (0 : α) = 0 := by
  simp [plogp]

/-- Over `ℝ` the zero test of `plogp` is redundant, whatever `log 0` is. -/
theorem plogp_eq_mul (log : ℝ → ℝ) (p : ℝ) : plogp log p = p * log p :=
  ite_eq_right_iff.mpr fun h => by rw [beq_iff_eq.mp h, zero_mul]

theorem entropyVals_eq_sum_plogp (log : ℝ → ℝ) (ps : List ℝ) :
    entropyVals log ps = -(ps.map (plogp log)).sum := by
  unfold entropyVals; rw [lsum_eq_sum]

theorem entropyVals_eq_sum_mul (log : ℝ → ℝ) (ps : List ℝ) :
    entropyVals log ps = -(ps.map (fun p => p * log p)).sum := by
  rw [entropyVals_eq_sum_plogp, funext (plogp_eq_mul log)]

theorem entropyVals_eq_sum (ps : List ℝ) :
    entropyVals (Real.logb 2) ps = -(ps.map (fun p => p * Real.logb 2 p)).sum :=
  entropyVals_eq_sum_mul _ ps

theorem entropyVals_perm (log : ℝ → ℝ) {ps qs : List ℝ} (h : ps.Perm qs) :
    entropyVals log ps = entropyVals log qs := by
  rw [entropyVals_eq_sum_plogp, entropyVals_eq_sum_plogp, (h.map _).sum_eq]

theorem supportSize_cons (p : ℝ) (ps : List ℝ) :
    supportSize (p :: ps) = if p = 0 then supportSize ps else supportSize ps + 1 := by
  unfold supportSize
  by_cases h : p = 0 <;> simp [h]

theorem list_sum_nonpos (l : List ℝ) (h : ∀ x ∈ l, x ≤ 0) : l.sum ≤ 0 := by
  induction l with
  | nil => simp
  | cons x t ih =>
    rw [List.sum_cons]
    have := h x List.mem_cons_self
    have := ih (fun y hy => h y (List.mem_cons_of_mem _ hy))
    linarith

theorem list_sum_map_div (l : List ℝ) (g : ℝ → ℝ) (c : ℝ) :
    (l.map (fun x => g x / c)).sum = (l.map g).sum / c := by
  induction l with
  | nil => simp
  | cons x t ih => simp only [List.map_cons, List.sum_cons, ih]; ring

theorem entropy_nonneg (ps : List ℝ) (h : ∀ p ∈ ps, 0 ≤ p ∧ p ≤ 1) :
    0 ≤ entropyVals (Real.logb 2) ps := by
  rw [entropyVals_eq_sum, neg_nonneg]
  refine list_sum_nonpos _ fun x hx => ?_
  obtain ⟨p, hp, rfl⟩ := List.mem_map.mp hx
  exact mul_nonpos_of_nonneg_of_nonpos (h p hp).1
    (Real.logb_nonpos (by norm_num) (h p hp).1 (h p hp).2)

/-- One term of Gibbs' inequality: `p − q ≤ p ln (p/q)`, from `1 − 1/x ≤ ln x` at `x = p/q`. -/
theorem sub_le_mul_log_div {p q : ℝ} (hp : 0 < p) (hq : 0 < q) :
    p - q ≤ p * Real.log (p / q) := by
  have h := mul_le_mul_of_nonneg_left (Real.one_sub_inv_le_log_of_pos (div_pos hp hq)) hp.le
  rwa [inv_div, mul_sub, mul_one, mul_div_cancel₀ _ hp.ne'] at h

/-- One term of the bound `H ≤ log c`: Gibbs' term inequality against the constant `1 / c`. -/
theorem neg_mul_log_le {c p : ℝ} (hc : 0 < c) (hp : 0 < p) :
    -(p * Real.log p) ≤ p * Real.log c + (1 / c - p) := by
  have := sub_le_mul_log_div hp (one_div_pos.mpr hc)
  rw [div_div_eq_mul_div, div_one, Real.log_mul hp.ne' hc.ne'] at this
  rw [← sub_nonneg]
  exact (sub_nonneg.mpr this).trans_eq (by ring)

theorem entropy_le_aux (c : ℝ) (hc : 0 < c) (ps : List ℝ) (h : ∀ p ∈ ps, 0 ≤ p) :
    -(ps.map (fun p => p * Real.log p)).sum
      ≤ ps.sum * Real.log c + ((supportSize ps : ℝ) / c - ps.sum) := by
  induction ps with
  | nil => simp [supportSize]
  | cons p ps ih =>
    have ih' := ih fun q hq => h q (List.mem_cons_of_mem _ hq)
    rw [supportSize_cons, List.map_cons, List.sum_cons, List.sum_cons]
    rcases (h p List.mem_cons_self).eq_or_lt with h0 | hpos
    · rw [← h0, if_pos rfl, zero_mul, zero_add, zero_add]
      exact ih'
    · rw [if_neg hpos.ne', Nat.cast_succ, add_div]
      refine (neg_add _ _).trans_le ((add_le_add (neg_mul_log_le hc hpos) ih').trans_eq ?_)
      ring

theorem entropyVals_eq_log (ps : List ℝ) :
    entropyVals (Real.logb 2) ps = -(ps.map (fun p => p * Real.log p)).sum / Real.log 2 := by
  rw [entropyVals_eq_sum, neg_div, ← list_sum_map_div]
  congr 2
  apply List.map_congr_left
  intro p _
  rw [← Real.log_div_log, mul_div_assoc]

theorem supportSize_pos (ps : List ℝ) (h : ps.sum ≠ 0) : 0 < supportSize ps := by
  induction ps with
  | nil => simp at h
  | cons p ps ih =>
    rw [supportSize_cons]
    by_cases hp : p = 0
    · subst hp; simpa using ih (by simpa using h)
    · simp [hp]

theorem entropy_le_log_card (ps : List ℝ) (h : ∀ p ∈ ps, 0 ≤ p) (hs : ps.sum = 1) :
    entropyVals (Real.logb 2) ps ≤ Real.logb 2 (supportSize ps) := by
  have hk : 0 < supportSize ps := supportSize_pos ps (by rw [hs]; exact one_ne_zero)
  have hc : (0 : ℝ) < supportSize ps := by exact_mod_cast hk
  have := entropy_le_aux _ hc ps h
  rw [hs, div_self hc.ne', sub_self, add_zero, one_mul] at this
  rw [entropyVals_eq_log, ← Real.log_div_log]
  exact div_le_div_of_nonneg_right this log_two_pos.le

end Shannon

/-! ### `project`: equality of projections is pointwise equality on the index set -/

section Project
variable {σ : Type}

theorem length_project_le (S : List Nat) (o o' : List σ) (h : o'.length ≤ o.length) :
    (project S o').length ≤ (project S o).length := by
  induction S with
  | nil => exact le_rfl
  | cons i S ih =>
    by_cases hi : i < o'.length
    · rw [Table.project_cons_of_lt hi, Table.project_cons_of_lt (hi.trans_le h)]
      exact Nat.succ_le_succ ih
    · rw [Table.project_cons i S o', List.getElem?_eq_none (not_lt.mp hi), Table.project_cons]
      rcases o[i]? with _ | x
      · exact ih
      · exact ih.trans (Nat.le_succ _)

theorem project_ne_cons (S : List Nat) {o o' : List σ} {i : Nat} {y : σ}
    (h1 : o[i]? = none) (h2 : o'[i]? = some y) : project S o ≠ y :: project S o' := by
  intro h
  have hl : o.length ≤ o'.length :=
    (List.getElem?_eq_none_iff.mp h1).trans (List.getElem?_eq_some_iff.mp h2).1.le
  have := length_project_le S o' o hl
  rw [h, List.length_cons] at this
  exact Nat.not_succ_le_self _ this

theorem project_eq_iff (S : List Nat) (o o' : List σ) :
    project S o = project S o' ↔ ∀ i ∈ S, o[i]? = o'[i]? := by
  constructor
  · induction S with
    | nil => simp
    | cons i S ih =>
      intro h
      rw [Table.project_cons, Table.project_cons] at h
      rw [List.forall_mem_cons]
      rcases h1 : o[i]? with _ | x <;> rcases h2 : o'[i]? with _ | y <;> rw [h1, h2] at h
      · exact ⟨rfl, ih h⟩
      · exact absurd h (project_ne_cons S h1 h2)
      · exact absurd h.symm (project_ne_cons S h2 h1)
      · exact ⟨congrArg some (List.cons.inj h).1, ih (List.cons.inj h).2⟩
  · intro h
    exact List.filterMap_congr h

theorem project_union_eq_iff {S X Y : List Nat} (h : ∀ v, v ∈ S ↔ v ∈ X ∨ v ∈ Y) (o o' : List σ) :
    project S o = project S o' ↔ project X o = project X o' ∧ project Y o = project Y o' := by
  simp only [project_eq_iff, h, or_imp, forall_and]

theorem project_vunion_eq_iff (X Y : List Nat) (o o' : List σ) :
    project (vunion X Y) o = project (vunion X Y) o'
      ↔ project X o = project X o' ∧ project Y o = project Y o' :=
  project_union_eq_iff (mem_vunion X Y) o o'

theorem project_eq_of_subset {S S' : List Nat} (hS : ∀ v ∈ S', v ∈ S) {o o' : List σ}
    (h : project S o = project S o') : project S' o = project S' o' := by
  rw [project_eq_iff] at h ⊢
  exact fun v hv => h v (hS v hv)

theorem project_eq_of_union {S A B : List Nat} (hS : ∀ v ∈ S, v ∈ A ∨ v ∈ B) {o o' : List σ}
    (hA : project A o = project A o') (hB : project B o = project B o') :
    project S o = project S o' := by
  rw [project_eq_iff] at hA hB ⊢
  exact fun v hv => (hS v hv).elim (hA v) (hB v)

end Project

/-! ### The core inequality: `I(X:Y|Z) ≥ 0` for class masses of a weighted finite set -/

section Core
open Finset

/-- One term of the core inequality, for a weight `w` below the four masses: `ln x ≤ x − 1` at
`x = B C / (A D)`, times `w`. -/
theorem log_term {w A B C D : ℝ} (hw : 0 ≤ w) (hA : w ≤ A) (hB : w ≤ B) (hC : w ≤ C)
    (hD : w ≤ D) :
    w - w * B * C / (A * D) ≤ w * (Real.log A + Real.log D - Real.log B - Real.log C) := by
  rcases hw.eq_or_lt with rfl | hpos
  · rw [zero_mul, zero_mul, zero_mul, zero_div, sub_zero]
  · have pA := hpos.trans_le hA
    have pB := hpos.trans_le hB
    have pC := hpos.trans_le hC
    have pD := hpos.trans_le hD
    have h := Real.log_le_sub_one_of_pos (x := B * C / (A * D)) (by positivity)
    rw [Real.log_div (by positivity) (by positivity), Real.log_mul pB.ne' pC.ne',
      Real.log_mul pA.ne' pD.ne'] at h
    calc w - w * B * C / (A * D) = w * (1 - B * C / (A * D)) := by ring
      _ ≤ _ := mul_le_mul_of_nonneg_left (by linarith) hpos.le

variable {ι : Type} [Fintype ι]

/-- Mass of the `f`-class of `i`. -/
noncomputable def cm {β : Type} [DecidableEq β] (w : ι → ℝ) (f : ι → β) (i : ι) : ℝ :=
  ∑ j, if f j = f i then w j else 0

variable {β β₁ β₂ β₃ β₄ : Type} [DecidableEq β] [DecidableEq β₁] [DecidableEq β₂]
  [DecidableEq β₃] [DecidableEq β₄] {w : ι → ℝ} (hw : ∀ i, 0 ≤ w i)
include hw

omit hw in
theorem cm_congr_cls (f : ι → β) {i j : ι} (h : f i = f j) : cm w f i = cm w f j := by
  unfold cm; rw [h]

omit hw in
theorem cm_congr_equiv (w : ι → ℝ) (a : ι → β₁) (b : ι → β₂) (i : ι)
    (h : ∀ j, a j = a i ↔ b j = b i) : cm w a i = cm w b i :=
  Finset.sum_congr rfl fun j _ => if_congr (h j) rfl rfl

theorem le_cm (f : ι → β) (i : ι) : w i ≤ cm w f i := by
  unfold cm
  have h := Finset.single_le_sum (f := fun j => if f j = f i then w j else 0)
    (fun j _ => by split; exact hw j; exact le_rfl) (Finset.mem_univ i)
  rwa [if_pos rfl] at h

theorem cm_nonneg (f : ι → β) (i : ι) : 0 ≤ cm w f i := (hw i).trans (le_cm hw f i)

/-- A set of indices inside one `a`-class carries at most the whole class. -/
theorem sum_div_cm_le_one (a : ι → β) (q : ι → Prop) [DecidablePred q]
    (hq : ∀ i j, q i → q j → a i = a j) :
    ∑ i, (if q i then w i / cm w a i else 0) ≤ 1 := by
  by_cases h : ∃ i0, q i0
  · obtain ⟨i0, h0⟩ := h
    have e : ∀ i ∈ Finset.univ, (if q i then w i / cm w a i else 0)
        = (if q i then w i else 0) / cm w a i0 := by
      intro i _
      split
      · rename_i hi; rw [cm_congr_cls a (hq i i0 hi h0)]
      · simp
    rw [Finset.sum_congr rfl e, ← Finset.sum_div]
    apply div_le_one_of_le₀ _ (cm_nonneg hw a i0)
    unfold cm
    apply Finset.sum_le_sum
    intro i _
    by_cases hi : q i
    · rw [if_pos hi, if_pos (hq i i0 hi h0)]
    · rw [if_neg hi]; split; exact hw i; exact le_rfl
  · have : ∀ i ∈ Finset.univ, (if q i then w i / cm w a i else 0) = 0 := by
      intro i _; rw [if_neg (fun hi => h ⟨i, hi⟩)]
    rw [Finset.sum_eq_zero this]; exact zero_le_one

variable (a : ι → β₁) (b : ι → β₂) (c : ι → β₃) (d : ι → β₄) (Q : ι → Prop) [DecidablePred Q]

/-- The indices of `Q` in the `b`-class of `j` and the `c`-class of `k` lie in one `a`-class, and
there are none unless `k` is in `Q` and `j`, `k` are in one `d`-class. -/
theorem key_le (hQ : ∀ i j, c i = c j → Q i → Q j)
    (hbd : ∀ i j, b i = b j → d i = d j) (hcd : ∀ i j, c i = c j → d i = d j)
    (hbc : ∀ i j, b i = b j → c i = c j → a i = a j) (j k : ι) :
    ∑ i, (if Q i ∧ b i = b j ∧ c i = c k then w i / cm w a i else 0)
      ≤ if Q k ∧ d j = d k then 1 else 0 := by
  by_cases hd : Q k ∧ d j = d k
  · rw [if_pos hd]
    exact sum_div_cm_le_one hw a (fun i => Q i ∧ b i = b j ∧ c i = c k)
      (fun i i' hi hi' => hbc i i' (hi.2.1.trans hi'.2.1.symm) (hi.2.2.trans hi'.2.2.symm))
  · rw [if_neg hd]
    refine (Finset.sum_eq_zero fun i _ => if_neg ?_).le
    rintro ⟨hi, h1, h2⟩
    exact hd ⟨hQ i k h2 hi, (hbd _ _ h1).symm.trans (hcd _ _ h2)⟩

omit hw in
theorem term_expand (hbd : ∀ i j, b i = b j → d i = d j) (i : ι) :
    (if Q i then w i * cm w b i * cm w c i / (cm w a i * cm w d i) else 0)
      = ∑ j, ∑ k, (if Q i ∧ b i = b j ∧ c i = c k then w i / cm w a i else 0)
          * (w j * w k / cm w d j) := by
  by_cases hi : Q i
  swap
  · simp only [hi, false_and, if_false, zero_mul, Finset.sum_const_zero]
  simp only [hi, true_and, if_true]
  have e1 : w i * cm w b i * cm w c i / (cm w a i * cm w d i)
      = (w i / cm w a i / cm w d i) * (cm w b i * cm w c i) := by ring
  have e2 : cm w b i * cm w c i
      = ∑ j, ∑ k, (if b j = b i then w j else 0) * (if c k = c i then w k else 0) := by
    unfold cm; rw [Finset.sum_mul_sum]
  rw [e1, e2, Finset.mul_sum]
  apply Finset.sum_congr rfl
  intro j _
  rw [Finset.mul_sum]
  apply Finset.sum_congr rfl
  intro k _
  rw [ite_zero_mul_ite_zero]
  by_cases h : b j = b i ∧ c k = c i
  · rw [if_pos h, if_pos ⟨h.1.symm, h.2.symm⟩, cm_congr_cls d (hbd j i h.1)]
    ring
  · rw [if_neg h, if_neg fun h' => h ⟨h'.1.symm, h'.2.symm⟩, mul_zero, zero_mul]

theorem core_T_le (hQ : ∀ i j, c i = c j → Q i → Q j)
    (hbd : ∀ i j, b i = b j → d i = d j) (hcd : ∀ i j, c i = c j → d i = d j)
    (hbc : ∀ i j, b i = b j → c i = c j → a i = a j) :
    ∑ i, (if Q i then w i * cm w b i * cm w c i / (cm w a i * cm w d i) else 0)
      ≤ ∑ i, (if Q i then w i else 0) := by
  have hjk : ∀ j k,
      ∑ i, (if Q i ∧ b i = b j ∧ c i = c k then w i / cm w a i else 0) * (w j * w k / cm w d j)
        ≤ (if d j = d k then w j / cm w d j else 0) * (if Q k then w k else 0) := by
    intro j k
    rw [← Finset.sum_mul]
    refine (mul_le_mul_of_nonneg_right (key_le hw a b c d Q hQ hbd hcd hbc j k)
      (div_nonneg (mul_nonneg (hw j) (hw k)) (cm_nonneg hw d j))).trans_eq ?_
    rw [ite_zero_mul_ite_zero]
    by_cases h : Q k ∧ d j = d k
    · rw [if_pos h, if_pos h.symm]
      ring
    · rw [if_neg h, if_neg fun h' => h h'.symm, zero_mul]
  rw [Finset.sum_congr rfl fun i _ => term_expand a b c d Q hbd i, Finset.sum_comm]
  refine (Finset.sum_le_sum fun j _ =>
    Finset.sum_comm.trans_le (Finset.sum_le_sum fun k _ => hjk j k)).trans ?_
  rw [Finset.sum_comm]
  refine Finset.sum_le_sum fun k _ => ?_
  rw [← Finset.sum_mul]
  exact mul_le_of_le_one_left (by split; exact hw k; exact le_rfl)
    (sum_div_cm_le_one hw d (fun j => d j = d k) fun _ _ hi hj => hi.trans hj.symm)

/-- **Core inequality**, in nats: the conditional mutual information of class masses is
non-negative, also when summed only over a union `Q` of `c`-classes. Here `d` is a function of `b`
and of `c`, and `a` is a function of the pair `(b, c)`. -/
theorem core_log (hQ : ∀ i j, c i = c j → Q i → Q j)
    (hbd : ∀ i j, b i = b j → d i = d j) (hcd : ∀ i j, c i = c j → d i = d j)
    (hbc : ∀ i j, b i = b j → c i = c j → a i = a j) :
    0 ≤ ∑ i, (if Q i then w i * (Real.log (cm w a i) + Real.log (cm w d i)
                      - Real.log (cm w b i) - Real.log (cm w c i)) else 0) := by
  refine (sub_nonneg.mpr (core_T_le hw a b c d Q hQ hbd hcd hbc)).trans ?_
  rw [← Finset.sum_sub_distrib]
  refine Finset.sum_le_sum fun i _ => ?_
  by_cases hi : Q i
  · rw [if_pos hi, if_pos hi, if_pos hi]
    exact log_term (hw i) (le_cm hw a i) (le_cm hw b i) (le_cm hw c i) (le_cm hw d i)
  · rw [if_neg hi, if_neg hi, if_neg hi, sub_zero]

theorem core_logb_on (hQ : ∀ i j, c i = c j → Q i → Q j)
    (hbd : ∀ i j, b i = b j → d i = d j) (hcd : ∀ i j, c i = c j → d i = d j)
    (hbc : ∀ i j, b i = b j → c i = c j → a i = a j) :
    0 ≤ ∑ i, (if Q i then w i * (Real.logb 2 (cm w a i) + Real.logb 2 (cm w d i)
                      - Real.logb 2 (cm w b i) - Real.logb 2 (cm w c i)) else 0) := by
  refine (div_nonneg (core_log hw a b c d Q hQ hbd hcd hbc)
    log_two_pos.le).trans_eq ?_
  simp only [Finset.sum_div, ite_div, zero_div, Real.logb, mul_div_assoc, add_div, sub_div]

/-- The core inequality in bits, summed over all indices: `H(a) + H(d) ≤ H(b) + H(c)` for the
entropies `−Σ w log₂ (class mass)`. -/
theorem core_logb (hbd : ∀ i j, b i = b j → d i = d j) (hcd : ∀ i j, c i = c j → d i = d j)
    (hbc : ∀ i j, b i = b j → c i = c j → a i = a j) :
    -∑ i, w i * Real.logb 2 (cm w a i) + -∑ i, w i * Real.logb 2 (cm w d i)
      ≤ -∑ i, w i * Real.logb 2 (cm w b i) + -∑ i, w i * Real.logb 2 (cm w c i) := by
  have h := core_logb_on hw a b c d (fun _ => True) (fun _ _ _ h => h) hbd hcd hbc
  simp only [if_true, mul_add, mul_sub, Finset.sum_add_distrib, Finset.sum_sub_distrib] at h
  linarith

end Core

/-! ### Entropy of the image of a table under a map, and of a marginal -/

/-- Entropy (bits) of the law of `f` under the table `t`. -/
noncomputable def _root_.Dit.Lemmas.Meet.Hmap {κ κ₁ : Type} [DecidableEq κ₁] (f : κ → κ₁)
    (t : Tab κ ℝ) : ℝ :=
  entropyVals (Real.logb 2) (vals (pushforward f t))

open Dit.Lemmas.Meet (Hmap)

section Hmap
variable {κ κ₁ κ₂ κ₃ κ₄ : Type} [DecidableEq κ₁] [DecidableEq κ₂] [DecidableEq κ₃]
  [DecidableEq κ₄]

theorem Hmap_rows (f : κ → κ₁) (t : Tab κ ℝ) :
    Hmap f t = -(t.map (fun r => r.2 * Real.logb 2 (fibreSum f t (f r.1)))).sum := by
  unfold Hmap
  rw [entropyVals_eq_sum, vals, List.map_map]
  congr 1
  rw [← sum_pushforward (fun k v => v * Real.logb 2 (fibreSum f t k))
    (by intro k v v'; ring) f t]
  congr 1
  apply List.map_congr_left
  intro r hr
  simp only [Function.comp_apply]
  rw [← pushforward_val f t r hr]

/-- The weights of the rows, indexed by position. (Here and below the bound `j.2` is written out:
the default search for it is slow to check.) -/
def wOf (t : Tab κ ℝ) : Fin t.length → ℝ := fun j => (t[j.1]'j.2).2

def atRow (f : κ → κ₁) (t : Tab κ ℝ) : Fin t.length → κ₁ := fun j => f (t[j.1]'j.2).1

theorem mem_keys_getElem (t : Tab κ ℝ) (i : Fin t.length) : (t[i.1]'i.2).1 ∈ keys t :=
  List.mem_map_of_mem (List.getElem_mem i.2)

theorem wOf_nonneg {t : Tab κ ℝ} (hnn : ∀ r ∈ t, 0 ≤ r.2) (i : Fin t.length) : 0 ≤ wOf t i :=
  hnn _ (List.getElem_mem i.2)

theorem fibreSum_eq_cm (f : κ → κ₁) (t : Tab κ ℝ) (i : Fin t.length) :
    fibreSum f t (atRow f t i) = cm (wOf t) (atRow f t) i := by
  rw [fibreSum_eq_ite]
  exact (Fin.sum_univ_fun_getElem t fun r => if f r.1 = atRow f t i then r.2 else 0).symm

theorem Hmap_fin (f : κ → κ₁) (t : Tab κ ℝ) :
    Hmap f t = -∑ i : Fin t.length, wOf t i * Real.logb 2 (cm (wOf t) (atRow f t) i) := by
  rw [Hmap_rows, ← Fin.sum_univ_fun_getElem]
  congr 1
  apply Finset.sum_congr rfl
  intro i _
  exact congrArg (wOf t i * Real.logb 2 ·) (fibreSum_eq_cm f t i)

/-- **Conditional mutual information is non-negative, for maps**: if `d` is a function of `b` and
of `c`, and `a` is a function of the pair `(b, c)` on the stored outcomes of a table with
non-negative values, then `H(a) + H(d) ≤ H(b) + H(c)`. -/
theorem Hmap_submod (a : κ → κ₁) (b : κ → κ₂) (c : κ → κ₃) (d : κ → κ₄) (t : Tab κ ℝ)
    (hnn : ∀ r ∈ t, 0 ≤ r.2)
    (hbd : ∀ k ∈ keys t, ∀ k' ∈ keys t, b k = b k' → d k = d k')
    (hcd : ∀ k ∈ keys t, ∀ k' ∈ keys t, c k = c k' → d k = d k')
    (hbc : ∀ k ∈ keys t, ∀ k' ∈ keys t, b k = b k' → c k = c k' → a k = a k') :
    Hmap a t + Hmap d t ≤ Hmap b t + Hmap c t := by
  rw [Hmap_fin, Hmap_fin, Hmap_fin, Hmap_fin]
  exact core_logb (wOf_nonneg hnn) (atRow a t) (atRow b t) (atRow c t) (atRow d t)
    (fun i j => hbd _ (mem_keys_getElem t i) _ (mem_keys_getElem t j))
    (fun i j => hcd _ (mem_keys_getElem t i) _ (mem_keys_getElem t j))
    (fun i j => hbc _ (mem_keys_getElem t i) _ (mem_keys_getElem t j))

end Hmap

section Marginal
variable {σ : Type} [DecidableEq σ]

theorem entropyOf_eq_Hmap (t : Tab (List σ) ℝ) (X : List Nat) :
    entropyOf (Real.logb 2) t X = Hmap (project X) t := rfl

theorem entropyOf_rows (t : Tab (List σ) ℝ) (X : List Nat) :
    entropyOf (Real.logb 2) t X
      = -(t.map (fun r =>
          r.2 * Real.logb 2 (fibreSum (project X) t (project X r.1)))).sum :=
  Hmap_rows (project X) t

/-- Mass of the `X`-class of row `i`: the rows with the same projection on `X`. -/
noncomputable def rowMass (t : Tab (List σ) ℝ) (X : List Nat) (i : Fin t.length) : ℝ :=
  ∑ j : Fin t.length, if project X t[j.1].1 = project X t[i.1].1 then t[j.1].2 else 0

theorem rowMass_eq_cm (t : Tab (List σ) ℝ) (S : List Nat) (i : Fin t.length) :
    rowMass t S i
      = cm (fun j : Fin t.length => t[j.1].2) (fun j : Fin t.length => project S t[j.1].1) i :=
  rfl

theorem fibreSum_eq_rowMass (t : Tab (List σ) ℝ) (X : List Nat) (i : Fin t.length) :
    fibreSum (project X) t (project X (t[i.1]'i.2).1) = rowMass t X i :=
  fibreSum_eq_cm (project X) t i

/-- **Shannon inequality for four marginals** of a table with non-negative values:
`H(A) + H(D) ≤ H(B) + H(C)` whenever `D ⊆ B`, `D ⊆ C` and `A ⊆ B ∪ C`. -/
theorem entropyOf_add_le (t : Tab (List σ) ℝ) (hnn : ∀ r ∈ t, 0 ≤ r.2) {A B C D : List Nat}
    (hDB : ∀ v ∈ D, v ∈ B) (hDC : ∀ v ∈ D, v ∈ C) (hA : ∀ v ∈ A, v ∈ B ∨ v ∈ C) :
    entropyOf (Real.logb 2) t A + entropyOf (Real.logb 2) t D
      ≤ entropyOf (Real.logb 2) t B + entropyOf (Real.logb 2) t C :=
  Hmap_submod (project A) (project B) (project C) (project D) t hnn
    (fun _ _ _ _ => project_eq_of_subset hDB) (fun _ _ _ _ => project_eq_of_subset hDC)
    (fun _ _ _ _ => project_eq_of_union hA)

/-- **Conditional mutual information is non-negative** for the marginals of any table with
non-negative values: `H(X∪Z) + H(Y∪Z) − H(X∪Y∪Z) − H(Z) ≥ 0`. -/
theorem entropy_submod (t : Tab (List σ) ℝ) (hnn : ∀ r ∈ t, 0 ≤ r.2) (X Y Z : List Nat) :
    0 ≤ entropyOf (Real.logb 2) t (vunion X Z) + entropyOf (Real.logb 2) t (vunion Y Z)
        - entropyOf (Real.logb 2) t (vunion (vunion X Y) Z)
        - entropyOf (Real.logb 2) t (vnorm Z) := by
  have := entropyOf_add_le t hnn (A := vunion (vunion X Y) Z) (B := vunion X Z)
    (C := vunion Y Z) (D := vnorm Z)
    (fun v hv => subset_vunion_right X Z v ((mem_vnorm Z v).mp hv))
    (fun v hv => subset_vunion_right Y Z v ((mem_vnorm Z v).mp hv))
    (fun v hv => by
      simp only [mem_vunion] at hv ⊢
      rcases hv with (hv | hv) | hv
      · exact Or.inl (Or.inl hv)
      · exact Or.inr (Or.inl hv)
      · exact Or.inl (Or.inr hv))
  linarith

theorem entropy_Submod (t : Tab (List σ) ℝ) (hnn : ∀ r ∈ t, 0 ≤ r.2) :
    Submod (entropyOf (Real.logb 2) t) := by
  intro X Y Z
  have := entropy_submod t hnn X Y Z
  unfold Hc
  linarith

end Marginal

/-! ### Gibbs' inequality; the Rényi / Tsallis family -/

section Gibbs
variable {ι : Type}

/-- Gibbs' inequality in nats, with `Σq ≤ Σp` allowed. -/
theorem gibbs_log (s : Finset ι) (p q : ι → ℝ) (hp : ∀ i ∈ s, 0 ≤ p i) (hq : ∀ i ∈ s, 0 ≤ q i)
    (hac : ∀ i ∈ s, q i = 0 → p i = 0) :
    ∑ i ∈ s, p i - ∑ i ∈ s, q i ≤ ∑ i ∈ s, p i * Real.log (p i / q i) := by
  rw [← Finset.sum_sub_distrib]
  apply Finset.sum_le_sum
  intro i hi
  rcases (hp i hi).eq_or_lt with h0 | hpos
  · rw [← h0]; simpa using hq i hi
  · have hqpos : 0 < q i := by
      rcases (hq i hi).eq_or_lt with h | h
      · exact absurd (hac i hi h.symm) hpos.ne'
      · exact h
    exact sub_le_mul_log_div hpos hqpos

theorem gibbs (s : Finset ι) (p q : ι → ℝ) (hp : ∀ i ∈ s, 0 ≤ p i) (hq : ∀ i ∈ s, 0 ≤ q i)
    (hsum : ∑ i ∈ s, q i ≤ ∑ i ∈ s, p i) (hac : ∀ i ∈ s, q i = 0 → p i = 0) :
    0 ≤ ∑ i ∈ s, p i * Real.logb 2 (p i / q i) := by
  have h := div_nonneg ((sub_nonneg.mpr hsum).trans (gibbs_log s p q hp hq hac))
    log_two_pos.le
  simpa only [Finset.sum_div, mul_div_assoc, Real.log_div_log] using h

end Gibbs

section Renyi

/-- The real instance of the transcendental operations used by the entropy family. -/
noncomputable def realOps : RealOps ℝ :=
  ⟨Real.logb 2, fun x a => x ^ a, fun n => (n : ℝ), Real.logb 2 (Real.exp 1)⟩

theorem filter_ne_zero (ps : List ℝ) :
    ps.filter (fun p => !(p == 0)) = ps.filter (fun p => decide (p ≠ 0)) := by
  apply List.filter_congr
  intro p _
  by_cases h : p = 0 <;> simp [h]

theorem renyi_inf (ps : List ℝ) :
    renyiVals realOps .inf ps = -Real.logb 2 (lmax ps) := rfl

theorem renyi_zero (ps : List ℝ) :
    renyiVals realOps (.fin 0) ps = Real.logb 2 (supportSize ps) := by
  simp [renyiVals, realOps]

theorem renyi_one (ps : List ℝ) :
    renyiVals realOps (.fin 1) ps = entropyVals (Real.logb 2) ps := by
  simp [renyiVals, realOps]

theorem sum_rpow_filter (a : ℝ) (ha : 0 < a) (ps : List ℝ) :
    ((ps.filter (fun p => decide (p ≠ 0))).map (· ^ a)).sum = (ps.map (· ^ a)).sum := by
  apply sum_map_filter_of_zero
  intro x _ hx
  have : x = 0 := by simpa using hx
  rw [this, Real.zero_rpow ha.ne']

theorem sum_rpow_one_support (ps : List ℝ) :
    ((ps.filter (fun p => decide (p ≠ 0))).map (· ^ (1 : ℝ))).sum = ps.sum := by
  rw [sum_rpow_filter 1 one_pos]
  simp only [Real.rpow_one, List.map_id']

/-- Tsallis entropy of order 1 is the Shannon entropy in nats. -/
theorem tsallis_one (ps : List ℝ) :
    tsallisVals realOps 1 ps = -(ps.map (fun p => p * Real.log p)).sum := by
  have hl : Real.log 2 ≠ 0 := log_two_pos.ne'
  simp only [tsallisVals, realOps, beq_self_eq_true, if_true]
  rw [entropyVals_eq_log, ← Real.log_div_log, Real.log_exp]
  field_simp

end Renyi

/-! ### The entropy of a marginal depends only on the set of variables -/

section Congr
variable {σ : Type} [DecidableEq σ]

theorem entropyOf_congr (t : Tab (List σ) ℝ) {X X' : List Nat} (h : ∀ v, v ∈ X ↔ v ∈ X') :
    entropyOf (Real.logb 2) t X = entropyOf (Real.logb 2) t X' := by
  simp only [entropyOf_rows, fibreSum_eq_ite, project_eq_iff, h]

theorem entropyOf_vnorm (t : Tab (List σ) ℝ) (X : List Nat) :
    entropyOf (Real.logb 2) t X = entropyOf (Real.logb 2) t (vnorm X) :=
  entropyOf_congr t (fun v => (mem_vnorm X v).symm)

theorem entropyOf_nil (t : Tab (List σ) ℝ) (h : (t.map (·.2)).sum = 1) :
    entropyOf (Real.logb 2) t [] = 0 := by
  rw [entropyOf_rows]
  have : ∀ r : List σ × ℝ, fibreSum (project []) t (project [] r.1) = 1 := by
    intro r
    rw [fibreSum_eq_ite, ← h]
    congr 1
  simp [this]

theorem Hc_entropyOf_nil (t : Tab (List σ) ℝ) (hmass : (t.map (·.2)).sum = 1) (X : List Nat) :
    Hc (entropyOf (Real.logb 2) t) X [] = entropyOf (Real.logb 2) t X := by
  unfold Hc
  rw [vunion_nil, ← entropyOf_vnorm]
  exact (congrArg _ (entropyOf_nil t hmass)).trans (sub_zero _)

end Congr

/-! ### The derivative of the power sum, for the limits `a → 1` -/

section Limit

theorem hasDerivAt_sum_rpow (l : List ℝ) (hl : ∀ p ∈ l, 0 < p) (x : ℝ) :
    HasDerivAt (fun a => (l.map (fun p => p ^ a)).sum)
      (l.map (fun p => p ^ x * Real.log p)).sum x := by
  induction l with
  | nil => simpa using hasDerivAt_const x (0 : ℝ)
  | cons p l ih =>
    simp only [List.map_cons, List.sum_cons]
    exact ((Real.hasStrictDerivAt_const_rpow (hl p List.mem_cons_self) x).hasDerivAt).add
      (ih (fun q hq => hl q (List.mem_cons_of_mem _ hq)))

theorem hasDerivAt_sum_rpow_support (ps : List ℝ) (hnn : ∀ p ∈ ps, 0 ≤ p) :
    HasDerivAt (fun a : ℝ => ((ps.filter (fun p => decide (p ≠ 0))).map (fun p => p ^ a)).sum)
      (ps.map (fun p => p * Real.log p)).sum 1 := by
  have hpos : ∀ p ∈ ps.filter (fun p => decide (p ≠ 0)), 0 < p := fun p hp =>
    lt_of_le_of_ne (hnn p (List.mem_filter.mp hp).1)
      (Ne.symm (of_decide_eq_true (List.mem_filter.mp hp).2))
  have h := hasDerivAt_sum_rpow _ hpos 1
  simp only [Real.rpow_one] at h
  rwa [sum_map_filter_of_zero _ _ _ fun x _ hx => by
    rw [not_not.mp (of_decide_eq_false hx), zero_mul]] at h

end Limit

end Dit.Lemmas.InfoReal
