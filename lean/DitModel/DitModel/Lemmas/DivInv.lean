/-
Helper lemmas for the C08 invariance statements about the divergences of `Core/Diverge.lean`
that are not covered in Props/C08.lean: Jensen–Shannon divergence of several tables, the sums over
the union alignment behind Hellinger distance and the power-sum family, the companion matrix /
characteristic polynomial of the maximum correlation, the cost of a transport plan. Property
theorems are in Props/C08Div.lean.
-/
import DitModel.Lemmas.Transform
import DitModel.Lemmas.Diverge

namespace Dit.Lemmas.DivInv
open Dit Dit.Lemmas.ListBasics Dit.Lemmas.Table Dit.Lemmas.Transform
open Dit.Lemmas.InfoReal (plogp_zero)

theorem map_range_eq_map {τ β : Type} (ys : List τ) (G : Nat → β) (g : τ → β)
    (h : ∀ k (hk : k < ys.length), G k = g (ys[k]'hk)) :
    (List.range ys.length).map G = ys.map g := by
  apply List.ext_getElem
  · simp
  · intro i h1 h2
    simp only [List.getElem_map, List.getElem_range]
    exact h i (by simpa using h2)

/-! ### Jensen–Shannon divergence of a family of columns

The pmfs are given as `items.map (fun t => L.map (F t))`: component `t` has the value `F t k` at
the label `k`, and all components are listed along the same labels `L`. -/

section Cols
variable {α ι κ : Type} [Ring α] [DecidableEq α]

def cols (F : ι → κ → α) (items : List ι) (L : List κ) : List (List α) :=
  items.map (fun t => L.map (F t))

set_option linter.unusedSectionVars false in
theorem cols_congr (F F' : ι → κ → α) (items : List ι) (L : List κ)
    (h : ∀ t ∈ items, ∀ k ∈ L, F t k = F' t k) : cols F items L = cols F' items L :=
  List.map_congr_left fun t ht => List.map_congr_left fun k hk => h t ht k hk

omit [DecidableEq α] in
theorem mixVals_cols (F : ι → κ → α) (items : List ι) (w : List α) (L : List κ)
    (hne : items ≠ []) :
    mixVals (cols F items L) w
      = L.map (fun k => (List.zipWith (fun t wi => wi * F t k) items w).sum) := by
  obtain ⟨t0, ts, rfl⟩ := List.exists_cons_of_ne_nil hne
  show (List.range (L.map (F t0)).length).map _ = _
  rw [List.length_map]
  apply map_range_eq_map
  intro k hk
  rw [lsum_eq_sum, cols, List.zipWith_map_left]
  exact congrArg List.sum
    (zipWith_congr_left _ _ _ _ fun t _ wi => by rw [getD_map_getElem _ L 0 hk])

theorem jsdVals_cols (log : α → α) (F : ι → κ → α) (items : List ι) (w : List α) (L : List κ) :
    jsdVals log (cols F items L) w
      = entropyVals log (L.map (fun k => (List.zipWith (fun t wi => wi * F t k) items w).sum))
        - (List.zipWith (fun t wi => wi * entropyVals log (L.map (F t))) items w).sum := by
  rw [jsdVals, lsum_eq_sum]
  refine congrArg₂ HSub.hSub ?_ ?_
  · by_cases hne : items = []
    · subst hne
      exact (entropyVals_append_zeros log [] _ fun z hz => by
        obtain ⟨k, _, rfl⟩ := List.mem_map.mp hz
        rfl).symm
    · rw [mixVals_cols F items w L hne]
  · rw [cols, List.zipWith_map_left]

omit [DecidableEq α] in
theorem sum_zipWith_mul_eq_zero (f : ι → α) (items : List ι) (w : List α)
    (h : ∀ t ∈ items, f t = 0) : (List.zipWith (fun t wi => wi * f t) items w).sum = 0 := by
  rw [← List.map_uncurry_zip_eq_zipWith]
  refine List.sum_eq_zero fun x hx => ?_
  obtain ⟨p, hp, rfl⟩ := List.mem_map.mp hx
  exact (congrArg (p.2 * ·) (h p.1 (List.of_mem_zip hp).1)).trans (mul_zero p.2)

variable [DecidableEq κ]

theorem entropyVals_map_of_nodup (log : α → α) (f : κ → α) {L L' : List κ} (hL : L.Nodup)
    (hL' : L'.Nodup) (h : ∀ k ∈ L, k ∉ L' → f k = 0) (h' : ∀ k ∈ L', k ∉ L → f k = 0) :
    entropyVals log (L.map f) = entropyVals log (L'.map f) := by
  rw [entropyVals_eq_neg_sum, entropyVals_eq_neg_sum, List.map_map, List.map_map]
  exact congrArg Neg.neg (sum_map_eq_of_nodup hL hL' _
    (fun k hk hn => (congrArg (plogp log) (h k hk hn)).trans (plogp_zero log))
    (fun k hk hn => (congrArg (plogp log) (h' k hk hn)).trans (plogp_zero log)))

theorem jsd_cols_of_nodup (log : α → α) (F : ι → κ → α) (items : List ι) (w : List α)
    {L L' : List κ} (hL : L.Nodup) (hL' : L'.Nodup)
    (h : ∀ k ∈ L, k ∉ L' → ∀ t ∈ items, F t k = 0)
    (h' : ∀ k ∈ L', k ∉ L → ∀ t ∈ items, F t k = 0) :
    jsdVals log (cols F items L) w = jsdVals log (cols F items L') w := by
  rw [jsdVals_cols, jsdVals_cols, entropyVals_map_of_nodup log _ hL hL'
      (fun k hk hn => sum_zipWith_mul_eq_zero _ items w (h k hk hn))
      (fun k hk hn => sum_zipWith_mul_eq_zero _ items w (h' k hk hn)),
    zipWith_congr_left _ _ items w fun t ht wi => by
      rw [entropyVals_map_of_nodup log (F t) hL hL' (fun k hk hn => h k hk hn t ht)
        (fun k hk hn => h' k hk hn t ht)]]

omit [DecidableEq κ] in
theorem jsd_cols_perm_items (log : α → α) (F : ι → κ → α) {l l' : List (ι × α)} (h : l.Perm l')
    (L : List κ) :
    jsdVals log (cols F (l.map Prod.fst) L) (l.map Prod.snd)
      = jsdVals log (cols F (l'.map Prod.fst) L) (l'.map Prod.snd) := by
  rw [jsdVals_cols, jsdVals_cols, Lemmas.Diverge.zipWith_fst_snd, Lemmas.Diverge.zipWith_fst_snd,
    (h.map _).sum_eq]
  congr 3
  funext k
  rw [Lemmas.Diverge.zipWith_fst_snd, Lemmas.Diverge.zipWith_fst_snd, (h.map _).sum_eq]

end Cols

/-! ### Several tables aligned over the union of their labels -/

section Many
variable {α ι κ κ' : Type} [DecidableEq κ] [DecidableEq κ']

/-- The labels of several tables, in order of first appearance (`alignUnion` for any number of
tables; for two tables these are the labels of `alignUnion`). -/
def unionKeys (ts : List (Tab κ α)) : List κ := dedup (ts.flatMap keys)

/-- Every table listed along the common labels (absent labels read `0`): the pmfs that
`jsdVals` / `mixVals` take. -/
def alignMany [Zero α] (ts : List (Tab κ α)) : List (List α) :=
  ts.map (fun t => (unionKeys ts).map (lookupD 0 t))

theorem mem_unionKeys {ts : List (Tab κ α)} {k : κ} :
    k ∈ unionKeys ts ↔ ∃ t ∈ ts, k ∈ keys t := by
  unfold unionKeys
  rw [mem_dedup, List.mem_flatMap]

theorem nodup_unionKeys (ts : List (Tab κ α)) : (unionKeys ts).Nodup := nodup_dedup _

variable [Ring α] [DecidableEq α]

omit [DecidableEq α] in
theorem lookupD_of_not_mem_unionKeys {ts : List (Tab κ α)} {k : κ}
    (hk : k ∉ unionKeys ts) {t : Tab κ α} (ht : t ∈ ts) : lookupD 0 t k = 0 :=
  lookupD_of_not_mem 0 fun hkt => hk (mem_unionKeys.mpr ⟨t, ht, hkt⟩)

omit [Ring α] [DecidableEq α] in
theorem unionKeys_map_inj (φ : κ → κ') (hφ : Function.Injective φ) (ts : List (Tab κ α)) :
    unionKeys (ts.map (fun t => t.map (fun r => (φ r.1, r.2)))) = (unionKeys ts).map φ := by
  unfold unionKeys
  rw [← dedup_map_inj φ hφ, List.flatMap_map, List.map_flatMap]
  exact congrArg dedup (List.flatMap_congr fun t _ => Table.keys_map φ Prod.snd t)

omit [DecidableEq α] in
theorem alignMany_eq_cols (ts : List (Tab κ α)) :
    alignMany ts = cols (fun t k => lookupD 0 t k) ts (unionKeys ts) := rfl

theorem jsd_alignMany_congr (log : α → α) (f g : ι → Tab κ α) (items : List ι) (w : List α)
    (h : ∀ i ∈ items, ∀ k, lookupD 0 (f i) k = lookupD 0 (g i) k) :
    jsdVals log (alignMany (items.map f)) w = jsdVals log (alignMany (items.map g)) w := by
  have e : alignMany (items.map f)
      = cols (fun i k => lookupD 0 (g i) k) items (unionKeys (items.map f)) := by
    rw [alignMany, List.map_map]
    exact List.map_congr_left fun i hi => List.map_congr_left fun k _ => h i hi k
  rw [e, alignMany, List.map_map]
  apply jsd_cols_of_nodup log _ items w (nodup_unionKeys _) (nodup_unionKeys _)
  · intro k _ hk i hi
    exact lookupD_of_not_mem_unionKeys hk (List.mem_map_of_mem hi)
  · intro k _ hk i hi
    rw [← h i hi k]
    exact lookupD_of_not_mem_unionKeys hk (List.mem_map_of_mem hi)

end Many

/-! ### Divergences of two tables through the union alignment -/

section Pairs
variable {κ α : Type} [DecidableEq κ] [AddCommMonoid α]

/-! The Bhattacharyya coefficient, the power sums and the variational distance are sums
`Σ g(p, q)` with `g (0, 0) = 0`: they agree on two lists of pairs on which all such sums agree
(`sum_alignUnion_append_zero` is such a statement). -/

section PairSum
variable {pq pq' : List (ℝ × ℝ)}
  (h : ∀ g : ℝ × ℝ → ℝ, g (0, 0) = 0 → (pq.map g).sum = (pq'.map g).sum)
include h

theorem bcVals_of_pairSum (sqrt : ℝ → ℝ) (hs : sqrt 0 = 0) : bcVals sqrt pq = bcVals sqrt pq' := by
  unfold bcVals
  rw [lsum_eq_sum, lsum_eq_sum, h _ (by simp [hs])]

theorem powerSum_of_pairSum (R : RealOps ℝ) (a b : ℝ) :
    powerSum R a b pq = powerSum R a b pq' := by
  unfold powerSum
  rw [lsum_eq_sum, lsum_eq_sum, h _ (by simp)]

theorem tvVals_of_pairSum (two : ℝ) : tvVals two pq = tvVals two pq' := by
  unfold tvVals
  rw [lsum_eq_sum, lsum_eq_sum, h _ (by simp [absV])]

end PairSum

theorem powerFamily_congr (R : RealOps ℝ) (two four a : ℝ) {pq pq' : List (ℝ × ℝ)}
    (h : ∀ a b, powerSum R a b pq = powerSum R a b pq') :
    renyiDiv R a pq = renyiDiv R a pq' ∧ tsallisDiv R a pq = tsallisDiv R a pq'
      ∧ alphaDiv R two four a pq = alphaDiv R two four a pq' := by
  unfold renyiDiv tsallisDiv alphaDiv
  rw [h, h]
  exact ⟨rfl, rfl, rfl⟩

end Pairs

/-! ### Matrices indexed by labels -/

section LMat
variable {α ι τ : Type}

/-- The matrix (list of rows) with entry `v x y` at row `x ∈ xs`, column `y ∈ ys`. -/
def lmatrix (xs : List ι) (ys : List τ) (v : ι → τ → α) : List (List α) :=
  xs.map (fun x => ys.map (v x))

theorem lmatrix_getD [Zero α] (xs : List ι) (ys : List τ) (v : ι → τ → α) (i j : Nat)
    (hi : i < xs.length) (hj : j < ys.length) :
    ((lmatrix xs ys v).getD i []).getD j 0 = v (xs[i]'hi) (ys[j]'hj) := by
  rw [lmatrix, getD_map_getElem _ xs [] hi, getD_map_getElem _ ys 0 hj]

theorem length_lmatrix (xs : List ι) (ys : List τ) (v : ι → τ → α) :
    (lmatrix xs ys v).length = xs.length := List.length_map _

theorem length_head_lmatrix (xs : List ι) (ys : List τ) (v : ι → τ → α) (hne : xs ≠ []) :
    ((lmatrix xs ys v).head?.getD []).length = ys.length := by
  obtain ⟨x, t, rfl⟩ := List.exists_cons_of_ne_nil hne
  exact List.length_map _

theorem map_range_eq_lmatrix (xs : List ι) (ys : List τ) (G : Nat → Nat → α) (v : ι → τ → α)
    (h : ∀ i j (hi : i < xs.length) (hj : j < ys.length), G i j = v (xs[i]'hi) (ys[j]'hj)) :
    (List.range xs.length).map (fun i => (List.range ys.length).map (G i)) = lmatrix xs ys v :=
  map_range_eq_map xs _ _ fun i hi => map_range_eq_map ys _ _ fun j hj => h i j hi hj

/-- Every rectangular list-of-rows matrix is label-indexed by its row and column numbers. -/
theorem lmatrix_getD_self [Zero α] (M : List (List α)) (n : Nat)
    (hrow : ∀ row ∈ M, row.length = n) :
    M = lmatrix (List.range M.length) (List.range n) (fun i j => (M.getD i []).getD j 0) := by
  unfold lmatrix
  refine ((map_range_eq_map M _ id fun i hi => ?_).trans (List.map_id M)).symm
  obtain rfl : (M[i]'hi).length = n := hrow _ (List.getElem_mem hi)
  refine (map_range_eq_map (M[i]'hi) _ id fun j hj => ?_).trans (List.map_id _)
  show (M.getD i []).getD j 0 = (M[i]'hi)[j]'hj
  rw [← List.getElem_eq_getD (h := hi) [], ← List.getElem_eq_getD (h := hj) 0]

end LMat

section Plan
variable {α ι τ : Type} [Semiring α]

theorem planCost_lmatrix (xs : List ι) (ys : List τ) (D P : ι → τ → α) :
    planCost (lmatrix xs ys D) (lmatrix xs ys P)
      = (xs.map (fun x => (ys.map (fun y => D x y * P x y)).sum)).sum := by
  unfold planCost lmatrix
  rw [lsum_eq_sum, Lemmas.Diverge.zipWith_map_map]
  congr 1
  apply List.map_congr_left
  intro x _
  rw [lsum_eq_sum, Lemmas.Diverge.zipWith_map_map]

end Plan

/-! ### Maximum correlation: companion matrix and characteristic polynomial -/

section MaxCorr
variable {α ι τ : Type} [Field α] [DecidableEq α]

/-- Entry `(y, y')` of the companion matrix of the joint `v` on `xs × ys`:
`Σ_x v(x,y) v(x,y') / (p_X(x) p_Y(y'))`, rows / columns of zero marginal skipped. -/
def ccL (v : ι → τ → α) (xs : List ι) (ys : List τ) (y y' : τ) : α :=
  (xs.map (fun x =>
    if (ys.map (v x)).sum = 0 ∨ (xs.map (fun x' => v x' y')).sum = 0 then 0
    else v x y * v x y' / ((ys.map (v x)).sum * (xs.map (fun x' => v x' y')).sum))).sum

theorem ccL_perm (v : ι → τ → α) {xs xs' : List ι} {ys ys' : List τ} (hx : xs'.Perm xs)
    (hy : ys'.Perm ys) : ccL v xs' ys' = ccL v xs ys := by
  funext y y'
  unfold ccL
  rw [(hx.map _).sum_eq]
  congr 1
  apply List.map_congr_left
  intro x _
  rw [(hy.map (v x)).sum_eq, (hx.map (fun x' => v x' y')).sum_eq]

theorem maxcorrCompanion_nil : maxcorrCompanion ([] : List (List α)) = [] := rfl

theorem maxcorrCompanion_lmatrix (v : ι → τ → α) (xs : List ι) (ys : List τ) (hne : xs ≠ []) :
    maxcorrCompanion (lmatrix xs ys v) = lmatrix ys ys (ccL v xs ys) := by
  unfold maxcorrCompanion
  simp only [length_head_lmatrix xs ys v hne]
  apply map_range_eq_lmatrix
  intro j k hj hk
  have hcol : ((lmatrix xs ys v).map fun row => row.getD k 0) = xs.map fun x => v x (ys[k]'hk) := by
    rw [lmatrix, List.map_map]
    exact List.map_congr_left fun x _ => getD_map_getElem _ ys 0 hk
  rw [getD_map_getElem _ _ 0 (by rwa [List.length_range]), List.getElem_range, hcol, lsum_eq_sum,
    lsum_eq_sum, Lemmas.Diverge.zipWith_map_self, lmatrix, List.map_map]
  refine congrArg List.sum (List.map_congr_left fun x _ => ?_)
  simp only [Function.comp_apply, lsum_eq_sum, Bool.or_eq_true, beq_iff_eq]
  rw [getD_map_getElem _ ys 0 hj, getD_map_getElem _ ys 0 hk]

end MaxCorr

/-! The Faddeev–LeVerrier recursion on label-indexed square matrices. -/

section CharPoly
variable {α τ : Type} [Field α]

theorem matMul_lmatrix (ys : List τ) (a m : τ → τ → α) :
    matMul (lmatrix ys ys a) (lmatrix ys ys m)
      = lmatrix ys ys (fun y y' => (ys.map (fun z => a y z * m z y')).sum) := by
  by_cases hne : ys = []
  · subst hne; rfl
  unfold matMul
  rw [length_head_lmatrix ys ys m hne]
  unfold lmatrix
  rw [List.map_map]
  refine List.map_congr_left fun y _ => map_range_eq_map ys _ _ fun k hk => ?_
  rw [lsum_eq_sum, Lemmas.Diverge.zipWith_map_map]
  exact congrArg List.sum (List.map_congr_left fun z _ => by rw [getD_map_getElem _ ys 0 hk])

theorem matTrace_lmatrix (ys : List τ) (f : τ → τ → α) :
    matTrace (lmatrix ys ys f) = (ys.map (fun y => f y y)).sum := by
  unfold matTrace
  rw [lsum_eq_sum, length_lmatrix]
  exact congrArg List.sum (map_range_eq_map ys _ _ fun i hi => lmatrix_getD ys ys f i i hi hi)

variable [DecidableEq τ]

/-- Adding `c` on the diagonal; by position and by label is the same when the labels are
pairwise distinct. -/
theorem matAddScalar_lmatrix (ys : List τ) (hnd : ys.Nodup) (f : τ → τ → α) (c : α) :
    matAddScalar (lmatrix ys ys f) c
      = lmatrix ys ys (fun y y' => f y y' + if y = y' then c else 0) := by
  unfold matAddScalar
  rw [length_lmatrix]
  apply map_range_eq_lmatrix
  intro i j hi hj
  simp only [lmatrix_getD ys ys f i j hi hj, hnd.getElem_inj_iff]

theorem ident_lmatrix (ys : List τ) (hnd : ys.Nodup) :
    (List.range ys.length).map (fun i => (List.range ys.length).map
        (fun j => if i = j then (1 : α) else 0))
      = lmatrix ys ys (fun y y' => if y = y' then 1 else 0) := by
  apply map_range_eq_lmatrix
  intro i j hi hj
  simp only [hnd.getElem_inj_iff]

/-- One step of the recursion on entry functions: from `M` to `A M + c I` with
`c = -tr(A M) / k`. `S f` stands for the sum of `f` over the labels, which is all the step uses of
the list of labels. -/
def stepL (ofNat : Nat → α) (S : (τ → α) → α) (a : τ → τ → α) (acc : (τ → τ → α) × List α)
    (k : Nat) : (τ → τ → α) × List α :=
  let am := fun y y' => S fun z => a y z * acc.1 z y'
  let c := -(S fun y => am y y) / ofNat k
  (fun y y' => am y y' + if y = y' then c else 0, acc.2 ++ [c])

theorem charPoly_lmatrix (ofNat : Nat → α) (ys : List τ) (hnd : ys.Nodup) (a : τ → τ → α) :
    charPoly ofNat (lmatrix ys ys a)
      = ((List.range ys.length).foldl
          (fun acc k => stepL ofNat (fun f => (ys.map f).sum) a acc (k + 1))
          (fun y y' => if y = y' then 1 else 0, [])).2 := by
  unfold charPoly
  simp only [length_lmatrix]
  rw [ident_lmatrix ys hnd]
  refine congrArg Prod.snd
    (List.foldl_hom (fun acc : (τ → τ → α) × List α => (lmatrix ys ys acc.1, acc.2))
      (init := (fun y y' => if y = y' then 1 else 0, [])) fun acc k => ?_)
  simp only [matMul_lmatrix, matTrace_lmatrix, matAddScalar_lmatrix ys hnd]
  rfl

/-- Permutation similarity preserves the characteristic polynomial as computed by `charPoly`. -/
theorem charPoly_lmatrix_perm (ofNat : Nat → α) {ys ys' : List τ} (h : ys'.Perm ys)
    (hnd : ys.Nodup) (a : τ → τ → α) :
    charPoly ofNat (lmatrix ys' ys' a) = charPoly ofNat (lmatrix ys ys a) := by
  rw [charPoly_lmatrix ofNat ys hnd, charPoly_lmatrix ofNat ys' (h.nodup_iff.mpr hnd), h.length_eq,
    funext fun f => (h.map f).sum_eq]

end CharPoly

/-! ### The joint matrix of a two-variable table -/

section Joint
variable {α σ : Type} [DecidableEq σ]

/-- The joint pmf matrix (rows `x ∈ xs`, columns `y ∈ ys`) of a table of two-variable outcomes
`[x, y]`, absent outcomes read `0`: the input of `maxcorrCompanion`. -/
def jointMat [Zero α] (xs ys : List σ) (t : Tab (List σ) α) : List (List α) :=
  lmatrix xs ys (fun x y => lookupD 0 t [x, y])

theorem jointMat_congr [Zero α] (xs ys : List σ) (t t' : Tab (List σ) α)
    (h : ∀ o, lookupD 0 t' o = lookupD 0 t o) : jointMat xs ys t' = jointMat xs ys t := by
  unfold jointMat
  simp only [h]

end Joint

end Dit.Lemmas.DivInv
