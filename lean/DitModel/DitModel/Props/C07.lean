/-
C07 — A distribution held as log-probabilities in any valid base is observationally the same
measure as its linear copy.

Theorems about the model of `dit.math.ops.LogOperations` (`Core/Ops.lean`) instantiated at `ℝ`
with `realBase b` (`exp x = b^x`, `log = log_b`), for every base `b` with `0 < b`, `b ≠ 1`
(including `b < 1`): exponentiation and logarithm are mutually inverse; `add`, `mult`, `invert`,
`add_reduce`, `mult_reduce`, `normalize` on log values exponentiate to the linear operations
(and conversely are the logarithms of the linear results); the generic-base code path through
base 2 computes the same `add`; the null value (`−∞` for `b > 1`, `+∞` for `b < 1`) is the limit
in which `b^x → 0` and it is neutral for `add`; log→log base conversion `pmf *= log_c b`
preserves the measure, round-trips and composes along any chain of bases; the entropy family of
a base-`b` log distribution is the bit value divided by `log₂ b`, and perplexity does not depend
on the base.  Helper lemmas: Lemmas/LogOps.lean.
-/
import DitModel.Lemmas.LogOps

namespace Dit.Props.C07
open Dit Dit.Lemmas.LogOps Dit.Lemmas.InfoReal Filter

/-! ### Exponential and logarithm are mutually inverse -/

/-- **exp ∘ log.** The stored log value of a positive probability exponentiates back to it:
`b ^ log_b p = p`. (`p > 0` is needed: `log_b 0` is the null value, treated as a limit below.) -/
theorem exp_log (b p : ℝ) (hb : 0 < b) (hb1 : b ≠ 1) (hp : 0 < p) : b ^ (Real.logb b p) = p :=
  Real.rpow_logb hb hb1 hp

/-- **log ∘ exp.** Every real log value is the log of its exponential: `log_b (b^x) = x`. -/
theorem log_exp (b x : ℝ) (hb : 0 < b) (hb1 : b ≠ 1) : Real.logb b (b ^ x) = x :=
  Real.logb_rpow hb hb1

/-- **Linear → log → linear** round trip of a whole pmf of positive probabilities. -/
theorem lin_log_roundtrip (b : ℝ) (ps : List ℝ) (hb : 0 < b) (hb1 : b ≠ 1)
    (hp : ∀ p ∈ ps, 0 < p) :
    (ps.map (Real.logb b)).map (fun x => b ^ x) = ps := by
  rw [List.map_map]
  exact (List.map_congr_left fun p h => Real.rpow_logb hb hb1 (hp p h)).trans (List.map_id ps)

example : (0 : ℝ) < 1 / 2 ∧ (1 / 2 : ℝ) ≠ 1 := by norm_num
example : (0 : ℝ) < 10 ∧ (10 : ℝ) ≠ 1 := by norm_num
/-- In base `1/2` the log value `1` is the probability `1/2`. -/
example : ((1 : ℝ) / 2) ^ (1 : ℝ) = 1 / 2 := Real.rpow_one _
example : Real.logb (1 / 2) (1 / 2) = 1 := Real.logb_self_eq_one_iff.mpr (by norm_num)

/-! ### The operations objects -/

/-- **add.** `ops.add` on log values is linear addition of the probabilities:
`b ^ add(x, y) = b^x + b^y`. -/
theorem logAdd_hom (b x y : ℝ) (hb : 0 < b) (hb1 : b ≠ 1) :
    b ^ (logAdd (realBase b) x y) = b ^ x + b ^ y :=
  Real.rpow_logb hb hb1 (add_pos (Real.rpow_pos_of_pos hb x) (Real.rpow_pos_of_pos hb y))

/-- **add, generic-base code path.** For a base other than 2 and e dit computes
`logaddexp2(x·log₂b, y·log₂b)·log_b 2`; this is the same value as the direct formula
(`b ≠ 1` is not used). -/
theorem logAddGeneric_eq (b x y : ℝ) (hb : 0 < b) (hb1 : b ≠ 1) :
    logAddGeneric (realBase b) x y = logAdd (realBase b) x y := by
  have _ := hb1  -- not needed
  have h0 : (0 : ℝ) < 2 := by norm_num
  have h1 : (2 : ℝ) ≠ 1 := by norm_num
  simp only [logAddGeneric, realBase, rpow_mul_logb hb h0 h1]
  exact (mul_comm _ _).trans (Real.mul_logb h0.ne' h1 (ne_neg_one h0))

/-- **mult.** `ops.mult` (addition of log values) is multiplication of the probabilities.
(`0 < b` suffices.) -/
theorem logMul_hom (b x y : ℝ) (hb : 0 < b) : b ^ (logMul x y) = b ^ x * b ^ y :=
  Real.rpow_add hb x y

/-- **invert.** `ops.invert` (negation) is the reciprocal of the probability. (`0 < b` suffices.) -/
theorem logInv_hom (b x : ℝ) (hb : 0 < b) : b ^ (logInv x) = (b ^ x)⁻¹ :=
  Real.rpow_neg hb.le x

/-- **add_reduce.** For a non-empty array of log values, `add_reduce` exponentiates to the sum
of the probabilities. (Non-emptiness is needed: the empty sum is probability 0, whose log is the
null value, not a real number.) This is also what marginalisation computes on each fibre. -/
theorem logAddReduce_hom (b : ℝ) (xs : List ℝ) (hb : 0 < b) (hb1 : b ≠ 1) (hne : xs ≠ []) :
    b ^ (logAddReduce (realBase b) xs) = (xs.map (fun x => b ^ x)).sum :=
  Dit.Lemmas.LogOps.logAddReduce_hom b hb hb1 xs hne

/-- **mult_reduce.** `mult_reduce` exponentiates to the product of the probabilities
(any list, `0 < b` suffices). -/
theorem logMulReduce_hom (b : ℝ) (xs : List ℝ) (hb : 0 < b) :
    b ^ (logMulReduce xs) = (xs.map (fun x => b ^ x)).prod := by
  rw [logMulReduce, Dit.Lemmas.ListBasics.lsum_eq_sum]
  induction xs with
  | nil => simp
  | cons x t ih => rw [List.sum_cons, Real.rpow_add hb, ih, List.map_cons, List.prod_cons]

/-- **normalize.** Exponentiating `ops.normalize` of a non-empty array of log values entrywise
gives the linear normalisation of the exponentiated array, and the result has total mass 1. -/
theorem logNormalize_hom (b : ℝ) (xs : List ℝ) (hb : 0 < b) (hb1 : b ≠ 1) (hne : xs ≠ []) :
    (logNormalize (realBase b) xs).map (fun x => b ^ x) = linNormalize (xs.map (fun x => b ^ x))
      ∧ ((logNormalize (realBase b) xs).map (fun x => b ^ x)).sum = 1 :=
  ⟨Dit.Lemmas.LogOps.logNormalize_hom b hb hb1 xs hne, logNormalize_sum b hb hb1 xs hne⟩

example : ([-1, -2, 0] : List ℝ) ≠ [] := List.cons_ne_nil _ _

/-- **add, from the linear side.** The log of a sum of positive probabilities is `ops.add` of
their logs. -/
theorem log_add_hom (b p q : ℝ) (hb : 0 < b) (hb1 : b ≠ 1) (hp : 0 < p) (hq : 0 < q) :
    logAdd (realBase b) (Real.logb b p) (Real.logb b q) = Real.logb b (p + q) := by
  rw [logAdd_eq, Real.rpow_logb hb hb1 hp, Real.rpow_logb hb hb1 hq]

/-- **mult, from the linear side.** (Only `p, q ≠ 0` is used; no condition on `b`.) -/
theorem log_mul_hom (b p q : ℝ) (hp : 0 < p) (hq : 0 < q) :
    logMul (Real.logb b p) (Real.logb b q) = Real.logb b (p * q) :=
  (Real.logb_mul hp.ne' hq.ne').symm

/-- **invert, from the linear side.** (Holds for every real `b`, `p`.) -/
theorem log_inv_hom (b p : ℝ) : logInv (Real.logb b p) = Real.logb b p⁻¹ :=
  (Real.logb_inv b p).symm

/-- **add_reduce / mult_reduce / normalize from the linear side**: on the logs of positive
probabilities they return the logs of the sum, of the product, and of the normalised list. -/
theorem log_reduce_hom (b : ℝ) (ps : List ℝ) (hb : 0 < b) (hb1 : b ≠ 1) (hne : ps ≠ [])
    (hp : ∀ p ∈ ps, 0 < p) :
    logAddReduce (realBase b) (ps.map (Real.logb b)) = Real.logb b ps.sum
      ∧ logMulReduce (ps.map (Real.logb b)) = Real.logb b ps.prod
      ∧ logNormalize (realBase b) (ps.map (Real.logb b)) = (linNormalize ps).map (Real.logb b) := by
  have hexp := lin_log_roundtrip b ps hb hb1 hp
  refine ⟨?_, ?_, ?_⟩
  · rw [logAddReduce_eq, hexp]
  · rw [← Real.logb_rpow hb hb1 (x := logMulReduce _), logMulReduce_hom b _ hb, hexp]
  · rw [logNormalize, linNormalize, logAddReduce_eq, hexp, Dit.Lemmas.ListBasics.lsum_eq_sum,
      List.map_map, List.map_map]
    exact List.map_congr_left fun p h =>
      (Real.logb_div (hp p h).ne' (List.sum_pos ps hp hne).ne').symm

/-- Base 10, probabilities `1/4` and `3/4`: their log-sum is `log 1 = 0`. -/
example : logAdd (realBase 10) (Real.logb 10 (1 / 4)) (Real.logb 10 (3 / 4)) = 0 :=
  (log_add_hom 10 _ _ (by norm_num) (by norm_num) (by norm_num) (by norm_num)).trans (by norm_num)
/-- Base `1/2` (a base below 1). -/
example : logAdd (realBase (1 / 2)) (Real.logb (1 / 2) (1 / 4)) (Real.logb (1 / 2) (3 / 4)) = 0 :=
  (log_add_hom (1 / 2) _ _ (by norm_num) (by norm_num) (by norm_num) (by norm_num)).trans
    (by norm_num)
example : ∀ p ∈ ([1 / 4, 3 / 4] : List ℝ), 0 < p := by
  intro p hp
  rcases List.mem_pair.mp hp with rfl | rfl <;> norm_num

/-! ### The null value -/

/-- **Null value, base above 1.** `b^x → 0` as `x → −∞`: `−∞` is "the log of probability 0". -/
theorem null_limit_gt_one (b : ℝ) (hb : 1 < b) : Tendsto (fun x : ℝ => b ^ x) atBot (nhds 0) :=
  tendsto_rpow_atBot_of_base_gt_one b hb

/-- **Null value, base below 1.** `b^x → 0` as `x → +∞`: `+∞` is "the log of probability 0". -/
theorem null_limit_lt_one (b : ℝ) (hb : 0 < b) (hb1 : b < 1) :
    Tendsto (fun x : ℝ => b ^ x) atTop (nhds 0) :=
  tendsto_rpow_atTop_of_base_lt_one b (lt_trans (by norm_num) hb) hb1

/-- **Adding the null probability changes nothing** (`b > 1`): `add(x, y) → x` as `y → −∞`. -/
theorem logAdd_null_gt_one (b : ℝ) (hb : 1 < b) (x : ℝ) :
    Tendsto (fun y => logAdd (realBase b) x y) atBot (nhds x) :=
  logAdd_null (lt_trans (by norm_num) hb) hb.ne' x (null_limit_gt_one b hb)

/-- **Adding the null probability changes nothing** (`b < 1`): `add(x, y) → x` as `y → +∞`. -/
theorem logAdd_null_lt_one (b : ℝ) (hb : 0 < b) (hb1 : b < 1) (x : ℝ) :
    Tendsto (fun y => logAdd (realBase b) x y) atTop (nhds x) :=
  logAdd_null hb hb1.ne x (null_limit_lt_one b hb hb1)

example : (1 : ℝ) < 10 := by norm_num
example : (0 : ℝ) < 1 / 2 ∧ (1 / 2 : ℝ) < 1 := by norm_num

/-! ### Base changes -/

/-- **log→log conversion.** dit's `set_base` from base `b` to base `c` multiplies the stored
values by `log_c b`; applied to `log_b p` this gives `log_c p`. (Only the validity of the source
base `b` is used; the statement holds for every real `p`, in particular for `p > 0`.) -/
theorem rebase_chain (b c p : ℝ) (hb : 0 < b) (hb1 : b ≠ 1) :
    rebaseLogLog (Real.logb c b) (Real.logb b p) = Real.logb c p := by
  rw [rebaseLogLog, mul_comm]
  exact Real.mul_logb hb.ne' hb1 (ne_neg_one hb)

/-- **The conversion preserves the measure**: for every real log value `x`,
`c ^ (x · log_c b) = b ^ x`. -/
theorem rebase_measure (b c x : ℝ) (hb : 0 < b) (hc : 0 < c) (hc1 : c ≠ 1) :
    c ^ (rebaseLogLog (Real.logb c b) x) = b ^ x :=
  rpow_mul_logb hb hc hc1 x

/-- **Chains of bases.** `b → c → d` equals `b → d` (only the intermediate base must be valid),
so by induction any chain of conversions equals the direct one. -/
theorem rebase_trans (b c d x : ℝ) (hc : 0 < c) (hc1 : c ≠ 1) :
    rebaseLogLog (Real.logb d c) (rebaseLogLog (Real.logb c b) x)
      = rebaseLogLog (Real.logb d b) x := by
  unfold rebaseLogLog
  rw [mul_assoc, mul_comm (Real.logb c b), Real.mul_logb hc.ne' hc1 (ne_neg_one hc)]

/-- **Round trip.** `b → c → b` is the identity on log values. -/
theorem rebase_roundtrip (b c x : ℝ) (hb : 0 < b) (hb1 : b ≠ 1) (hc : 0 < c) (hc1 : c ≠ 1) :
    rebaseLogLog (Real.logb b c) (rebaseLogLog (Real.logb c b) x) = x := by
  rw [rebase_trans b c b x hc hc1, rebaseLogLog,
    Real.logb_self_eq_one_iff.mpr ⟨hb.ne', hb1, ne_neg_one hb⟩, mul_one]

/-- Base 2 → base 1/2 flips the sign of the stored values: `log_{1/2} 2 = −1`. -/
example (x : ℝ) : rebaseLogLog (Real.logb (1 / 2) 2) x = -x := by
  rw [rebaseLogLog, one_div, Real.logb_inv_base, Real.logb_self_eq_one (by norm_num), mul_neg_one]

/-! ### The entropy family of a log distribution -/

/-- **Entropy in base `b`.** `−Σ p log_b p` is the bit value divided by `log₂ b`. (Purely
algebraic: holds for every list of reals and every real `b`.) -/
theorem entropy_log_scale (b : ℝ) (ps : List ℝ) :
    entropyVals (Real.logb b) ps = entropyVals (Real.logb 2) ps / Real.logb 2 b := by
  rw [← entropyVals_div, ← funext (logb_eq_div b)]

/-- **Entropy, the code's own form.** For a log distribution with stored values `vs` dit
computes `−Σ b^v · v`; this is the entropy in bits of the linear copy `b^v` divided by `log₂ b`. -/
theorem entropy_of_logs (b : ℝ) (vs : List ℝ) (hb : 0 < b) (hb1 : b ≠ 1) :
    -(vs.map (fun v => b ^ v * v)).sum
      = entropyVals (Real.logb 2) (vs.map (fun v => b ^ v)) / Real.logb 2 b := by
  rw [← entropy_log_scale, entropyVals_eq_sum_mul, List.map_map]
  simp only [Function.comp_def, Real.logb_rpow hb hb1]

/-- **Extropy in base `b`** scales the same way. -/
theorem extropy_log_scale (b : ℝ) (ps : List ℝ) :
    extropyVals (Real.logb b) ps = extropyVals (Real.logb 2) ps / Real.logb 2 b :=
  entropy_log_scale b _

/-- **Extropy, the code's own form**: `npmf = log_b(1 − b^v)`, `terms = −b^npmf · npmf`.
The hypothesis `b^v ≤ 1` (each stored value is the log of a probability) is needed: for
`1 − b^v < 0` the real `log_b` returns `log_b |·|` and `b^npmf` would be `b^v − 1`. An entry with
`b^v = 1` contributes 0 on both sides (`nansum` drops the `0·∞` term in dit). -/
theorem extropy_of_logs (b : ℝ) (vs : List ℝ) (hb : 0 < b) (hb1 : b ≠ 1)
    (hle : ∀ v ∈ vs, b ^ v ≤ 1) :
    -(vs.map (fun v => b ^ (Real.logb b (1 - b ^ v)) * Real.logb b (1 - b ^ v))).sum
      = extropyVals (Real.logb 2) (vs.map (fun v => b ^ v)) / Real.logb 2 b := by
  rw [← extropy_log_scale, extropyVals, entropyVals_eq_sum_mul, List.map_map, List.map_map]
  refine congrArg (-List.sum ·) (List.map_congr_left fun v hv => ?_)
  rcases (hle v hv).eq_or_lt with h | h
  · simp [h]
  · exact congrArg (· * _) (Real.rpow_logb hb hb1 (sub_pos.mpr h))

/-- **Every entropy-combination measure scales the same way**: evaluating a combination with the
set function `H/k` gives the value with `H` divided by `k` (any field, any coefficient cast), so
conditional entropy, mutual information, co-information, total correlation, … of a base-`b`
distribution are the bit values divided by `log₂ b`. -/
theorem comb_log_scale {α : Type} [Field α] (cast : Rat → α) (H : VSet → α) (k : α) (c : Comb) :
    Comb.eval cast (fun S => H S / k) c = Comb.eval cast H c / k := by
  simp only [Comb.eval, Dit.Lemmas.ListBasics.lsum_eq_sum, div_eq_mul_inv, ← mul_assoc,
    List.sum_map_mul_right]

/-- **Perplexity does not depend on the base**: `b ^ (entropy in base b) = 2 ^ (entropy in
bits)`; in terms of the model's `perplexityVals` (dit: `base ** entropy(dist)`), with the
logarithm of the operations record replaced by `log_b` and `two` by `b`. -/
theorem perplexity_base_free (b : ℝ) (ps : List ℝ) (hb : 0 < b) (hb1 : b ≠ 1) :
    b ^ (entropyVals (Real.logb b) ps) = (2 : ℝ) ^ (entropyVals (Real.logb 2) ps)
      ∧ perplexityVals { realOps with log := Real.logb b } b ps = perplexityVals realOps 2 ps := by
  have h := rpow_mul_logb (by norm_num : (0 : ℝ) < 2) hb hb1 (entropyVals (Real.logb 2) ps)
  rw [← Real.inv_logb, ← div_eq_mul_inv, ← entropy_log_scale] at h
  exact ⟨h, h⟩

/-- A fair coin in base `1/2`: stored values `[1, 1]`, entropy `−1` (a base below 1 gives
negative entropies: 1 bit divided by `log₂ (1/2) = −1`). -/
example : -(([1, 1] : List ℝ).map (fun v => ((1 : ℝ) / 2) ^ v * v)).sum = -1 := by norm_num
example : ∀ v ∈ ([1, 1] : List ℝ), ((1 : ℝ) / 2) ^ v ≤ 1 := by
  intro v hv; simp at hv; subst hv; norm_num

end Dit.Props.C07
