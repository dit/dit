/-
C11 (sample-space part) — "… pruned/expanded sample spaces … give the tables their definitions
give".

Theorems about `prunedDist` and `expandedDist` (Core/PruneExpand.lean), the models of
`dit.algorithms.prune_expand.pruned_samplespace` / `expanded_samplespace`. Both rebuild the
distribution with the default constructor (`construct` of C01 with `sparse = trim = true`), so the
statements are consequences of C01's theorems about `construct`.

Hypotheses, once and for all (`Source cfg d`, Lemmas/PruneExpand.lean): the enumeration of the
sample space of `d` has no repetition; the stored outcomes are pairwise distinct; `d` passes
`validate` (stored outcomes are members of the space, the total passes `cfg.normOK`, the values
pass `cfg.rangeOK`); all members of the sample space have one length (`rect`: automatic for a
Cartesian space, checked by the constructor for an explicit one); and **no stored value is a
non-zero null** (`null_zero`: `cfg.isNull d.base v → v = 0` for stored `v`) — the constructor trims
the stored nulls, so a stored non-zero value within the tolerance of `isNull` would read back as
`0` and change the total. Every well-formed (`Lemmas.Machine.WF`), valid, rectangular state
without non-zero nulls is a source (`source_of_wf`). For pruning one needs in addition that the
exact null test is exact (`isNullExact v ↔ v = 0`) and that `0` is null (`cfg.isNull d.base 0`:
an outcome kept on request carries the value `0`, which must be trimmed, not range-checked). All
of this holds for an exact `cfg` (`cfg.isNull b v ↔ v = 0`).
Helper lemmas: Lemmas/PruneExpand.lean.
-/
import DitModel.Lemmas.PruneExpand

namespace Dit.Props.C11Prune
open Dit Dit.Lemmas.ListBasics Dit.Lemmas.Table Dit.Lemmas.Construct Dit.Lemmas.PruneExpand

variable {σ α : Type} [DecidableEq σ] [AddCommMonoid α]
variable (cfg : NumCfg α) (isNullExact : α → Bool) (symLt : σ → σ → Bool)
  (outLt : List σ → List σ → Bool) (d d' : Dist σ α) (keep : List (List σ)) (union : Bool)

/-- **Well-formed valid states are sources.** The project's representation invariant `WF`
(Lemmas/Machine.lean) gives the two duplicate-freeness hypotheses; the others are explicit. -/
theorem source_of_wf (hwf : Lemmas.Machine.WF d) (hv : d.validate cfg = none)
    (hrect : ∀ x ∈ d.space.toList, ∀ y ∈ d.space.toList, x.length = y.length)
    (hnull : ∀ r ∈ d.tab, cfg.isNull d.base r.2 = true → r.2 = 0) : Source cfg d :=
  ⟨hwf.nodup, hwf.keys_nodup, hv, hrect, hnull⟩

/-- For an exact configuration the null hypotheses hold. -/
theorem source_of_exact (hwf : Lemmas.Machine.WF d) (hv : d.validate cfg = none)
    (hrect : ∀ x ∈ d.space.toList, ∀ y ∈ d.space.toList, x.length = y.length)
    (hexact : ∀ v, cfg.isNull d.base v = true ↔ v = 0) :
    Source cfg d ∧ cfg.isNull d.base 0 = true :=
  ⟨source_of_wf cfg d hwf hv hrect (fun r _ h => (hexact r.2).mp h), (hexact 0).mpr rfl⟩

/-! ## `pruned_samplespace` -/

/-- **Pruning is accepted.** Under the hypotheses above the constructor call at the end of
`pruned_samplespace` rejects nothing. -/
theorem pruned_ok (hs : Source cfg d) (hex : ∀ v, isNullExact v = true ↔ v = 0)
    (h0 : cfg.isNull d.base 0 = true) :
    ∃ d', prunedDist cfg isNullExact symLt outLt d keep = .ok d' :=
  ⟨_, prunedDist_ok symLt outLt keep hs hex h0⟩

/-- **The pruned sample space.** It is the explicit space listing, sorted with `outLt`
(`isort`), the members of the old space whose value is not exactly null or that were asked to be
kept; as a set: the members `o` of the old space with `d[o] ≠ 0` or `o ∈ keep`; each once. -/
theorem pruned_space (hs : Source cfg d) (hex : ∀ v, isNullExact v = true ↔ v = 0)
    (h0 : cfg.isNull d.base 0 = true)
    (h : prunedDist cfg isNullExact symLt outLt d keep = .ok d') :
    d'.space = .expl (isort outLt (d.space.toList.filter
        (fun o => !isNullExact ((d.get o).getD 0) || keep.contains o)))
      ∧ (∀ o, o ∈ d'.space.toList ↔ o ∈ d.space.toList ∧ (d.get o ≠ some 0 ∨ o ∈ keep))
      ∧ d'.space.toList.Nodup := by
  have _ := h0  -- not needed
  obtain rfl := eq_prunedResult_of_ok h
  refine ⟨prunedResult_space .., fun o => ?_, ?_⟩
  · rw [mem_prunedResult_space, mem_pruneKeys isNullExact d keep hex]
  · rw [prunedResult_space]
    exact nodup_isort.mpr (pruneKeys_nodup keep hs)

/-- **The pruned sample space is sorted** when `outLt` is a strict weak order (asymmetric, with a
transitive complement — e.g. Python's `<` on tuples of comparable symbols): no member is below an
earlier one. -/
theorem pruned_space_sorted (hs : Source cfg d) (hex : ∀ v, isNullExact v = true ↔ v = 0)
    (h0 : cfg.isNull d.base 0 = true)
    (hasym : ∀ a b, outLt a b = true → outLt b a = false)
    (htr : ∀ a b c, outLt b a = false → outLt c b = false → outLt c a = false)
    (h : prunedDist cfg isNullExact symLt outLt d keep = .ok d') :
    d'.space.toList.Pairwise (fun a b => outLt b a = false) := by
  rw [(pruned_space cfg isNullExact symLt outLt d d' keep hs hex h0 h).1]
  exact isort_sorted outLt hasym htr _

/-- **Lookups after pruning.** Every member of the new space reads its old value; everything
else — in particular the pruned members of the old space — is outside the sample space
(`InvalidOutcome`, `none` in the model). -/
theorem pruned_lookup (hs : Source cfg d) (hex : ∀ v, isNullExact v = true ↔ v = 0)
    (h0 : cfg.isNull d.base 0 = true)
    (h : prunedDist cfg isNullExact symLt outLt d keep = .ok d') :
    (∀ o ∈ d'.space.toList, d'.get o = d.get o) ∧ (∀ o, o ∉ d'.space.toList → d'.get o = none) := by
  have _ := hex  -- not needed
  have _ := h0  -- not needed
  obtain rfl := eq_prunedResult_of_ok h
  refine ⟨fun o ho => ?_, fun o ho => ?_⟩
  · exact get_prunedResult outLt keep hs ((mem_prunedResult_space ..).mp ho)
  · exact get_outside ho

/-- **Pruning keeps the mass** — of every event, hence the total — and the base; the result is
sparse. -/
theorem pruned_mass (hs : Source cfg d) (hex : ∀ v, isNullExact v = true ↔ v = 0)
    (h0 : cfg.isNull d.base 0 = true)
    (h : prunedDist cfg isNullExact symLt outLt d keep = .ok d') :
    mass d'.tab = mass d.tab
      ∧ (∀ (p : List σ → Prop) [DecidablePred p], wtBy p d'.tab = wtBy p d.tab)
      ∧ d'.base = d.base ∧ d'.sparse = true := by
  have _ := h0  -- not needed
  obtain rfl := eq_prunedResult_of_ok h
  refine ⟨?_, fun p _ => wtBy_prunedResult outLt keep hs hex p, prunedResult_base ..,
    prunedResult_sparse ..⟩
  rw [← wtBy_true, ← wtBy_true]
  exact wtBy_prunedResult outLt keep hs hex _

/-- **The pruned distribution is again well-formed and a source**: no stored value is null, the
stored outcomes are the stored members of the new space in its order. -/
theorem pruned_wf (hs : Source cfg d) (hex : ∀ v, isNullExact v = true ↔ v = 0)
    (h0 : cfg.isNull d.base 0 = true)
    (h : prunedDist cfg isNullExact symLt outLt d keep = .ok d') :
    Lemmas.Machine.WF d' ∧ Source cfg d' ∧ (∀ r ∈ d'.tab, cfg.isNull d'.base r.2 = false) := by
  obtain rfl := eq_prunedResult_of_ok h
  refine ⟨wf_prunedResult outLt keep hs, source_prunedResult outLt keep hs hex h0, ?_⟩
  rw [prunedResult_base]
  exact prunedResult_trimmed cfg isNullExact outLt d keep

/-- **Pruning is idempotent.** With nothing kept on request, pruning the pruned distribution
returns it unchanged. `outLt` must be a strict weak order: the new space is sorted again, and
sorting a sorted list is the identity only then. -/
theorem pruned_idempotent (hs : Source cfg d) (hex : ∀ v, isNullExact v = true ↔ v = 0)
    (h0 : cfg.isNull d.base 0 = true)
    (hasym : ∀ a b, outLt a b = true → outLt b a = false)
    (htr : ∀ a b c, outLt b a = false → outLt c b = false → outLt c a = false)
    (h : prunedDist cfg isNullExact symLt outLt d [] = .ok d') :
    prunedDist cfg isNullExact symLt outLt d' [] = .ok d' := by
  obtain rfl := eq_prunedResult_of_ok h
  have hs' := source_prunedResult outLt [] hs hex h0
  have h0' : cfg.isNull (prunedResult cfg isNullExact outLt d []).base 0 = true := by
    rw [prunedResult_base]; exact h0
  rw [prunedDist_ok symLt outLt [] hs' hex h0']
  refine congrArg Except.ok (prunedResult_eq_self outLt hs' (wf_prunedResult outLt [] hs) hex h0'
    (prunedResult_space ..) (isort_sorted outLt hasym htr _) (prunedResult_sparse ..)
    (fun o ho => ?_) (fun r hr e => ?_))
  · -- nothing was kept on request, so every member of the pruned space has a non-zero value
    have hoK := mem_isort.mp ho
    rw [get_prunedResult outLt [] hs hoK]
    exact ((mem_pruneKeys isNullExact d [] hex o).mp hoK).2.resolve_right List.not_mem_nil
  · have := prunedResult_trimmed cfg isNullExact outLt d [] r hr
    rw [e, h0] at this
    cases this

/-! ## `expanded_samplespace` -/

/-- Expansion is accepted for every valid source, whatever `union` adds to the alphabets. -/
theorem expanded_ok (hs : Source cfg d) : ∃ d', expandedDist cfg symLt outLt d union = .ok d' :=
  ⟨_, expandedDist_ok symLt outLt union hs⟩

/-- **The expanded sample space** is the Cartesian product of the sorted alphabets of the old
space — or, with `union`, of as many copies of their sorted union —, each sorted once more by
the constructor. -/
theorem expanded_space (hs : Source cfg d) (h : expandedDist cfg symLt outLt d union = .ok d') :
    d'.space = .cart ((if union then
        (d.space.alphabets.map (isort symLt)).map
          (fun _ => unionAlphabet symLt (d.space.alphabets.map (isort symLt)))
      else d.space.alphabets.map (isort symLt)).map (isort symLt)) := by
  have _ := hs  -- not needed
  obtain rfl := eq_expandedResult_of_ok h
  exact expandedResult_space ..

/-- **The expanded sample space, for a strict weak order on symbols**: the second sort is the
identity, so the alphabets are exactly `sorted(alphabet_i)`, resp. `sorted(⋃ alphabets)`; the
union is duplicate-free and holds exactly the symbols of the alphabets. -/
theorem expanded_space_sorted (hs : Source cfg d)
    (hasym : ∀ a b, symLt a b = true → symLt b a = false)
    (htr : ∀ a b c, symLt b a = false → symLt c b = false → symLt c a = false)
    (h : expandedDist cfg symLt outLt d union = .ok d') :
    d'.space = .cart (if union then
        (d.space.alphabets.map (isort symLt)).map
          (fun _ => unionAlphabet symLt (d.space.alphabets.map (isort symLt)))
      else d.space.alphabets.map (isort symLt))
      ∧ (unionAlphabet symLt (d.space.alphabets.map (isort symLt))).Nodup
      ∧ ∀ s, s ∈ unionAlphabet symLt (d.space.alphabets.map (isort symLt))
          ↔ ∃ a ∈ d.space.alphabets, s ∈ a := by
  refine ⟨?_, nodup_isort.mpr (nodup_dedup _), fun s => ?_⟩
  · rw [expanded_space cfg symLt outLt d d' union hs h]
    exact congrArg Space.cart (expandAlphabets_sorted symLt union hasym htr)
  · simp only [mem_unionAlphabet, List.mem_map, exists_exists_and_eq_and, mem_isort]

/-- **The expansion expands**: every member of the old sample space is a member of the new one. -/
theorem expanded_space_mono (hs : Source cfg d)
    (h : expandedDist cfg symLt outLt d union = .ok d') :
    ∀ o ∈ d.space.toList, o ∈ d'.space.toList := by
  obtain rfl := eq_expandedResult_of_ok h
  intro o ho
  rw [expandedResult_space]
  exact mem_expanded_of_mem_space symLt d union hs.rect ho

/-- **Lookups after expansion.** Members of the old space read their old value, the new members
read the null probability, everything else is outside (`InvalidOutcome`). -/
theorem expanded_lookup (hs : Source cfg d)
    (h : expandedDist cfg symLt outLt d union = .ok d') :
    (∀ o ∈ d.space.toList, d'.get o = d.get o)
      ∧ (∀ o ∈ d'.space.toList, o ∉ d.space.toList → d'.get o = some 0)
      ∧ (∀ o, o ∉ d'.space.toList → d'.get o = none) := by
  obtain rfl := eq_expandedResult_of_ok h
  exact ⟨fun o ho => get_expandedResult symLt union hs ho,
    fun o hN ho => get_finish_rest cfg _ _ _ _ _ _ hN (fun hk => ho (hs.keys_mem o hk)),
    fun _ => get_outside⟩

/-- **Expansion keeps the mass** — of every event, hence the total — and the base. -/
theorem expanded_mass (hs : Source cfg d) (h : expandedDist cfg symLt outLt d union = .ok d') :
    mass d'.tab = mass d.tab
      ∧ (∀ (p : List σ → Prop) [DecidablePred p], wtBy p d'.tab = wtBy p d.tab)
      ∧ d'.base = d.base := by
  obtain rfl := eq_expandedResult_of_ok h
  refine ⟨?_, fun p _ => wtBy_expandedResult symLt union hs p, expandedResult_base ..⟩
  rw [← wtBy_true, ← wtBy_true]
  exact wtBy_expandedResult symLt union hs _

/-! ## Non-vacuity -/

/-- The hypotheses hold for the sparse distribution `exSrc` on `{0,1}²` (two stored outcomes) and
for `exSrc2` on an explicit unsorted space, with the exact configuration `ratCfg`, the exact null
test `exNull`, and the orders `natLt` / `lexLt`, which are strict weak orders. -/
example : Source ratCfg exSrc ∧ Source ratCfg exSrc2 ∧ (∀ v, exNull v = true ↔ v = 0)
    ∧ ratCfg.isNull exSrc.base 0 = true
    ∧ (∀ a b, lexLt a b = true → lexLt b a = false)
    ∧ (∀ a b c, lexLt b a = false → lexLt c b = false → lexLt c a = false)
    ∧ (∀ a b, natLt a b = true → natLt b a = false)
    ∧ (∀ a b c, natLt b a = false → natLt c b = false → natLt c a = false) :=
  ⟨exSrc_source, exSrc2_source, exNull_exact, by decide, lexLt_asymm, lexLt_negtrans, natLt_asymm,
    natLt_negtrans⟩

/-- Computed: pruning `exSrc` keeps `[0,0]`, `[1,1]` and, on request, `[1,0]` (value 0, not
stored); `[0,1]` is no longer an outcome. -/
example :
    (prunedDist ratCfg exNull natLt lexLt exSrc [[1, 0]]).toOption.map
        (fun d => (d.space.toList, d.tab, d.get [1, 0], d.get [0, 1]))
      = some ([[0, 0], [1, 0], [1, 1]], [([0, 0], 1 / 4), ([1, 1], 3 / 4)], some 0, none) := by
  decide +kernel

/-- Computed: pruning `exSrc2` sorts the kept outcomes. -/
example :
    (prunedDist ratCfg exNull natLt lexLt exSrc2 []).toOption.map (fun d => (d.space.toList, d.tab))
      = some ([[0, 0], [1, 1]], [([0, 0], 1 / 4), ([1, 1], 3 / 4)]) := by
  decide +kernel

/-- Computed: expanding `exSrc2` (alphabets `[1,0]` and `[1,2,0]`): without union the product
`{0,1}×{0,1,2}`, with union `{0,1,2}²`. -/
example :
    (expandedDist ratCfg natLt lexLt exSrc2 false).toOption.map
        (fun d => (d.space.alphabets, d.tab, d.get [1, 2], d.get [2, 2]))
      = some ([[0, 1], [0, 1, 2]], [([0, 0], 1 / 4), ([1, 1], 3 / 4)], some 0, none) := by
  decide +kernel
example :
    (expandedDist ratCfg natLt lexLt exSrc2 true).toOption.map
        (fun d => (d.space.alphabets, d.tab, d.get [1, 2], d.get [2, 2]))
      = some ([[0, 1, 2], [0, 1, 2]], [([0, 0], 1 / 4), ([1, 1], 3 / 4)], some 0, some 0) := by
  decide +kernel

/-- The theorems apply to the computed instance: the kept zero reads back as zero. -/
example (d' : Dist Nat Rat) (h : prunedDist ratCfg exNull natLt lexLt exSrc [[1, 0]] = .ok d') :
    d'.get [1, 0] = some 0 := by
  have hm := (pruned_space ratCfg exNull natLt lexLt exSrc d' [[1, 0]] exSrc_source exNull_exact
    (by decide) h).2.1 [1, 0]
  have := (pruned_lookup ratCfg exNull natLt lexLt exSrc d' [[1, 0]] exSrc_source exNull_exact
    (by decide) h).1 [1, 0] (hm.mpr ⟨by decide, Or.inr (by decide)⟩)
  rw [this]; decide +kernel

end Dit.Props.C11Prune
