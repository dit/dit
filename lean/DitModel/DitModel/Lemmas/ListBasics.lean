/-
Facts about plain lists that several modules need and that mention nothing of the model beyond
the insertion sort `isort` of `Core/Dist.lean`: entries by index (`getD`), lists written as
`(List.range n).map f`, zips, sums of mapped lists (`lsum` is `List.sum`), the folds that keep the
maximum and the last index passing a test (`Nat.findGreatest`, as in `uniformBin`, `maxentLoop`
and `snapNum`), `lexLt` as the order of `List Nat`, `isort`.
-/
import DitModel.Core.Dist
import Mathlib.Algebra.BigOperators.Group.List.Basic
import Mathlib.Data.List.GetD
import Mathlib.Data.List.Perm.Basic
import Mathlib.Data.Nat.Find

namespace Dit.Lemmas.ListBasics
open Dit

/-! ## Entries by index; zips -/

section GetD
variable {β γ : Type}

theorem getD_mem {l : List β} {i : Nat} (h : i < l.length) (d : β) : l.getD i d ∈ l := by
  rw [List.getD_eq_getElem l d h]; exact List.getElem_mem h

theorem getD_of_forall {P : β → Prop} {l : List β} {d : β} (hd : P d) (h : ∀ x ∈ l, P x)
    (i : Nat) : P (l.getD i d) := by
  rcases Nat.lt_or_ge i l.length with hi | hi
  · exact h _ (getD_mem hi d)
  · rw [List.getD_eq_default l d hi]; exact hd

theorem getD_map_getElem (f : β → γ) (l : List β) (d' : γ) {i : Nat} (h : i < l.length) :
    (l.map f).getD i d' = f l[i] := by
  rw [List.getD_eq_getElem _ d' (by rwa [List.length_map]), List.getElem_map]

theorem getD_map (f : β → γ) (l : List β) (d : β) (d' : γ) {i : Nat} (h : i < l.length) :
    (l.map f).getD i d' = f (l.getD i d) := by
  rw [getD_map_getElem f l d' h, List.getD_eq_getElem l d h]

theorem getD_range_map (g : Nat → β) (d : β) {n i : Nat} (h : i < n) :
    ((List.range n).map g).getD i d = g i := by
  rw [getD_map g _ 0 d (by rwa [List.length_range]), List.getD_eq_getElem _ 0 (by rwa [List.length_range]),
    List.getElem_range]

theorem map_range_getD (l : List β) (d : β) :
    (List.range l.length).map (fun i => l.getD i d) = l := by
  refine List.ext_getElem (by rw [List.length_map, List.length_range]) fun i _ h => ?_
  rw [List.getElem_map, List.getElem_range, List.getD_eq_getElem l d h]

theorem zip_map_self (l : List β) (g : β → γ) : l.zip (l.map g) = l.map (fun x => (x, g x)) := by
  simpa only [List.map_id, id] using List.zip_map' (f := id) (g := g) (l := l)

theorem zipWith_congr_left {δ : Type} (f g : β → γ → δ) (l : List β) (w : List γ)
    (h : ∀ a ∈ l, ∀ b, f a b = g a b) : List.zipWith f l w = List.zipWith g l w := by
  rw [← List.map_uncurry_zip_eq_zipWith, ← List.map_uncurry_zip_eq_zipWith]
  exact List.map_congr_left fun p hp => h p.1 (List.of_mem_zip hp).1 p.2

end GetD

/-! ## Sums of mapped lists -/

section Sums
variable {β M : Type}

theorem lsum_eq_sum [AddMonoid M] (l : List M) : lsum l = l.sum := List.sum_eq_foldl.symm

theorem sum_range_getD [AddMonoid M] {l : List M} {n : Nat} (hn : l.length = n) :
    ((List.range n).map (fun k => l.getD k 0)).sum = l.sum := by
  rw [← hn, map_range_getD]

theorem sum_map_sub [AddCommGroup M] (l : List β) (f g : β → M) :
    (l.map (fun x => f x - g x)).sum = (l.map f).sum - (l.map g).sum :=
  eq_sub_of_add_eq (by rw [← List.sum_map_add]; simp only [sub_add_cancel])

end Sums

/-! ## The running maximum -/

theorem foldl_max_spec {β : Type} [LinearOrder β] (t : List β) (x : β) :
    t.foldl (fun m y => if m < y then y else m) x ∈ x :: t
    ∧ ∀ a ∈ x :: t, a ≤ t.foldl (fun m y => if m < y then y else m) x := by
  induction t generalizing x with
  | nil => exact ⟨List.mem_singleton_self x, fun a ha => (List.mem_singleton.mp ha).le⟩
  | cons b t ih =>
    obtain ⟨hm, hle⟩ := ih (if x < b then b else x)
    have hM := hle _ List.mem_cons_self
    have hx : x ≤ if x < b then b else x := by split; exacts [le_of_lt ‹_›, le_rfl]
    have hb : b ≤ if x < b then b else x := by split; exacts [le_rfl, not_lt.mp ‹_›]
    refine ⟨?_, List.forall_mem_cons.mpr ⟨hx.trans hM, List.forall_mem_cons.mpr
      ⟨hb.trans hM, fun a ha => hle a (List.mem_cons_of_mem _ ha)⟩⟩⟩
    rcases List.mem_cons.mp hm with h | h
    · rw [List.foldl_cons, h]; split
      exacts [List.mem_cons_of_mem _ List.mem_cons_self, List.mem_cons_self]
    · exact List.mem_cons_of_mem _ (List.mem_cons_of_mem _ h)

/-! ## The last index that passes a test -/

/-- The fold `acc := g k if P k` over `0..n` ends at the largest index satisfying `P`
(`Nat.findGreatest`), or at the start value if there is none. -/
theorem foldl_range_succ_ite {β : Type} (P : Nat → Prop) [DecidablePred P] (g : Nat → β) (b : β)
    (n : Nat) :
    (List.range (n + 1)).foldl (fun acc k => if P k then g k else acc) b
      = if P (Nat.findGreatest P n) then g (Nat.findGreatest P n) else b := by
  induction n with
  | zero => rfl
  | succ n ih =>
    rw [List.range_succ, List.foldl_append, ih, List.foldl_cons, List.foldl_nil,
      Nat.findGreatest_succ]
    by_cases h : P (n + 1)
    · rw [if_pos h, if_pos h, if_pos h]
    · rw [if_neg h, if_neg h]

/-- Remembering the index itself, from `0`: both "none" and "only `0`" give `0`. -/
theorem foldl_range_succ_ite_self (P : Nat → Prop) [DecidablePred P] (n : Nat) :
    (List.range (n + 1)).foldl (fun best k => if P k then k else best) 0
      = Nat.findGreatest P n := by
  refine (foldl_range_succ_ite P id 0 n).trans (ite_eq_left_iff.mpr fun h => ?_)
  by_contra h0
  exact h (Nat.findGreatest_of_ne_zero rfl (Ne.symm h0))

theorem findGreatest_eq_iff_of_downward {P : Nat → Prop} [DecidablePred P]
    (hP : ∀ m n, m ≤ n → P n → P m) (h0 : P 0) {n : Nat} (hn : ¬P (n + 1)) (k : Nat) :
    k = Nat.findGreatest P n ↔ P k ∧ ¬P (k + 1) := by
  constructor
  · rintro rfl
    refine ⟨Nat.findGreatest_spec (Nat.zero_le n) h0, fun h => ?_⟩
    rcases Nat.lt_or_ge (Nat.findGreatest P n) n with hlt | hge
    · exact Nat.findGreatest_is_greatest (Nat.lt_succ_self _) hlt h
    · exact hn (Nat.le_antisymm hge (Nat.findGreatest_le n) ▸ h)
  · rintro ⟨hk, hk1⟩
    have hkn : k ≤ n := Nat.le_of_lt_succ (Nat.lt_of_not_le fun h => hn (hP _ _ h hk))
    refine Nat.le_antisymm (Nat.le_findGreatest hkn hk)
      (Nat.le_of_lt_succ (Nat.lt_of_not_le fun h => hk1 (hP _ _ h ?_)))
    exact Nat.findGreatest_spec hkn hk

/-! ## The lexicographic order -/

theorem lexLt_iff (a b : List Nat) : lexLt a b = true ↔ a < b := by
  induction a generalizing b with
  | nil => cases b <;> simp [lexLt]
  | cons x a ih =>
    cases b with
    | nil => simp [lexLt]
    | cons y b =>
      rw [lexLt, List.cons_lt_cons_iff, ← ih]
      rcases Nat.lt_trichotomy x y with h | rfl | h
      · simp [h]
      · simp
      · simp [h, Nat.lt_asymm h, Nat.ne_of_gt h]

/-! ## `isort` (Python's `sorted` with a Boolean strict order) -/

section Isort
variable {β : Type}

theorem isort_ins_perm (lt : β → β → Bool) (x : β) (l : List β) :
    (isort.ins lt x l).Perm (x :: l) := by
  induction l with
  | nil => exact List.Perm.refl _
  | cons y l ih =>
    unfold isort.ins
    split
    · exact (ih.cons y).trans (List.Perm.swap x y l)
    · exact List.Perm.refl _

theorem isort_perm (lt : β → β → Bool) (l : List β) : (isort lt l).Perm l := by
  induction l with
  | nil => exact List.Perm.refl _
  | cons x l ih =>
    show (isort.ins lt x (isort lt l)).Perm (x :: l)
    exact (isort_ins_perm lt x _).trans (ih.cons x)

theorem mem_isort {lt : β → β → Bool} {l : List β} {x : β} : x ∈ isort lt l ↔ x ∈ l :=
  (isort_perm lt l).mem_iff

theorem nodup_isort {lt : β → β → Bool} {l : List β} : (isort lt l).Nodup ↔ l.Nodup :=
  (isort_perm lt l).nodup_iff

theorem length_isort (lt : β → β → Bool) (l : List β) : (isort lt l).length = l.length :=
  (isort_perm lt l).length_eq

theorem isort_ins_pairwise (lt : β → β → Bool) (R : β → β → Prop)
    (h1 : ∀ a b, lt a b = true → R a b) (h2 : ∀ a b, lt a b = false → R b a)
    (htr : ∀ a b c, R a b → R b c → R a c) (x : β) (l : List β) (h : l.Pairwise R) :
    (isort.ins lt x l).Pairwise R := by
  induction l with
  | nil => simp [isort.ins]
  | cons y l ih =>
    rw [List.pairwise_cons] at h
    unfold isort.ins
    split
    · rename_i hlt
      refine List.pairwise_cons.mpr ⟨?_, ih h.2⟩
      intro z hz
      rcases List.mem_cons.mp ((isort_ins_perm lt x l).mem_iff.mp hz) with e | hz
      · subst e; exact h1 _ _ hlt
      · exact h.1 z hz
    · rename_i hnlt
      have hxy : R x y := h2 _ _ (by simpa using hnlt)
      refine List.pairwise_cons.mpr ⟨?_, List.pairwise_cons.mpr h⟩
      intro z hz
      rcases List.mem_cons.mp hz with e | hz
      · subst e; exact hxy
      · exact htr _ _ _ hxy (h.1 z hz)

/-- `isort lt` sorts with respect to any transitive relation `R` that contains `lt` and the
converse of its complement (for a strict total order `lt`: `R = ≤`). -/
theorem isort_pairwise (lt : β → β → Bool) (R : β → β → Prop)
    (h1 : ∀ a b, lt a b = true → R a b) (h2 : ∀ a b, lt a b = false → R b a)
    (htr : ∀ a b c, R a b → R b c → R a c) (l : List β) : (isort lt l).Pairwise R := by
  induction l with
  | nil => exact List.Pairwise.nil
  | cons x l ih => exact isort_ins_pairwise lt R h1 h2 htr x _ ih

theorem isort_nat_sorted (l : List Nat) :
    (isort (fun a b => decide (a < b)) l).Pairwise (· ≤ ·) :=
  isort_pairwise (fun a b => decide (a < b)) (· ≤ ·)
    (fun _ _ h => Nat.le_of_lt (of_decide_eq_true h))
    (fun _ _ h => Nat.le_of_not_lt (of_decide_eq_false h)) (fun _ _ _ => Nat.le_trans) l

theorem filter_isort_nat (P : Nat → Bool) (l : List Nat) (h : (l.filter P).Pairwise (· < ·)) :
    (isort (fun a b => decide (a < b)) l).filter P = l.filter P :=
  List.Perm.eq_of_pairwise (le := (· ≤ ·)) (fun _ _ _ _ => Nat.le_antisymm)
    ((isort_nat_sorted l).sublist List.filter_sublist) (h.imp Nat.le_of_lt)
    ((isort_perm _ l).filter P)

/-- `isort` sorts, for an asymmetric `lt` whose complement is transitive (a strict weak order):
no later element is below an earlier one. -/
theorem isort_sorted (lt : β → β → Bool) (hasym : ∀ a b, lt a b = true → lt b a = false)
    (htr : ∀ a b c, lt b a = false → lt c b = false → lt c a = false) (l : List β) :
    (isort lt l).Pairwise (fun a b => lt b a = false) :=
  isort_pairwise lt (fun a b => lt b a = false) hasym (fun _ _ h => h) htr l

theorem isort_of_sorted (lt : β → β → Bool) {l : List β}
    (h : l.Pairwise (fun a b => lt b a = false)) : isort lt l = l := by
  induction l with
  | nil => rfl
  | cons x t ih =>
    show isort.ins lt x (isort lt t) = x :: t
    rw [ih (List.Pairwise.of_cons h)]
    cases t with
    | nil => rfl
    | cons y t' =>
      have : lt y x = false := (List.pairwise_cons.mp h).1 y List.mem_cons_self
      simp [isort.ins, this]

theorem isort_isort (lt : β → β → Bool) (hasym : ∀ a b, lt a b = true → lt b a = false)
    (htr : ∀ a b c, lt b a = false → lt c b = false → lt c a = false) (l : List β) :
    isort lt (isort lt l) = isort lt l :=
  isort_of_sorted lt (isort_sorted lt hasym htr l)

theorem isort_ne_nil (lt : β → β → Bool) {l : List β} (h : l ≠ []) :
    isort lt l ≠ [] := by
  rwa [Ne, ← List.length_eq_zero_iff, length_isort, List.length_eq_zero_iff]

theorem nodup_map_isort (lt : β → β → Bool) {as : List (List β)}
    (h : ∀ a ∈ as, a.Nodup) : ∀ a ∈ as.map (isort lt), a.Nodup :=
  List.forall_mem_map.mpr fun b hb => nodup_isort.mpr (h b hb)

end Isort

end Dit.Lemmas.ListBasics
