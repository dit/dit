/-
Helper lemmas for `pruned_samplespace` / `expanded_samplespace` (Core/PruneExpand.lean, property
C11). Both functions end in the default constructor, `construct` with `sparse = trim = true`; the
facts about it are those of C01 (Lemmas/Construct.lean: `construct_ok_iff`, `finish`,
`get_finish_specified`, `get_finish_rest`, …). Here they are specialised to values whose only nulls
are exact zeros (trimming then changes no weight and no lookup, and the constructor accepts), and
the arguments the two functions pass to the constructor are given names (`prunedResult`,
`expandedResult`).
Property theorems are in Props/C11Prune.lean.
-/
import DitModel.Core.PruneExpand
import DitModel.Lemmas.Machine

namespace Dit.Lemmas.PruneExpand
open Dit Dit.Lemmas.ListBasics Dit.Lemmas.Table Dit.Lemmas.Construct

/-! ### The sparse, trimmed result of the constructor -/

section Trimmed
variable {σ α : Type} [DecidableEq σ] [AddCommMonoid α]
variable (cfg : NumCfg α) (space : Space σ) (outs : List (List σ)) (pmf : List α) (base : Base)

theorem wtBy_finish_trimmed (hz : ∀ v ∈ pmf, cfg.isNull base v = true → v = 0)
    (p : List σ → Prop) [DecidablePred p] :
    wtBy p (finish cfg space outs pmf base true true).tab = wtBy p (outs.zip pmf) := by
  rw [finish_tab_trimmed, wtBy_filter_of_zero, wtBy_sortBy]
  intro r hr hq
  rw [Bool.not_eq_false'] at hq
  exact hz r.2 (List.of_mem_zip ((sortBy_perm _ _).mem_iff.mp hr)).2 hq

theorem get_finish_trimmed (hnd : outs.Nodup) {o : List σ} {p : α} (hmem : o ∈ space.toList)
    (h : (o, p) ∈ outs.zip pmf) (hz : cfg.isNull base p = true → p = 0) :
    (finish cfg space outs pmf base true true).get o = some p := by
  obtain ⟨i, hi⟩ := List.mem_iff_getElem?.mp h
  obtain ⟨ho, hp⟩ := List.getElem?_zip_eq_some.mp hi
  rw [get_finish_specified cfg space outs pmf base true true hnd hmem ho hp]
  by_cases hn : cfg.isNull base p = true
  · rw [if_pos ⟨rfl, rfl, hn⟩, hz hn]
  · rw [if_neg (fun h => hn h.2.2)]

variable (symLt : σ → σ → Bool) (outLt : List σ → List σ → Bool) (sp : SpaceArg σ)

theorem construct_trimmed_ok (hlen : pmf.length = outs.length)
    (hne : ¬ (outs = [] ∧ noSpace sp = true)) (hrect : raggedArg outs sp = false)
    (hin : ∀ o ∈ outs, o ∈ (spaceArg symLt outLt outs sp).toList)
    (hz : ∀ v ∈ pmf, cfg.isNull base v = true → v = 0)
    (hnorm : cfg.normOK base (lsum pmf) = true)
    (hrange : ∀ v ∈ pmf, cfg.isNull base v = false → cfg.rangeOK base v = true) :
    construct cfg symLt outLt outs pmf sp base true true
      = .ok (finish cfg (spaceArg symLt outLt outs sp) outs pmf base true true) := by
  refine (construct_ok_iff ..).mpr ⟨hlen, hne, hrect, hin, ?_, fun v hv => ?_, rfl⟩
  · rw [← mass_eq_lsum_vals, ← wtBy_true, wtBy_finish_trimmed cfg _ outs pmf base hz, wtBy_true,
      mass_eq_lsum_vals, vals_zip outs pmf hlen]
    exact hnorm
  · obtain ⟨r, hr, rfl⟩ := List.mem_map.mp hv
    rw [finish_tab_trimmed, List.mem_filter, (sortBy_perm _ _).mem_iff, Bool.not_eq_true'] at hr
    exact hrange r.2 (List.of_mem_zip hr.1).2 hr.2

end Trimmed

/-! ### The source distribution -/

section Source
variable {σ α : Type} [DecidableEq σ] [AddCommMonoid α]

theorem ite_not_some_eq_none {β : Type} (a : Bool) (e : β) (rest : Option β) :
    (if !a then some e else rest) = none ↔ a = true ∧ rest = none := by
  cases a <;> simp

theorem validate_eq_none_iff {cfg : NumCfg α} {d : Dist σ α} :
    d.validate cfg = none ↔
      (∀ k ∈ keys d.tab, k ∈ d.space.toList) ∧ cfg.normOK d.base (lsum (vals d.tab)) = true ∧
        ∀ v ∈ vals d.tab, cfg.rangeOK d.base v = true := by
  simp only [Dist.validate, ite_not_some_eq_none, List.all_eq_true, Space.mem_iff, and_true]

/-- The hypotheses on the distribution that is pruned or expanded. `space_nodup`, `keys_nodup`
and (with `valid`) membership of the stored outcomes hold for every well-formed state
(`Lemmas.Machine.WF`, in particular for every result of the constructor with distinct outcomes).
`rect`: all members of the sample space have one length (automatic for a Cartesian space; the
constructor checks it for an explicit one). `null_zero`: no stored value is a non-zero null —
`make_sparse(trim=True)` drops the stored nulls, which changes lookups and the total unless they
are exact zeros. -/
structure Source (cfg : NumCfg α) (d : Dist σ α) : Prop where
  space_nodup : d.space.toList.Nodup
  keys_nodup : (keys d.tab).Nodup
  valid : d.validate cfg = none
  rect : ∀ x ∈ d.space.toList, ∀ y ∈ d.space.toList, x.length = y.length
  null_zero : ∀ r ∈ d.tab, cfg.isNull d.base r.2 = true → r.2 = 0

variable {cfg : NumCfg α} {d : Dist σ α}

theorem Source.keys_mem (h : Source cfg d) : ∀ k ∈ keys d.tab, k ∈ d.space.toList :=
  (validate_eq_none_iff.mp h.valid).1

theorem Source.normOK (h : Source cfg d) : cfg.normOK d.base (lsum (vals d.tab)) = true :=
  (validate_eq_none_iff.mp h.valid).2.1

theorem Source.rangeOK (h : Source cfg d) : ∀ v ∈ vals d.tab, cfg.rangeOK d.base v = true :=
  (validate_eq_none_iff.mp h.valid).2.2

theorem Source.lookupD_null_zero (h : Source cfg d) (o : List σ)
    (hn : cfg.isNull d.base (lookupD 0 d.tab o) = true) : lookupD 0 d.tab o = 0 :=
  (lookupD_zero_or_mem d.tab o).elim id fun hr => h.null_zero _ hr hn

theorem get_of_not_mem_space {o : List σ} (ho : o ∉ d.space.toList) : d.get o = none :=
  get_outside ho

theorem wf_ext_of_get {a b : Dist σ α} (ha : Machine.WF a) (hb : Machine.WF b)
    (hza : ∀ r ∈ a.tab, r.2 ≠ 0) (hzb : ∀ r ∈ b.tab, r.2 ≠ 0) (hsp : a.space = b.space)
    (hsparse : a.sparse = b.sparse) (hbase : a.base = b.base)
    (hget : ∀ o ∈ a.space.toList, a.get o = b.get o) : a = b := by
  refine Machine.dist_eq hsp ?_ hsparse hbase
  rw [ha.tab_eq, hb.tab_eq, ← hsp]
  refine Machine.tabOf_congr fun o ho => lookup?_eq_of_lookupD_eq hza hzb ?_
  have h := hget o ho
  rw [get_of_mem_space ho, get_of_mem_space (hsp ▸ ho)] at h
  exact Option.some.inj h

end Source

/-! ### `pruned_samplespace` -/

section Prune
variable {σ α : Type} [DecidableEq σ] [AddCommMonoid α]
variable (cfg : NumCfg α) (isNullExact : α → Bool) (symLt : σ → σ → Bool)
  (outLt : List σ → List σ → Bool) (d : Dist σ α) (keep : List (List σ))

/-- The outcomes `pruned_samplespace` keeps, in the order of the old sample space. -/
def pruneKeys : List (List σ) :=
  d.space.toList.filter (fun o => !isNullExact ((d.get o).getD 0) || keep.contains o)

/-- The object `pruned_samplespace` builds. -/
def prunedResult : Dist σ α :=
  finish cfg (.expl (isort outLt (pruneKeys isNullExact d keep))) (pruneKeys isNullExact d keep)
    ((pruneKeys isNullExact d keep).map (lookupD 0 d.tab)) d.base true true

variable {isNullExact d keep} in
theorem mem_space_of_mem_pruneKeys {o : List σ} (ho : o ∈ pruneKeys isNullExact d keep) :
    o ∈ d.space.toList :=
  List.mem_of_mem_filter ho

/-- The value `zipped(mode='atoms')` pairs with a member of the sample space is its looked-up
value: the atoms are the table `make_dense` stores. -/
theorem atoms_eq : d.atoms = d.space.toList.map (fun o => (o, lookupD 0 d.tab o)) :=
  List.map_congr_left fun o ho => by rw [get_of_mem_space ho]; rfl

theorem pruneRows_eq :
    d.atoms.filter (fun r => !isNullExact r.2 || keep.contains r.1)
      = (pruneKeys isNullExact d keep).map (fun o => (o, lookupD 0 d.tab o)) :=
  List.filter_map.trans (List.map_congr_left fun o ho => by
    rw [get_of_mem_space (List.mem_of_mem_filter ho)]; rfl)

theorem prunedDist_eq :
    prunedDist cfg isNullExact symLt outLt d keep
      = construct cfg symLt outLt (pruneKeys isNullExact d keep)
          ((pruneKeys isNullExact d keep).map (lookupD 0 d.tab))
          (.sampleSpace (pruneKeys isNullExact d keep)) d.base true true := by
  unfold prunedDist
  simp only [pruneRows_eq, keys_map_graph, vals_map_graph]

variable {cfg isNullExact symLt outLt d keep} in
theorem eq_prunedResult_of_ok {d' : Dist σ α}
    (h : prunedDist cfg isNullExact symLt outLt d keep = .ok d') :
    d' = prunedResult cfg isNullExact outLt d keep :=
  eq_finish_of_construct_ok (prunedDist_eq cfg isNullExact symLt outLt d keep ▸ h)

theorem mem_pruneKeys (hex : ∀ v, isNullExact v = true ↔ v = 0) (o : List σ) :
    o ∈ pruneKeys isNullExact d keep ↔
      o ∈ d.space.toList ∧ (d.get o ≠ some 0 ∨ o ∈ keep) := by
  refine List.mem_filter.trans (and_congr_right fun ho => ?_)
  rw [get_of_mem_space ho, Bool.or_eq_true, Bool.not_eq_true', List.contains_iff_mem,
    ← Bool.not_eq_true, hex, Option.getD_some, ne_eq, Option.some.injEq]

variable {cfg isNullExact d}

theorem pruneKeys_nodup (hs : Source cfg d) : (pruneKeys isNullExact d keep).Nodup :=
  hs.space_nodup.filter _

theorem wtBy_pruneRows (hs : Source cfg d) (hex : ∀ v, isNullExact v = true ↔ v = 0)
    (p : List σ → Prop) [DecidablePred p] :
    wtBy p ((pruneKeys isNullExact d keep).map (fun o => (o, lookupD 0 d.tab o)))
      = wtBy p d.tab := by
  rw [← pruneRows_eq, wtBy_filter_of_zero, atoms_eq,
    wtBy_retab p hs.space_nodup hs.keys_nodup hs.keys_mem]
  intro r _ hq
  rw [Bool.or_eq_false_iff, Bool.not_eq_false', hex] at hq
  exact hq.1

variable (cfg isNullExact d)

@[simp] theorem prunedResult_space :
    (prunedResult cfg isNullExact outLt d keep).space
      = .expl (isort outLt (pruneKeys isNullExact d keep)) := finish_space ..

@[simp] theorem prunedResult_base :
    (prunedResult cfg isNullExact outLt d keep).base = d.base := finish_base ..

@[simp] theorem prunedResult_sparse :
    (prunedResult cfg isNullExact outLt d keep).sparse = true := finish_sparse ..

theorem mem_prunedResult_space (o : List σ) :
    o ∈ (prunedResult cfg isNullExact outLt d keep).space.toList
      ↔ o ∈ pruneKeys isNullExact d keep := by
  rw [prunedResult_space]; exact mem_isort

theorem prunedResult_trimmed :
    ∀ r ∈ (prunedResult cfg isNullExact outLt d keep).tab, cfg.isNull d.base r.2 = false :=
  fun _ hr => finish_trimmed cfg _ _ _ _ hr

variable {cfg isNullExact d}

theorem wtBy_prunedResult (hs : Source cfg d) (hex : ∀ v, isNullExact v = true ↔ v = 0)
    (p : List σ → Prop) [DecidablePred p] :
    wtBy p (prunedResult cfg isNullExact outLt d keep).tab = wtBy p d.tab := by
  unfold prunedResult
  rw [wtBy_finish_trimmed, zip_map_self, wtBy_pruneRows keep hs hex]
  exact List.forall_mem_map.mpr fun o _ => hs.lookupD_null_zero o

/-- The constructor accepts the pruned arguments. `h0` (zero is null) is what makes the range check
pass for a kept outcome that the source does not store. -/
theorem prunedDist_ok (hs : Source cfg d) (hex : ∀ v, isNullExact v = true ↔ v = 0)
    (h0 : cfg.isNull d.base 0 = true) :
    prunedDist cfg isNullExact symLt outLt d keep
      = .ok (prunedResult cfg isNullExact outLt d keep) := by
  rw [prunedDist_eq]
  refine construct_trimmed_ok cfg _ _ d.base symLt outLt _ (List.length_map _)
    (fun h => Bool.false_ne_true h.2) ?_ (fun o ho => mem_isort.mpr ho)
    (List.forall_mem_map.mpr fun o _ => hs.lookupD_null_zero o) ?_
    (List.forall_mem_map.mpr fun o _ hn => ?_)
  · rw [raggedArg_eq_false_iff]
    exact fun x hx y hy =>
      hs.rect x (mem_space_of_mem_pruneKeys hx) y (mem_space_of_mem_pruneKeys hy)
  · rw [← vals_map_graph, ← mass_eq_lsum_vals, ← wtBy_true, wtBy_pruneRows keep hs hex, wtBy_true,
      mass_eq_lsum_vals]
    exact hs.normOK
  · rcases lookupD_zero_or_mem d.tab o with h | h
    · rw [h, h0] at hn; cases hn
    · exact hs.rangeOK _ (List.mem_map_of_mem h)

theorem get_prunedResult (hs : Source cfg d) {o : List σ}
    (ho : o ∈ pruneKeys isNullExact d keep) :
    (prunedResult cfg isNullExact outLt d keep).get o = d.get o := by
  rw [get_of_mem_space (mem_space_of_mem_pruneKeys ho)]
  refine get_finish_trimmed cfg _ _ _ _ (pruneKeys_nodup keep hs) (mem_isort.mpr ho) ?_
    (hs.lookupD_null_zero o)
  rw [zip_map_self]
  exact List.mem_map_of_mem ho

theorem wf_prunedResult (hs : Source cfg d) :
    Machine.WF (prunedResult cfg isNullExact outLt d keep) :=
  Machine.wf_finish cfg (.expl (isort outLt (pruneKeys isNullExact d keep)))
    (nodup_isort.mpr (pruneKeys_nodup keep hs)) (pruneKeys isNullExact d keep) _
    (pruneKeys_nodup keep hs) (fun _ ho => mem_isort.mpr ho) d.base true true

theorem source_prunedResult (hs : Source cfg d) (hex : ∀ v, isNullExact v = true ↔ v = 0)
    (h0 : cfg.isNull d.base 0 = true) :
    Source cfg (prunedResult cfg isNullExact outLt d keep) := by
  have hwf := wf_prunedResult outLt keep (isNullExact := isNullExact) hs
  refine ⟨hwf.nodup, hwf.keys_nodup, ?_, fun x hx y hy => ?_, fun r hr hn => ?_⟩
  · exact validate_of_construct_ok (prunedDist_eq cfg isNullExact (fun _ _ => false) outLt d keep ▸
      prunedDist_ok (fun _ _ => false) outLt keep hs hex h0)
  · rw [mem_prunedResult_space] at hx hy
    exact hs.rect x (mem_space_of_mem_pruneKeys hx) y (mem_space_of_mem_pruneKeys hy)
  · rw [prunedResult_base, prunedResult_trimmed cfg isNullExact outLt d keep r hr] at hn
    cases hn

/-- **Fixed points of pruning.** A sparse, well-formed source that stores no zero, on an explicit
sample space sorted by `outLt` each member of which has a non-zero value, is returned unchanged
when nothing is kept on request. -/
theorem prunedResult_eq_self (hs : Source cfg d) (hwf : Machine.WF d)
    (hex : ∀ v, isNullExact v = true ↔ v = 0) (h0 : cfg.isNull d.base 0 = true)
    {l : List (List σ)} (hsp : d.space = .expl l) (hl : l.Pairwise (fun a b => outLt b a = false))
    (hsparse : d.sparse = true) (hnz : ∀ o ∈ l, d.get o ≠ some 0) (hst : ∀ r ∈ d.tab, r.2 ≠ 0) :
    prunedResult cfg isNullExact outLt d [] = d := by
  have hl' : d.space.toList = l := by rw [hsp]; rfl
  have hK : pruneKeys isNullExact d [] = l := by
    rw [← hl'] at hnz ⊢
    exact List.filter_eq_self.mpr fun o ho =>
      (List.mem_filter.mp ((mem_pruneKeys isNullExact d [] hex o).mpr ⟨ho, Or.inl (hnz o ho)⟩)).2
  refine wf_ext_of_get (wf_prunedResult outLt [] hs) hwf (fun r hr e => ?_) hst ?_
    ((prunedResult_sparse ..).trans hsparse.symm) (prunedResult_base ..)
    (fun o ho => get_prunedResult outLt [] hs ((mem_prunedResult_space ..).mp ho))
  · have := prunedResult_trimmed cfg isNullExact outLt d [] r hr
    rw [e, h0] at this
    cases this
  · rw [prunedResult_space, hK, isort_of_sorted outLt hl, hsp]

end Prune

/-! ### `expanded_samplespace` -/

section Expand
variable {σ α : Type} [DecidableEq σ] [AddCommMonoid α]
variable (cfg : NumCfg α) (symLt : σ → σ → Bool) (outLt : List σ → List σ → Bool)
  (d : Dist σ α) (union : Bool)

/-- The alphabets `expanded_samplespace` passes to `CartesianProduct`: the sorted alphabets of the
old sample space, or as many copies of their sorted union. -/
def expandAlphabets : List (List σ) :=
  if union then
    (d.space.alphabets.map (isort symLt)).map
      (fun _ => unionAlphabet symLt (d.space.alphabets.map (isort symLt)))
  else d.space.alphabets.map (isort symLt)

/-- The object `expanded_samplespace` builds. -/
def expandedResult : Dist σ α :=
  finish cfg (.cart ((expandAlphabets symLt d union).map (isort symLt))) (keys d.tab) (vals d.tab)
    d.base true true

theorem expandedDist_eq :
    expandedDist cfg symLt outLt d union
      = construct cfg symLt outLt (keys d.tab) (vals d.tab)
          (.cartesian (expandAlphabets symLt d union)) d.base true true := rfl

variable {cfg symLt outLt d union} in
theorem eq_expandedResult_of_ok {d' : Dist σ α}
    (h : expandedDist cfg symLt outLt d union = .ok d') :
    d' = expandedResult cfg symLt d union :=
  eq_finish_of_construct_ok (expandedDist_eq cfg symLt outLt d union ▸ h)

omit [AddCommMonoid α] in
theorem expandAlphabets_eq :
    expandAlphabets symLt d union = d.space.alphabets.map (fun a =>
      if union then unionAlphabet symLt (d.space.alphabets.map (isort symLt))
      else isort symLt a) := by
  cases union with
  | false => rfl
  | true => exact List.map_map

theorem mem_unionAlphabet {as : List (List σ)} {s : σ} :
    s ∈ unionAlphabet symLt as ↔ ∃ a ∈ as, s ∈ a := by
  unfold unionAlphabet
  rw [mem_isort, mem_dedup, List.mem_flatten]

omit [AddCommMonoid α] in
theorem mem_expanded_of_mem_space
    (hrect : ∀ x ∈ d.space.toList, ∀ y ∈ d.space.toList, x.length = y.length) {o : List σ}
    (ho : o ∈ d.space.toList) :
    o ∈ cartesian ((expandAlphabets symLt d union).map (isort symLt)) := by
  obtain ⟨hlen, hmem⟩ := mem_alphabets_of_mem_space hrect ho
  rw [expandAlphabets_eq, List.map_map, mem_cartesian_iff_getElem]
  refine ⟨by rw [List.length_map]; exact hlen, fun i h1 h2 => ?_⟩
  have h3 : i < d.space.alphabets.length := hlen ▸ h1
  rw [List.getElem_map, Function.comp_apply, mem_isort]
  cases union with
  | false => exact mem_isort.mpr (hmem i h1 h3)
  | true =>
    exact (mem_unionAlphabet symLt).mpr
      ⟨_, List.mem_map_of_mem (List.getElem_mem h3), mem_isort.mpr (hmem i h1 h3)⟩

variable {cfg d}

theorem wtBy_expandedResult (hs : Source cfg d) (p : List σ → Prop) [DecidablePred p] :
    wtBy p (expandedResult cfg symLt d union).tab = wtBy p d.tab := by
  unfold expandedResult
  rw [wtBy_finish_trimmed, zip_keys_vals]
  exact List.forall_mem_map.mpr hs.null_zero

theorem expandedDist_ok (hs : Source cfg d) :
    expandedDist cfg symLt outLt d union = .ok (expandedResult cfg symLt d union) := by
  rw [expandedDist_eq]
  refine construct_trimmed_ok cfg _ _ d.base symLt outLt _ (by simp [keys, vals])
    (fun h => Bool.false_ne_true h.2) rfl
    (fun o ho => mem_expanded_of_mem_space symLt d union hs.rect (hs.keys_mem o ho))
    (List.forall_mem_map.mpr hs.null_zero) hs.normOK (fun v hv _ => hs.rangeOK v hv)

variable (cfg)

@[simp] theorem expandedResult_space :
    (expandedResult cfg symLt d union).space
      = .cart ((expandAlphabets symLt d union).map (isort symLt)) := finish_space ..

@[simp] theorem expandedResult_base : (expandedResult cfg symLt d union).base = d.base :=
  finish_base ..

variable {cfg}

theorem get_expandedResult (hs : Source cfg d) {o : List σ} (ho : o ∈ d.space.toList) :
    (expandedResult cfg symLt d union).get o = d.get o := by
  have hN := mem_expanded_of_mem_space symLt d union hs.rect ho
  by_cases hk : o ∈ keys d.tab
  · obtain ⟨v, hv⟩ := mem_keys.mp hk
    exact (get_finish_trimmed cfg _ _ _ _ hs.keys_nodup hN ((zip_keys_vals d.tab).symm ▸ hv)
      (hs.null_zero _ hv)).trans (get_of_mem_tab hs.keys_nodup hs.keys_mem hv).symm
  · rw [get_of_mem_space ho, lookupD_of_not_mem 0 hk]
    exact get_finish_rest cfg _ _ _ _ _ _ hN hk

omit [AddCommMonoid α] in
/-- With a sensible symbol order the second sort of the alphabets (the one the constructor
applies to a `CartesianProduct`) changes nothing: every new alphabet is already sorted. -/
theorem expandAlphabets_sorted (hasym : ∀ a b, symLt a b = true → symLt b a = false)
    (htr : ∀ a b c, symLt b a = false → symLt c b = false → symLt c a = false) :
    (expandAlphabets symLt d union).map (isort symLt) = expandAlphabets symLt d union := by
  rw [expandAlphabets_eq, List.map_map]
  refine List.map_congr_left fun a _ => ?_
  cases union with
  | false => exact isort_isort symLt hasym htr a
  | true => exact isort_isort symLt hasym htr _

end Expand

/-! ### Concrete data for the non-vacuity examples of Props/C11Prune.lean -/

/-- A sparse distribution on `{0,1}²` that stores two of the four members of its sample space
(`[0,1]` and `[1,0]` have probability zero and are not stored). -/
def exSrc : Dist Nat Rat :=
  { space := .cart [[0, 1], [0, 1]],
    tab := [([0, 0], 1 / 4), ([1, 1], 3 / 4)],
    sparse := true, base := .linear }

/-- Exact null test at `Rat`. -/
def exNull : Rat → Bool := fun v => decide (v = 0)

theorem exSrc_source : Source ratCfg exSrc :=
  ⟨by decide, by decide, by decide +kernel,
    fun _ hx _ hy => (length_of_mem_cartesian hx).trans (length_of_mem_cartesian hy).symm,
    fun _ _ hn => of_decide_eq_true hn⟩

/-- The same table on an explicit, unsorted sample space with a zero-probability member. -/
def exSrc2 : Dist Nat Rat :=
  { space := .expl [[1, 1], [0, 2], [0, 0]],
    tab := [([1, 1], 3 / 4), ([0, 0], 1 / 4)],
    sparse := true, base := .linear }

theorem exSrc2_source : Source ratCfg exSrc2 :=
  ⟨by decide, by decide, by decide +kernel, by decide, fun _ _ hn => of_decide_eq_true hn⟩

theorem exNull_exact (v : Rat) : exNull v = true ↔ v = 0 := by simp [exNull]

/-! ### The orders of the examples are strict weak orders -/

theorem lexLt_asymm (a b : List Nat) (h : lexLt a b = true) : lexLt b a = false := by
  rw [← Bool.not_eq_true, lexLt_iff]
  exact List.lt_asymm ((lexLt_iff a b).mp h)

theorem lexLt_negtrans (a b c : List Nat) (h1 : lexLt b a = false) (h2 : lexLt c b = false) :
    lexLt c a = false := by
  rw [← Bool.not_eq_true, lexLt_iff, List.not_lt] at *
  exact List.le_trans h1 h2

theorem natLt_asymm (a b : Nat) (h : natLt a b = true) : natLt b a = false :=
  decide_eq_false (Nat.lt_asymm (of_decide_eq_true h))

theorem natLt_negtrans (a b c : Nat) (h1 : natLt b a = false) (h2 : natLt c b = false) :
    natLt c a = false :=
  decide_eq_false (Nat.not_lt.mpr (Nat.le_trans (Nat.not_lt.mp (of_decide_eq_false h1))
    (Nat.not_lt.mp (of_decide_eq_false h2))))

end Dit.Lemmas.PruneExpand
