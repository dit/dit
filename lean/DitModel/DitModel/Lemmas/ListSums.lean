/-
List sums written as sums over `Finset.range`. Part of the namespace `ListBasics`; a module of its own
so that `ListBasics`, and with it `Table`, does not import `Finset` sums.
-/
import Mathlib.Algebra.BigOperators.Group.Finset.Basic

namespace Dit.Lemmas.ListBasics

theorem sum_range_map {M : Type} [AddCommMonoid M] (f : Nat → M) (n : Nat) :
    ((List.range n).map f).sum = ∑ i ∈ Finset.range n, f i := rfl

end Dit.Lemmas.ListBasics
