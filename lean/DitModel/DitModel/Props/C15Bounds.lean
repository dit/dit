/-
C15 (companion) — the trivial bounds on secret-key agreement rates
(`dit.multivariate.secret_key_agreement.trivial_bounds`) hold at every feasible point.

The intrinsic measures minimise `I(X:Y|W)` (or `T`, `B`, `J` of the groups given `W`) over channels
`Z → W`.  The library's trivial bounds are
* lower: `max(0, I(X:Y) − I(X:Z), I(X:Y) − I(Y:Z))`  (`lower_intrinsic_mutual_information`),
* upper: `min(f(groups), f(groups | Z))` for `f ∈ {T, B, J}` (`upper_intrinsic_*`).
**Every** channel obeys the lower bound (data processing along `X,Y – Z – W`).  The two special channels
(constant, copy) attain the two arguments of each upper bound for `T`, `B` and every CAEKL candidate of `J`;
that a minimum over {constant, copy, optimiser's point} is at most the upper bound is stated for `T` and `B`
(`upper_tc_bound`, `upper_dtc_bound`), not for `J`.
-/
import DitModel.Props.C15
import DitModel.Lemmas.Bounds

namespace Dit.Props.C15Bounds
open Dit Dit.Lemmas.Table Dit.Lemmas.InfoAlg Dit.Lemmas.InfoReal
open Dit.Lemmas.AuxJoint (constChan copyChan auxStep_nonneg constChan_nonneg copyChan_nonneg)
open Dit.Lemmas.Bounds (xorT noisyChan xorT_row xorT_chan xorT_len xorT_nonneg xorT_fit cmi_agree dpi)

/-- **The directed lower bound holds for every channel**: with `W` (coordinate `n`) drawn from `Z` (single
parent `z`) through any non-negative channel with rows summing to one,
`I(X:Y) − I(X:Z) ≤ I(X:Y|W)`.  (`I(X:Y|W) ≥ I(X:Y) − I(X:W)` by the chain rule and `I(X:W) ≤ I(X:Z)` by data
processing, `I(X:W|Z) = 0`.) -/
theorem lower_imi_directed (t : Tab (List Nat) ℝ) (av : AuxVar) (chan : List Nat → Nat → ℝ) (n z : Nat)
    (hbases : av.bases = [z]) (hz : z < n)
    (hrow : ∀ o ∈ keys t, ((List.range av.bound).map (chan (project av.bases o))).sum = 1)
    (hchan : ∀ o ∈ keys t, ∀ k < av.bound, 0 ≤ chan (project av.bases o) k)
    (hlen : ∀ o ∈ keys t, o.length = n) (hnn : ∀ r ∈ t, 0 ≤ r.2)
    (X Y : VSet) (hX : ∀ v ∈ X, v < n) (hY : ∀ v ∈ Y, v < n) :
    Comb.eval (Rat.castHom ℝ) (entropyOf (Real.logb 2) t) (cmiC X Y [])
        - Comb.eval (Rat.castHom ℝ) (entropyOf (Real.logb 2) t) (cmiC X [z] [])
      ≤ Comb.eval (Rat.castHom ℝ) (entropyOf (Real.logb 2) (auxStep t av chan)) (cmiC X Y [n]) := by
  have hz' : ∀ i ∈ [z], i < n := by simpa using hz
  have hmk := Props.C15.aux_cmi_zero t av chan n X hrow hlen hnn (hbases ▸ hz') hX
  rw [hbases, eval_cmiC] at hmk
  have old := fun S => Props.C15.aux_entropy_old t av chan n S hrow hlen
  rw [← cmi_agree _ old hX hY (by simp), ← cmi_agree _ old hX hz' (by simp), eval_cmiC, eval_cmiC,
    eval_cmiC]
  exact dpi (entropy_Submod _ (auxStep_nonneg t av chan hnn hchan)) X Y hmk

/-- Non-vacuity: the hypotheses hold for `X₀, X₁` fair and independent, `Z = X₀ xor X₁` (`xorT`,
Lemmas/Bounds.lean), `W` a noisy copy of `Z` (`noisyChan`: 3/4 on the parent's value), `X = {0}`,
`Y = {1}`, `z = 2`, `n = 3`. -/
example : Comb.eval (Rat.castHom ℝ) (entropyOf (Real.logb 2) xorT) (cmiC [0] [1] []) - Comb.eval (Rat.castHom ℝ) (entropyOf (Real.logb 2) xorT) (cmiC [0] [2] [])
    ≤ Comb.eval (Rat.castHom ℝ) (entropyOf (Real.logb 2) (auxStep xorT ⟨[2], 2⟩ noisyChan)) (cmiC [0] [1] [3]) :=
  lower_imi_directed xorT ⟨[2], 2⟩ noisyChan 3 2 rfl (by decide) xorT_row xorT_chan xorT_len
    xorT_nonneg [0] [1] (by decide) (by decide)

/-- **`lower_intrinsic_mutual_information` is a lower bound at every feasible point**:
`max(0, I(X:Y) − I(X:Z), I(X:Y) − I(Y:Z)) ≤ I(X:Y|W)` for every channel `Z → W`. -/
theorem lower_imi (t : Tab (List Nat) ℝ) (av : AuxVar) (chan : List Nat → Nat → ℝ) (n z : Nat)
    (hbases : av.bases = [z]) (hz : z < n)
    (hrow : ∀ o ∈ keys t, ((List.range av.bound).map (chan (project av.bases o))).sum = 1)
    (hchan : ∀ o ∈ keys t, ∀ k < av.bound, 0 ≤ chan (project av.bases o) k)
    (hlen : ∀ o ∈ keys t, o.length = n) (hnn : ∀ r ∈ t, 0 ≤ r.2)
    (X Y : VSet) (hX : ∀ v ∈ X, v < n) (hY : ∀ v ∈ Y, v < n) :
    max 0 (max
        (Comb.eval (Rat.castHom ℝ) (entropyOf (Real.logb 2) t) (cmiC X Y [])
          - Comb.eval (Rat.castHom ℝ) (entropyOf (Real.logb 2) t) (cmiC X [z] []))
        (Comb.eval (Rat.castHom ℝ) (entropyOf (Real.logb 2) t) (cmiC Y X [])
          - Comb.eval (Rat.castHom ℝ) (entropyOf (Real.logb 2) t) (cmiC Y [z] [])))
      ≤ Comb.eval (Rat.castHom ℝ) (entropyOf (Real.logb 2) (auxStep t av chan)) (cmiC X Y [n]) := by
  have h1 := lower_imi_directed t av chan n z hbases hz hrow hchan hlen hnn X Y hX hY
  have h2 := lower_imi_directed t av chan n z hbases hz hrow hchan hlen hnn Y X hY hX
  rw [Lemmas.Bounds.cmi_symm _ _ Y X [n]] at h2
  have h0 := Props.C05.cmi_nonneg _ (auxStep_nonneg t av chan hnn hchan) X Y [n]
  exact max_le h0 (max_le h1 h2)

/-- Non-vacuity on the same data. -/
example : max 0 (max (Comb.eval (Rat.castHom ℝ) (entropyOf (Real.logb 2) xorT) (cmiC [0] [1] []) - Comb.eval (Rat.castHom ℝ) (entropyOf (Real.logb 2) xorT) (cmiC [0] [2] []))
      (Comb.eval (Rat.castHom ℝ) (entropyOf (Real.logb 2) xorT) (cmiC [1] [0] []) - Comb.eval (Rat.castHom ℝ) (entropyOf (Real.logb 2) xorT) (cmiC [1] [2] [])))
    ≤ Comb.eval (Rat.castHom ℝ) (entropyOf (Real.logb 2) (auxStep xorT ⟨[2], 2⟩ noisyChan)) (cmiC [0] [1] [3]) :=
  lower_imi xorT ⟨[2], 2⟩ noisyChan 3 2 rfl (by decide) xorT_row xorT_chan xorT_len
    xorT_nonneg [0] [1] (by decide) (by decide)

/-- **Values of the group measures at the two special channels**: at the constant channel, total
correlation, dual total correlation and every CAEKL candidate of the groups given `W` equal the
unconditioned values on the input; at the copy channel they equal the values given `Z`. -/
theorem group_measures_at_special_channels (t : Tab (List Nat) ℝ) (av : AuxVar) (n z : Nat)
    (hbd : 1 ≤ av.bound) (hbases : av.bases = [z]) (hz : z < n)
    (hfit : ∀ o ∈ keys t, ∀ j, o[z]? = some j → j < av.bound)
    (hlen : ∀ o ∈ keys t, o.length = n) (groups : List VSet) (hg : ∀ g ∈ groups, ∀ v ∈ g, v < n) :
    (Comb.eval (Rat.castHom ℝ) (entropyOf (Real.logb 2) (auxStep t av constChan)) (tcC groups [n])
        = Comb.eval (Rat.castHom ℝ) (entropyOf (Real.logb 2) t) (tcC groups []))
    ∧ (Comb.eval (Rat.castHom ℝ) (entropyOf (Real.logb 2) (auxStep t av copyChan)) (tcC groups [n])
        = Comb.eval (Rat.castHom ℝ) (entropyOf (Real.logb 2) t) (tcC groups [z]))
    ∧ (Comb.eval (Rat.castHom ℝ) (entropyOf (Real.logb 2) (auxStep t av constChan)) (dtcC groups [n])
        = Comb.eval (Rat.castHom ℝ) (entropyOf (Real.logb 2) t) (dtcC groups []))
    ∧ (Comb.eval (Rat.castHom ℝ) (entropyOf (Real.logb 2) (auxStep t av copyChan)) (dtcC groups [n])
        = Comb.eval (Rat.castHom ℝ) (entropyOf (Real.logb 2) t) (dtcC groups [z]))
    ∧ (∀ P : List (List VSet), (∀ B ∈ P, ∀ g ∈ B, g ∈ groups) →
        Comb.eval (Rat.castHom ℝ) (entropyOf (Real.logb 2) (auxStep t av constChan)) (caeklCand groups [n] P)
          = Comb.eval (Rat.castHom ℝ) (entropyOf (Real.logb 2) t) (caeklCand groups [] P)
        ∧ Comb.eval (Rat.castHom ℝ) (entropyOf (Real.logb 2) (auxStep t av copyChan)) (caeklCand groups [n] P)
          = Comb.eval (Rat.castHom ℝ) (entropyOf (Real.logb 2) t) (caeklCand groups [z] P)) := by
  have hc := Lemmas.AuxJoint.entropyOf_const t av n hbd hlen
  have hk := Lemmas.AuxJoint.entropyOf_copy t av n z hbases hz hfit hlen
  refine ⟨Lemmas.Bounds.tc_transfer _ _ _ n [] hc groups hg,
    Lemmas.Bounds.tc_transfer _ _ _ n [z] hk groups hg,
    Lemmas.Bounds.dtc_transfer _ _ _ n [] hc groups hg,
    Lemmas.Bounds.dtc_transfer _ _ _ n [z] hk groups hg, ?_⟩
  intro P hP
  exact ⟨Lemmas.Bounds.caekl_transfer _ _ _ n [] hc groups hg P hP,
    Lemmas.Bounds.caekl_transfer _ _ _ n [z] hk groups hg P hP⟩

/-- Non-vacuity: `xorT`, a binary `W` with parent `z = 2`, groups `{0}`, `{1}`, and (for the last
clause) the partition into singletons. -/
example : Comb.eval (Rat.castHom ℝ) (entropyOf (Real.logb 2) (auxStep xorT ⟨[2], 2⟩ copyChan)) (tcC [[0], [1]] [3])
      = Comb.eval (Rat.castHom ℝ) (entropyOf (Real.logb 2) xorT) (tcC [[0], [1]] [2])
    ∧ Comb.eval (Rat.castHom ℝ) (entropyOf (Real.logb 2) (auxStep xorT ⟨[2], 2⟩ copyChan)) (caeklCand [[0], [1]] [3] [[[0]], [[1]]])
      = Comb.eval (Rat.castHom ℝ) (entropyOf (Real.logb 2) xorT) (caeklCand [[0], [1]] [2] [[[0]], [[1]]]) :=
  have h := group_measures_at_special_channels xorT ⟨[2], 2⟩ 3 2 (by decide) rfl (by decide)
    xorT_fit xorT_len [[0], [1]] (by decide)
  ⟨h.2.1, (h.2.2.2.2 [[[0]], [[1]]] (by decide)).2⟩

/-- **The upper trivial bound for total correlation**: a reported minimum over the constant channel, the
copy channel and any further value `c` is at most `min(T(groups), T(groups|Z))`. -/
theorem upper_tc_bound (t : Tab (List Nat) ℝ) (av : AuxVar) (n z : Nat) (c : ℝ)
    (hbd : 1 ≤ av.bound) (hbases : av.bases = [z]) (hz : z < n)
    (hfit : ∀ o ∈ keys t, ∀ j, o[z]? = some j → j < av.bound)
    (hlen : ∀ o ∈ keys t, o.length = n) (groups : List VSet) (hg : ∀ g ∈ groups, ∀ v ∈ g, v < n) :
    min (Comb.eval (Rat.castHom ℝ) (entropyOf (Real.logb 2) (auxStep t av constChan)) (tcC groups [n]))
        (min (Comb.eval (Rat.castHom ℝ) (entropyOf (Real.logb 2) (auxStep t av copyChan)) (tcC groups [n])) c)
      ≤ min (Comb.eval (Rat.castHom ℝ) (entropyOf (Real.logb 2) t) (tcC groups []))
          (Comb.eval (Rat.castHom ℝ) (entropyOf (Real.logb 2) t) (tcC groups [z])) := by
  obtain ⟨h1, h2, -⟩ := group_measures_at_special_channels t av n z hbd hbases hz hfit hlen groups hg
  rw [h1, h2]
  exact min_le_min_left _ (min_le_left _ _)

/-- Non-vacuity on the same data (any third value `c`, here `0`). -/
example : min (Comb.eval (Rat.castHom ℝ) (entropyOf (Real.logb 2) (auxStep xorT ⟨[2], 2⟩ constChan)) (tcC [[0], [1]] [3]))
      (min (Comb.eval (Rat.castHom ℝ) (entropyOf (Real.logb 2) (auxStep xorT ⟨[2], 2⟩ copyChan)) (tcC [[0], [1]] [3])) 0)
    ≤ min (Comb.eval (Rat.castHom ℝ) (entropyOf (Real.logb 2) xorT) (tcC [[0], [1]] []))
        (Comb.eval (Rat.castHom ℝ) (entropyOf (Real.logb 2) xorT) (tcC [[0], [1]] [2])) :=
  upper_tc_bound xorT ⟨[2], 2⟩ 3 2 0 (by decide) rfl (by decide) xorT_fit xorT_len [[0], [1]]
    (by decide)

/-- **The upper trivial bound for dual total correlation**: a reported minimum over the constant channel,
the copy channel and any further value `c` is at most `min(B(groups), B(groups|Z))`. -/
theorem upper_dtc_bound (t : Tab (List Nat) ℝ) (av : AuxVar) (n z : Nat) (c : ℝ)
    (hbd : 1 ≤ av.bound) (hbases : av.bases = [z]) (hz : z < n)
    (hfit : ∀ o ∈ keys t, ∀ j, o[z]? = some j → j < av.bound)
    (hlen : ∀ o ∈ keys t, o.length = n) (groups : List VSet) (hg : ∀ g ∈ groups, ∀ v ∈ g, v < n) :
    min (Comb.eval (Rat.castHom ℝ) (entropyOf (Real.logb 2) (auxStep t av constChan)) (dtcC groups [n]))
        (min (Comb.eval (Rat.castHom ℝ) (entropyOf (Real.logb 2) (auxStep t av copyChan)) (dtcC groups [n])) c)
      ≤ min (Comb.eval (Rat.castHom ℝ) (entropyOf (Real.logb 2) t) (dtcC groups []))
          (Comb.eval (Rat.castHom ℝ) (entropyOf (Real.logb 2) t) (dtcC groups [z])) := by
  obtain ⟨-, -, h1, h2, -⟩ :=
    group_measures_at_special_channels t av n z hbd hbases hz hfit hlen groups hg
  rw [h1, h2]
  exact min_le_min_left _ (min_le_left _ _)

/-- Non-vacuity on the same data. -/
example : min (Comb.eval (Rat.castHom ℝ) (entropyOf (Real.logb 2) (auxStep xorT ⟨[2], 2⟩ constChan)) (dtcC [[0], [1]] [3]))
      (min (Comb.eval (Rat.castHom ℝ) (entropyOf (Real.logb 2) (auxStep xorT ⟨[2], 2⟩ copyChan)) (dtcC [[0], [1]] [3])) 0)
    ≤ min (Comb.eval (Rat.castHom ℝ) (entropyOf (Real.logb 2) xorT) (dtcC [[0], [1]] []))
        (Comb.eval (Rat.castHom ℝ) (entropyOf (Real.logb 2) xorT) (dtcC [[0], [1]] [2])) :=
  upper_dtc_bound xorT ⟨[2], 2⟩ 3 2 0 (by decide) rfl (by decide) xorT_fit xorT_len [[0], [1]]
    (by decide)

/-- **The lower bound is below the reported minimum**: `max(0, I(X:Y) − I(X:Z))`, one of the two directed
lower bounds of `lower_imi`, is at most `I(X:Y|W)` at the constant channel, the copy channel and any further
channel.  (The upper half of the bracket is `upper_tc_bound` with the groups `X`, `Y`.) -/
theorem imi_bracketed (t : Tab (List Nat) ℝ) (av : AuxVar) (chan : List Nat → Nat → ℝ) (n z : Nat)
    (hbd : 1 ≤ av.bound) (hbases : av.bases = [z]) (hz : z < n)
    (hfit : ∀ o ∈ keys t, ∀ j, o[z]? = some j → j < av.bound)
    (hrow : ∀ o ∈ keys t, ((List.range av.bound).map (chan (project av.bases o))).sum = 1)
    (hchan : ∀ o ∈ keys t, ∀ k < av.bound, 0 ≤ chan (project av.bases o) k)
    (hlen : ∀ o ∈ keys t, o.length = n) (hnn : ∀ r ∈ t, 0 ≤ r.2)
    (X Y : VSet) (hX : ∀ v ∈ X, v < n) (hY : ∀ v ∈ Y, v < n) :
    max 0 (Comb.eval (Rat.castHom ℝ) (entropyOf (Real.logb 2) t) (cmiC X Y [])
            - Comb.eval (Rat.castHom ℝ) (entropyOf (Real.logb 2) t) (cmiC X [z] []))
      ≤ min (Comb.eval (Rat.castHom ℝ) (entropyOf (Real.logb 2) (auxStep t av constChan)) (cmiC X Y [n]))
          (min (Comb.eval (Rat.castHom ℝ) (entropyOf (Real.logb 2) (auxStep t av copyChan)) (cmiC X Y [n]))
            (Comb.eval (Rat.castHom ℝ) (entropyOf (Real.logb 2) (auxStep t av chan)) (cmiC X Y [n]))) := by
  have h := fun (c : List Nat → Nat → ℝ) hr hc =>
    (max_le_max_left 0 (le_max_left _ _)).trans
      (lower_imi t av c n z hbases hz hr hc hlen hnn X Y hX hY)
  exact le_min
    (h constChan (fun o _ => Lemmas.AuxJoint.constChan_row_sum av.bound hbd _)
      fun _ _ k _ => constChan_nonneg _ k)
    (le_min
      (h copyChan (Lemmas.AuxJoint.copyChan_row_of_fit t av n z hbases hz hfit hlen)
        fun _ _ k _ => copyChan_nonneg _ k)
      (h chan hrow hchan))

/-- Non-vacuity: all hypotheses together on `xorT` with the noisy copy of `Z`. -/
example : max 0 (Comb.eval (Rat.castHom ℝ) (entropyOf (Real.logb 2) xorT) (cmiC [0] [1] []) - Comb.eval (Rat.castHom ℝ) (entropyOf (Real.logb 2) xorT) (cmiC [0] [2] []))
    ≤ min (Comb.eval (Rat.castHom ℝ) (entropyOf (Real.logb 2) (auxStep xorT ⟨[2], 2⟩ constChan)) (cmiC [0] [1] [3]))
        (min (Comb.eval (Rat.castHom ℝ) (entropyOf (Real.logb 2) (auxStep xorT ⟨[2], 2⟩ copyChan)) (cmiC [0] [1] [3]))
          (Comb.eval (Rat.castHom ℝ) (entropyOf (Real.logb 2) (auxStep xorT ⟨[2], 2⟩ noisyChan)) (cmiC [0] [1] [3]))) :=
  imi_bracketed xorT ⟨[2], 2⟩ noisyChan 3 2 (by decide) rfl (by decide) xorT_fit xorT_row xorT_chan
    xorT_len xorT_nonneg [0] [1] (by decide) (by decide)

end Dit.Props.C15Bounds
