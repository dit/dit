/-
Helper lemmas for C11 (table-operation part): `project` onto ranges, `insertRvf`, tables of
pairs of rows (the common shape of `combine`, `matmul` and `productTabs`), `productTabs`,
`mixture`, `mixture2`, `uniformTab`, `erasureTab`, `meanTab`, `centralMoment`, `modeTab`,
`cumVals` of Core/Constructors.lean, and the model of the median.
Property theorems: Props/C11.lean.
-/
import DitModel.Core.Constructors
import DitModel.Lemmas.Table
import DitModel.Lemmas.Cond
import Mathlib.Algebra.Order.Field.Basic
import Mathlib.Algebra.BigOperators.Ring.List
import Mathlib.Algebra.BigOperators.Group.List.Lemmas
import Mathlib.Algebra.CharZero.Defs
import Mathlib.Tactic.Ring
import Mathlib.Tactic.FieldSimp
import Mathlib.Data.Nat.Cast.Basic
import Mathlib.Tactic.Linarith

namespace Dit.Lemmas.Constructors
open Dit Dit.Lemmas.ListBasics Dit.Lemmas.Table Dit.Lemmas.Cond

/-! ## `project` onto ranges -/

section ProjectRange
variable {σ : Type}

theorem project_append (g h : List Nat) (o : List σ) :
    project (g ++ h) o = project g o ++ project h o := by
  simp [project, List.filterMap_append]

theorem project_range'_eq_take_drop (s k : Nat) (o : List σ) :
    project (List.range' s k) o = (o.drop s).take k := by
  induction k generalizing s with
  | zero => simp [project]
  | succ k ih =>
    rw [List.range'_succ, project_cons, ih]
    by_cases hs : s < o.length
    · rw [List.getElem?_eq_getElem hs]
      simp only
      rw [List.drop_eq_getElem_cons hs, List.take_succ_cons]
    · have hle := Nat.le_of_not_lt hs
      rw [List.getElem?_eq_none hle]
      simp only
      rw [List.drop_eq_nil_of_le hle, List.drop_eq_nil_of_le (Nat.le_succ_of_le hle),
        List.take_nil, List.take_nil]

theorem project_range (k : Nat) (o : List σ) : project (List.range k) o = o.take k := by
  rw [List.range_eq_range', project_range'_eq_take_drop]; simp

end ProjectRange

/-! ## `insertRvf` -/

section Insert
variable {σ α : Type}

/-- The new outcome that `insert_rvf` builds from `o`. -/
def insOut (f : List σ → List σ) (index : Option Nat) (o : List σ) : List σ :=
  match index with
  | none => o ++ f o
  | some i => o.take i ++ f o ++ o.drop i

theorem insertRvf_eq_map (f : List σ → List σ) (index : Option Nat) (t : Tab (List σ) α) :
    insertRvf f index t = t.map (fun r => (insOut f index r.1, r.2)) := by
  cases index <;> rfl

theorem keys_insertRvf (f : List σ → List σ) (index : Option Nat) (t : Tab (List σ) α) :
    keys (insertRvf f index t) = (keys t).map (insOut f index) := by
  rw [insertRvf_eq_map]; simp [keys, Function.comp_def]

theorem vals_insertRvf (f : List σ → List σ) (index : Option Nat) (t : Tab (List σ) α) :
    vals (insertRvf f index t) = vals t := by
  rw [insertRvf_eq_map]; simp [vals, Function.comp_def]

theorem project_insert_old (o x : List σ) (i : Nat) (hi : i ≤ o.length) :
    project (List.range i ++ List.range' (i + x.length) (o.length - i))
      (o.take i ++ x ++ o.drop i) = o := by
  have hlt : (o.take i).length = i := List.length_take_of_le hi
  rw [project_append, project_range, project_range'_eq_take_drop, List.append_assoc, List.take_left' hlt,
    ← List.append_assoc, List.drop_left' (by rw [List.length_append, hlt]),
    List.take_of_length_le (l := o.drop i) (by rw [List.length_drop]), List.take_append_drop]

theorem insOut_injOn (f : List σ → List σ) (index : Option Nat) (n m : Nat)
    (o o' : List σ) (hn : o.length = n) (hn' : o'.length = n)
    (hm : index ≠ none → (f o).length = m ∧ (f o').length = m)
    (h : insOut f index o = insOut f index o') : o = o' := by
  cases index with
  | none =>
    exact (List.append_inj h (by rw [hn, hn'])).1
  | some i =>
    obtain ⟨hm1, hm2⟩ := hm (by simp)
    have h' : o.take i ++ f o ++ o.drop i = o'.take i ++ f o' ++ o'.drop i := h
    have hl : (o.take i).length = (o'.take i).length := by
      rw [List.length_take, List.length_take, hn, hn']
    rw [List.append_assoc, List.append_assoc] at h'
    obtain ⟨h1, h2⟩ := List.append_inj h' hl
    obtain ⟨_, h3⟩ := List.append_inj h2 (by rw [hm1, hm2])
    rw [← List.take_append_drop i o, ← List.take_append_drop i o', h1, h3]

end Insert

section InsertWt
variable {σ α : Type} [DecidableEq σ] [AddCommMonoid α]

omit [DecidableEq σ] in
theorem wtBy_insertRvf (p : List σ → Prop) [DecidablePred p] (f : List σ → List σ)
    (index : Option Nat) (t : Tab (List σ) α) :
    wtBy p (insertRvf f index t) = wtBy (fun o => p (insOut f index o)) t := by
  rw [insertRvf_eq_map, wtBy_map_key]

omit [DecidableEq σ] [AddCommMonoid α] in
theorem insertRvf_keys_nodup (f : List σ → List σ) (index : Option Nat) (n m : Nat)
    (t : Tab (List σ) α) (hnd : (keys t).Nodup) (hn : ∀ k ∈ keys t, k.length = n)
    (hm : index ≠ none → ∀ k ∈ keys t, (f k).length = m) :
    (keys (insertRvf f index t)).Nodup := by
  rw [keys_insertRvf]
  refine hnd.map_on ?_
  intro o ho o' ho' e
  exact insOut_injOn f index n m o o' (hn o ho) (hn o' ho')
    (fun hne => ⟨hm hne o ho, hm hne o' ho'⟩) e

theorem wtBy_pushforward_insertRvf (p : List σ → Prop) [DecidablePred p] (f : List σ → List σ)
    (index : Option Nat) (g : List σ → List σ) (t : Tab (List σ) α)
    (hg : ∀ k ∈ keys t, g (insOut f index k) = k) :
    wtBy p (pushforward g (insertRvf f index t)) = wtBy p t := by
  rw [wtBy_pushforward, wtBy_insertRvf]
  exact wtBy_congr _ _ t fun k hk => by rw [hg k hk]

omit [AddCommMonoid α] in
theorem lookup?_insertRvf (f : List σ → List σ) (index : Option Nat) (n m : Nat)
    (t : Tab (List σ) α) (hnd : (keys t).Nodup) (hn : ∀ k ∈ keys t, k.length = n)
    (hm : index ≠ none → ∀ k ∈ keys t, (f k).length = m) (o : List σ) (v : α)
    (hov : (o, v) ∈ t) :
    lookup? (insertRvf f index t) (insOut f index o) = some v := by
  rw [lookup?_eq_some_iff (insertRvf_keys_nodup f index n m t hnd hn hm), insertRvf_eq_map]
  exact List.mem_map.mpr ⟨(o, v), hov, rfl⟩

end InsertWt

/-! ## Independent products of two tables -/

section Prod2
variable {κ₁ κ₂ κ α : Type} [Semiring α]

theorem wtBy_pairs (p : κ → Prop) [DecidablePred p] (G : κ₁ → κ₂ → κ) (t1 : Tab κ₁ α)
    (t2 : Tab κ₂ α) :
    wtBy p (t1.flatMap (fun r => t2.map (fun s => (G r.1 s.1, r.2 * s.2))))
      = (t1.map (fun r => (t2.map (fun s => if p (G r.1 s.1) then r.2 * s.2 else 0)).sum)).sum := by
  rw [wtBy_flatMap]
  apply congrArg
  apply List.map_congr_left
  intro r _
  simp [wtBy, Function.comp_def]

theorem sum_pairs_rect (P : κ₁ → Prop) [DecidablePred P] (Q : κ₂ → Prop) [DecidablePred Q]
    (t1 : Tab κ₁ α) (t2 : Tab κ₂ α) :
    (t1.map (fun r => (t2.map (fun s => if P r.1 ∧ Q s.1 then r.2 * s.2 else 0)).sum)).sum
      = wtBy P t1 * wtBy Q t2 := by
  simp only [← ite_zero_mul_ite_zero, List.sum_map_mul_left, List.sum_map_mul_right]
  rfl

theorem wtBy_pairs_rect (p : κ → Prop) [DecidablePred p] (G : κ₁ → κ₂ → κ)
    (P : κ₁ → Prop) [DecidablePred P] (Q : κ₂ → Prop) [DecidablePred Q]
    (t1 : Tab κ₁ α) (t2 : Tab κ₂ α)
    (h : ∀ a ∈ keys t1, ∀ b ∈ keys t2, p (G a b) ↔ P a ∧ Q b) :
    wtBy p (t1.flatMap (fun r => t2.map (fun s => (G r.1 s.1, r.2 * s.2))))
      = wtBy P t1 * wtBy Q t2 := by
  rw [wtBy_pairs, ← sum_pairs_rect]
  apply congrArg
  apply List.map_congr_left
  intro r hr
  apply congrArg
  apply List.map_congr_left
  intro s hs
  have := h r.1 (List.mem_map_of_mem hr) s.1 (List.mem_map_of_mem hs)
  by_cases hp : p (G r.1 s.1)
  · rw [if_pos hp, if_pos (this.mp hp)]
  · rw [if_neg hp, if_neg (fun hh => hp (this.mpr hh))]

theorem mass_pairs (G : κ₁ → κ₂ → κ) (t1 : Tab κ₁ α) (t2 : Tab κ₂ α) :
    mass (t1.flatMap (fun r => t2.map (fun s => (G r.1 s.1, r.2 * s.2)))) = mass t1 * mass t2 := by
  rw [← wtBy_true, ← wtBy_true, ← wtBy_true]
  exact wtBy_pairs_rect _ G _ _ t1 t2 (fun _ _ _ _ => by simp)

theorem keys_pairs (G : κ₁ → κ₂ → κ) (t1 : Tab κ₁ α) (t2 : Tab κ₂ α) :
    keys (t1.flatMap (fun r => t2.map (fun s => (G r.1 s.1, r.2 * s.2))))
      = (keys t1).flatMap (fun a => (keys t2).map (G a)) := by
  simp [keys, List.map_flatMap, List.flatMap_map, Function.comp_def]

theorem mem_keys_pairs (G : κ₁ → κ₂ → κ) (t1 : Tab κ₁ α) (t2 : Tab κ₂ α) (k : κ) :
    k ∈ keys (t1.flatMap (fun r => t2.map (fun s => (G r.1 s.1, r.2 * s.2))))
      ↔ ∃ a ∈ keys t1, ∃ b ∈ keys t2, G a b = k := by
  simp only [keys_pairs, List.mem_flatMap, List.mem_map]

theorem keys_pairs_nodup (G : κ₁ → κ₂ → κ) (t1 : Tab κ₁ α) (t2 : Tab κ₂ α)
    (h1 : (keys t1).Nodup) (h2 : (keys t2).Nodup)
    (hinj : ∀ a ∈ keys t1, ∀ a' ∈ keys t1, ∀ b ∈ keys t2, ∀ b' ∈ keys t2,
      G a b = G a' b' → a = a' ∧ b = b') :
    (keys (t1.flatMap (fun r => t2.map (fun s => (G r.1 s.1, r.2 * s.2))))).Nodup := by
  rw [keys_pairs, List.nodup_flatMap]
  constructor
  · intro a ha
    refine h2.map_on ?_
    intro b hb b' hb' e
    exact (hinj a ha a ha b hb b' hb' e).2
  · refine h1.imp_of_mem ?_
    intro a a' ha ha' hne
    simp only [Function.onFun]
    rw [List.disjoint_left]
    intro z hz hz'
    obtain ⟨b, hb, rfl⟩ := List.mem_map.mp hz
    obtain ⟨b', hb', e⟩ := List.mem_map.mp hz'
    exact hne (hinj a' ha' a ha b' hb' b hb e).1.symm

end Prod2

/-! ## `productTabs` / `productDistribution` -/

section Product
variable {σ α : Type} [DecidableEq σ] [CommSemiring α]

omit [DecidableEq σ] in
theorem productTabs_nil : productTabs ([] : List (Tab (List σ) α)) = [([], 1)] := rfl

omit [DecidableEq σ] in
theorem productTabs_cons (t : Tab (List σ) α) (rest : List (Tab (List σ) α)) :
    productTabs (t :: rest)
      = t.flatMap (fun r => (productTabs rest).map (fun s => (r.1 ++ s.1, r.2 * s.2))) := rfl

omit [DecidableEq σ] in
theorem productTabs_single (t : Tab (List σ) α) : productTabs [t] = t := by
  rw [productTabs_cons, productTabs_nil]
  simp

theorem wtBy_productTabs_cons_eq (t : Tab (List σ) α) (rest : List (Tab (List σ) α))
    (o s : List σ) (hlen : ∀ k ∈ keys t, k.length = o.length) :
    wtBy (fun k => k = o ++ s) (productTabs (t :: rest))
      = wtBy (fun k => k = o) t * wtBy (fun k => k = s) (productTabs rest) := by
  rw [productTabs_cons]
  apply wtBy_pairs_rect _ (fun a b : List σ => a ++ b)
  intro a ha b _
  constructor
  · intro e; exact List.append_inj e (hlen a ha)
  · rintro ⟨rfl, rfl⟩; rfl

set_option linter.unusedSectionVars false in
/-- Lengths of the outcomes of a product add up. -/
theorem length_keys_productTabs (ts : List (Tab (List σ) α)) (ns : List Nat)
    (h : List.Forall₂ (fun t n => ∀ k ∈ keys t, k.length = n) ts ns) :
    ∀ k ∈ keys (productTabs ts), k.length = ns.sum := by
  induction h with
  | nil => intro k hk; rw [List.mem_singleton.mp hk]; rfl
  | cons hx _ ih =>
    intro k hk
    rw [productTabs_cons, mem_keys_pairs (fun a b : List σ => a ++ b)] at hk
    obtain ⟨a, ha, b, hb, rfl⟩ := hk
    rw [List.length_append, hx a ha, ih b hb, List.sum_cons]

omit [DecidableEq σ] in
theorem keys_productTabs_cons_nodup (t : Tab (List σ) α) (rest : List (Tab (List σ) α)) (n : Nat)
    (hnd : (keys t).Nodup) (hn : ∀ k ∈ keys t, k.length = n)
    (hrest : (keys (productTabs rest)).Nodup) : (keys (productTabs (t :: rest))).Nodup := by
  rw [productTabs_cons]
  refine keys_pairs_nodup (fun a b : List σ => a ++ b) _ _ hnd hrest ?_
  intro a ha a' ha' b _ b' _ e
  exact List.append_inj e (by rw [hn a ha, hn a' ha'])

/-- **Marginal of a product on its first block**: the first factor, scaled by the mass of the
rest. -/
theorem wtBy_productTabs_first (p : List σ → Prop) [DecidablePred p] (t : Tab (List σ) α)
    (rest : List (Tab (List σ) α)) (n : Nat) (hlen : ∀ k ∈ keys t, k.length = n) :
    wtBy p (pushforward (project (List.range n)) (productTabs (t :: rest)))
      = wtBy p t * mass (productTabs rest) := by
  rw [wtBy_pushforward, productTabs_cons, ← wtBy_true]
  apply wtBy_pairs_rect _ (fun a b : List σ => a ++ b)
  intro a ha b _
  rw [project_range, ← hlen a ha, List.take_left]
  exact (and_iff_left trivial).symm

/-- **Marginal of a product on the remaining blocks**: the product of the rest, scaled by
the mass of the first factor. -/
theorem wtBy_productTabs_rest (p : List σ → Prop) [DecidablePred p] (t : Tab (List σ) α)
    (rest : List (Tab (List σ) α)) (n m : Nat) (hlen : ∀ k ∈ keys t, k.length = n)
    (hrest : ∀ k ∈ keys (productTabs rest), k.length = m) :
    wtBy p (pushforward (project (List.range' n m)) (productTabs (t :: rest)))
      = mass t * wtBy p (productTabs rest) := by
  rw [wtBy_pushforward, productTabs_cons, ← wtBy_true]
  apply wtBy_pairs_rect _ (fun a b : List σ => a ++ b)
  intro a ha b hb
  rw [project_range'_eq_take_drop, ← hlen a ha, List.drop_left, List.take_of_length_le (by rw [hrest b hb])]
  exact (and_iff_right trivial).symm

theorem length_keys_marginal (g : List Nat) (t : Tab (List σ) α)
    (hv : ∀ k ∈ keys t, ∀ i ∈ g, i < k.length) :
    ∀ k ∈ keys (pushforward (project g) t), k.length = g.length := by
  intro k hk
  obtain ⟨k', hk', rfl⟩ := (mem_keys_pushforward _ _ _).mp hk
  exact length_project (hv k' hk')

theorem productDistribution_eq (groups : List (List Nat)) (t : Tab (List σ) α) :
    productDistribution groups t
      = productTabs (groups.map (fun g => pushforward (project g) t)) := rfl

end Product

/-! ## `mixture`, `mixture2` -/

section Mixture
variable {σ α : Type} [DecidableEq σ] [Semiring α]

theorem mixture_eq (ts : List (Tab σ α)) (w : List α) :
    mixture ts w = (dedup (ts.flatMap keys)).map (fun o =>
      (o, (List.zipWith (fun t wi => wi * lookupD 0 t o) ts w).sum)) := by
  unfold mixture
  apply List.map_congr_left
  intro o _
  rw [lsum_eq_sum]

theorem keys_mixture (ts : List (Tab σ α)) (w : List α) :
    keys (mixture ts w) = dedup (ts.flatMap keys) := by
  rw [mixture_eq, keys_map_graph]

theorem zipWith_sum_eq_zero (ts : List (Tab σ α)) (w : List α) (o : σ)
    (h : ∀ t ∈ ts, o ∉ keys t) :
    (List.zipWith (fun t wi => wi * lookupD 0 t o) ts w).sum = 0 := by
  apply List.sum_eq_zero
  intro x hx
  obtain ⟨i, hi, rfl⟩ := List.mem_iff_getElem.mp hx
  rw [List.getElem_zipWith]
  rw [List.length_zipWith] at hi
  rw [lookupD_of_not_mem 0 (h _ (List.getElem_mem (Nat.lt_of_lt_of_le hi (Nat.min_le_left _ _)))),
    mul_zero]

/-- **Value of a mixture**: `Σ_i w_i · P_i(o)` for every outcome (absent = 0). -/
theorem lookupD_mixture (ts : List (Tab σ α)) (w : List α) (o : σ) :
    lookupD 0 (mixture ts w) o = (List.zipWith (fun t wi => wi * lookupD 0 t o) ts w).sum := by
  rw [mixture_eq]
  unfold lookupD
  rw [lookup?_map_graph]
  by_cases h : o ∈ dedup (ts.flatMap keys)
  · rw [if_pos h]; rfl
  · rw [if_neg h]
    symm
    apply zipWith_sum_eq_zero
    intro t ht ho
    exact h (mem_dedup.mpr (List.mem_flatMap.mpr ⟨t, ht, ho⟩))

theorem sum_zipWith_exchange (outs : List σ) (ts : List (Tab σ α)) (w : List α) :
    (outs.map (fun o => (List.zipWith (fun t wi => wi * lookupD 0 t o) ts w).sum)).sum
      = (List.zipWith (fun t wi => wi * (outs.map (fun o => lookupD 0 t o)).sum) ts w).sum := by
  induction ts generalizing w with
  | nil => simp
  | cons t ts ih =>
    cases w with
    | nil => simp
    | cons wi w =>
      simp only [List.zipWith_cons_cons, List.sum_cons]
      rw [List.sum_map_add, ih, List.sum_map_mul_left]

/-- **Mass of a mixture**: `Σ_i w_i · mass(t_i)` when each component lists each outcome once. -/
theorem mass_mixture (ts : List (Tab σ α)) (w : List α) (hnd : ∀ t ∈ ts, (keys t).Nodup) :
    mass (mixture ts w) = (List.zipWith (fun t wi => wi * mass t) ts w).sum := by
  rw [mixture_eq, ← wtBy_true, wtBy_map_graph]
  simp only [if_true]
  rw [sum_zipWith_exchange]
  apply congrArg
  apply zipWith_congr_left
  intro t ht wi
  congr 1
  rw [← sum_map_wtBy_singleton (nodup_dedup (ts.flatMap keys)) t (fun k hk =>
    mem_dedup.mpr (List.mem_flatMap.mpr ⟨t, ht, hk⟩))]
  apply congrArg
  apply List.map_congr_left
  intro o _
  exact lookupD_eq_wtBy (hnd t ht) o

theorem zipWith_mul_one_sum {β : Type} (f : β → α) (l : List β) (w : List α)
    (hlen : l.length = w.length) (h1 : ∀ x ∈ l, f x = 1) :
    (List.zipWith (fun x wi => wi * f x) l w).sum = w.sum := by
  induction l generalizing w with
  | nil => rw [List.length_eq_zero_iff.mp hlen.symm]; rfl
  | cons x l ih =>
    cases w with
    | nil => exact absurd hlen (Nat.succ_ne_zero _)
    | cons wi w =>
      rw [List.zipWith_cons_cons, List.sum_cons, List.sum_cons, h1 x List.mem_cons_self, mul_one,
        ih w (Nat.succ.inj hlen) (fun x' hx' => h1 x' (List.mem_cons_of_mem _ hx'))]

omit [DecidableEq σ] in
theorem getElem?_mixture2 (t : Tab σ α) (ts : List (Tab σ α)) (w : List α) (j : Nat) :
    (mixture2 (t :: ts) w)[j]?
      = (t[j]?).map (fun r =>
          (r.1, (List.zipWith (fun ti wi => wi * (vals ti).getD j 0) (t :: ts) w).sum)) := by
  unfold mixture2
  rw [List.getElem?_map, keys, ← List.length_map (f := (·.1)) (as := t), List.range_eq_range',
    ← List.zipIdx_eq_zip_range', List.getElem?_zipIdx, List.getElem?_map, Option.map_map,
    Option.map_map]
  simp only [Function.comp_def, Nat.zero_add, lsum_eq_sum]

omit [DecidableEq σ] in
theorem length_mixture2 (t : Tab σ α) (ts : List (Tab σ α)) (w : List α) :
    (mixture2 (t :: ts) w).length = t.length := by
  unfold mixture2
  rw [List.length_map, List.length_zip, keys, List.length_map, List.length_range, Nat.min_self]

end Mixture

/-! ## `uniformTab` -/

section Uniform
variable {σ α : Type} [DecidableEq σ] [Field α]

theorem lookupD_uniformTab (ofNat : Nat → α) (outs : List σ) (o : σ) :
    lookupD 0 (uniformTab ofNat outs) o = if o ∈ outs then 1 / ofNat outs.length else 0 := by
  unfold uniformTab lookupD
  rw [lookup?_map_graph]
  split <;> rfl

omit [DecidableEq σ] in
theorem keys_uniformTab (ofNat : Nat → α) (outs : List σ) :
    keys (uniformTab ofNat outs) = outs := by
  unfold uniformTab; rw [keys_map_graph]

omit [DecidableEq σ] in
theorem mass_uniformTab (ofNat : Nat → α) (outs : List σ) :
    mass (uniformTab ofNat outs) = outs.length • (1 / ofNat outs.length) := by
  unfold uniformTab
  rw [mass_eq_sum]
  simp [vals, Function.comp_def, List.map_const', List.sum_replicate]

end Uniform

/-! ## `erasureTab` -/

section Erasure
variable {σ α : Type} [DecidableEq σ] [CommRing α]

/-- The erasure channel applied to one outcome: every symbol is kept with weight `1 - ε` or
replaced by `e` with weight `ε` (the local `expand` of `erasureTab`). -/
def erasureExpand (e : σ) (eps : α) (o : List σ) : Tab (List σ) α :=
  o.foldr (fun s acc =>
    acc.flatMap (fun r => [(s :: r.1, (1 - eps) * r.2), (e :: r.1, eps * r.2)])) [([], 1)]

theorem erasureTab_eq (e : σ) (eps : α) (t : Tab (List σ) α) :
    erasureTab e eps t
      = pushforward (fun o => o)
          (t.flatMap (fun r => (erasureExpand e eps r.1).map (fun x => (x.1, r.2 * x.2)))) := rfl

omit [DecidableEq σ] in
theorem erasureExpand_nil (e : σ) (eps : α) : erasureExpand e eps [] = [([], 1)] := rfl

omit [DecidableEq σ] in
theorem erasureExpand_cons (e : σ) (eps : α) (s : σ) (o : List σ) :
    erasureExpand e eps (s :: o)
      = (erasureExpand e eps o).flatMap
          (fun r => [(s :: r.1, (1 - eps) * r.2), (e :: r.1, eps * r.2)]) := rfl

omit [DecidableEq σ] in
theorem wtBy_erasureExpand_cons (q : List σ → Prop) [DecidablePred q] (e : σ) (eps : α) (s : σ)
    (o : List σ) :
    wtBy q (erasureExpand e eps (s :: o))
      = (1 - eps) * wtBy (fun k => q (s :: k)) (erasureExpand e eps o)
        + eps * wtBy (fun k => q (e :: k)) (erasureExpand e eps o) := by
  rw [erasureExpand_cons, wtBy_flatMap_pair, wtBy_map_key_mul_left q (s :: ·),
    wtBy_map_key_mul_left q (e :: ·)]

omit [DecidableEq σ] in
theorem mass_erasureExpand (e : σ) (eps : α) (o : List σ) : mass (erasureExpand e eps o) = 1 := by
  induction o with
  | nil => exact zero_add 1
  | cons s o ih =>
    rw [← wtBy_true, wtBy_erasureExpand_cons, wtBy_true, ih]; ring

theorem wtBy_erasureTab (q : List σ → Prop) [DecidablePred q] (e : σ) (eps : α)
    (t : Tab (List σ) α) :
    wtBy q (erasureTab e eps t)
      = (t.map (fun r => r.2 * wtBy q (erasureExpand e eps r.1))).sum := by
  rw [erasureTab_eq, wtBy_pushforward, wtBy_flatMap]
  apply congrArg
  apply List.map_congr_left
  intro r _
  exact wtBy_map_key_mul_left q (fun k => k) r.2 (erasureExpand e eps r.1)

omit [DecidableEq σ] in
theorem wtBy_erasureExpand_single (q : List σ → Prop) [DecidablePred q] (e : σ) (eps : α) (s : σ)
    (v : α) :
    v * wtBy q (erasureExpand e eps [s])
      = (1 - eps) * (if q [s] then v else 0) + eps * (if q [e] then v else 0) := by
  rw [wtBy_erasureExpand_cons, erasureExpand_nil, wtBy_single, wtBy_single,
    ← mul_boole (q [s]) v, ← mul_boole (q [e]) v]
  ring

theorem wtBy_erasureTab_single (q : List σ → Prop) [DecidablePred q] (e : σ) (eps : α)
    (t : Tab (List σ) α) (h1 : ∀ k ∈ keys t, k.length = 1) :
    wtBy q (erasureTab e eps t)
      = (1 - eps) * wtBy q t + eps * (if q [e] then mass t else 0) := by
  have hrow : ∀ r ∈ t, r.2 * wtBy q (erasureExpand e eps r.1)
      = (1 - eps) * (if q r.1 then r.2 else 0) + eps * (if q [e] then r.2 else 0) := by
    intro r hr
    obtain ⟨s, hs⟩ := List.length_eq_one_iff.mp (h1 r.1 (mem_keys_of_mem hr))
    rw [hs]
    exact wtBy_erasureExpand_single q e eps s r.2
  rw [wtBy_erasureTab, List.map_congr_left hrow, List.sum_map_add, List.sum_map_mul_left,
    List.sum_map_mul_left, ← wtBy_const]
  rfl

end Erasure

/-! ## Statistics: `meanTab`, `centralMoment` -/

section Stats
variable {α : Type} [CommRing α]

theorem npow_eq_pow (x : α) (k : Nat) : npow x k = x ^ k := by
  induction k with
  | zero => exact (pow_zero x).symm
  | succ k ih => rw [npow, ih, pow_succ, mul_comm]

theorem meanTab_eq (t : Tab α α) : meanTab t = (t.map (fun r => r.1 * r.2)).sum := by
  unfold meanTab; rw [lsum_eq_sum]

theorem centralMoment_eq (t : Tab α α) (k : Nat) :
    centralMoment t k = (t.map (fun r => (r.1 - meanTab t) ^ k * r.2)).sum := by
  unfold centralMoment
  simp only [lsum_eq_sum, npow_eq_pow]

theorem sum_shift_one (m : α) (t : Tab α α) :
    (t.map (fun r => (r.1 - m) ^ 1 * r.2)).sum
      = (t.map (fun r => r.1 * r.2)).sum - m * (vals t).sum := by
  induction t with
  | nil => simp [vals]
  | cons r t ih =>
    simp only [List.map_cons, List.sum_cons, vals] at ih ⊢
    rw [ih]; ring

theorem sum_shift_two (m : α) (t : Tab α α) :
    (t.map (fun r => (r.1 - m) ^ 2 * r.2)).sum
      = (t.map (fun r => r.1 ^ 2 * r.2)).sum - 2 * m * (t.map (fun r => r.1 * r.2)).sum
        + m ^ 2 * (vals t).sum := by
  induction t with
  | nil => simp [vals]
  | cons r t ih =>
    simp only [List.map_cons, List.sum_cons, vals] at ih ⊢
    rw [ih]; ring

end Stats

/-! ## `modeTab` -/

section Mode
variable {σ α : Type} [LinearOrder α] [Zero α]

omit [Zero α] in
theorem foldMax_le_iff (t : Tab σ α) (m0 b : α) :
    t.foldl (fun m r => if m < r.2 then r.2 else m) m0 ≤ b ↔ m0 ≤ b ∧ ∀ r ∈ t, r.2 ≤ b := by
  induction t generalizing m0 with
  | nil => exact ⟨fun h => ⟨h, fun _ hr => absurd hr List.not_mem_nil⟩, And.left⟩
  | cons x t ih =>
    rw [List.foldl_cons, ih, List.forall_mem_cons, ← and_assoc]
    refine and_congr_left fun _ => ?_
    split
    · next h => exact ⟨fun hb => ⟨le_trans (le_of_lt h) hb, hb⟩, And.right⟩
    · next h => exact ⟨fun hb => ⟨hb, le_trans (not_lt.mp h) hb⟩, And.left⟩

theorem mem_modeTab (t : Tab σ α) (o : σ) :
    o ∈ modeTab t ↔ ∃ v, (o, v) ∈ t
      ∧ ¬ v < t.foldl (fun m r => if m < r.2 then r.2 else m) 0 := by
  unfold modeTab
  simp only [List.mem_map, List.mem_filter, Bool.not_eq_eq_eq_not, Bool.not_true,
    decide_eq_false_iff_not]
  constructor
  · rintro ⟨r, ⟨hr, hlt⟩, rfl⟩; exact ⟨r.2, hr, hlt⟩
  · rintro ⟨v, hv, hlt⟩; exact ⟨(o, v), ⟨hv, hlt⟩, rfl⟩

end Mode

/-! ## `cumVals` and the median -/

section Cum
variable {σ α : Type} [AddCommMonoid α]

/-- Running sums started from `s`. -/
def prefixSums (s : α) : List α → List α
  | [] => []
  | x :: l => (s + x) :: prefixSums (s + x) l

theorem cumFold_eq (t : Tab σ α) (acc : List α) (s : α) :
    t.foldl (fun (a : List α × α) r => (a.1 ++ [a.2 + r.2], a.2 + r.2)) (acc, s)
      = (acc ++ prefixSums s (vals t), s + (vals t).sum) := by
  induction t generalizing acc s with
  | nil => simp [prefixSums, vals]
  | cons r t ih =>
    rw [List.foldl_cons, ih, List.append_assoc, List.singleton_append, add_assoc]
    rfl

theorem cumVals_eq (t : Tab σ α) : cumVals t = prefixSums 0 (vals t) := by
  unfold cumVals; rw [cumFold_eq]; rfl

theorem length_prefixSums (s : α) (l : List α) : (prefixSums s l).length = l.length := by
  induction l generalizing s with
  | nil => rfl
  | cons x l ih => rw [prefixSums, List.length_cons, List.length_cons, ih]

theorem getElem?_prefixSums (s : α) (l : List α) (j : Nat) (hj : j < l.length) :
    (prefixSums s l)[j]? = some (s + (l.take (j + 1)).sum) := by
  induction l generalizing s j with
  | nil => exact absurd hj (Nat.not_lt_zero j)
  | cons x l ih =>
    cases j with
    | zero =>
      rw [prefixSums, List.getElem?_cons_zero, List.take_succ_cons, List.take_zero,
        List.sum_singleton]
    | succ j =>
      rw [prefixSums, List.getElem?_cons_succ, ih (s + x) j (Nat.lt_of_succ_lt_succ hj),
        List.take_succ_cons, List.sum_cons, add_assoc]

theorem length_cumVals (t : Tab σ α) : (cumVals t).length = t.length := by
  rw [cumVals_eq, length_prefixSums, vals, List.length_map]

theorem getElem?_cumVals (t : Tab σ α) (j : Nat) (hj : j < t.length) :
    (cumVals t)[j]? = some (((vals t).take (j + 1)).sum) := by
  rw [cumVals_eq, getElem?_prefixSums 0 (vals t) j (by rw [vals, List.length_map]; exact hj),
    zero_add]

theorem getElem_cumVals (t : Tab σ α) (j : Nat) (hj : j < (cumVals t).length) :
    (cumVals t)[j] = ((vals t).take (j + 1)).sum :=
  (List.getElem_eq_iff hj).mpr (getElem?_cumVals t j (length_cumVals t ▸ hj))

end Cum

section Median
variable {α : Type} [Field α] [LinearOrder α]

/-- `numpy`'s `argmax` of a Boolean array: index of the first `True`, `0` if there is none. -/
def argmaxBool (q : α → Bool) (l : List α) : Nat := if l.any q then l.findIdx q else 0

/-- `dit.algorithms.stats.median` for a scalar numeric distribution: the mean of the first
outcome whose cumulative probability exceeds `1/2` and the first whose cumulative probability
reaches `1/2`. -/
def medianTab (t : Tab α α) : α :=
  ((keys t).getD (argmaxBool (fun v => decide (1 / 2 < v)) (cumVals t)) 0
    + (keys t).getD (argmaxBool (fun v => decide (1 / 2 ≤ v)) (cumVals t)) 0) / 2

omit [Field α] [LinearOrder α] in
theorem argmaxBool_eq_findIdx (q : α → Bool) (l : List α) (h : ∃ v ∈ l, q v = true) :
    argmaxBool q l = l.findIdx q :=
  if_pos (List.any_eq_true.mpr h)

omit [LinearOrder α] in
theorem argmax_cumVals (P : α → Prop) [DecidablePred P] (t : Tab α α)
    (h : ∃ v ∈ cumVals t, P v) :
    argmaxBool (fun v => decide (P v)) (cumVals t) < t.length
      ∧ P (((vals t).take (argmaxBool (fun v => decide (P v)) (cumVals t) + 1)).sum)
      ∧ ∀ i, i < argmaxBool (fun v => decide (P v)) (cumVals t) →
          ¬ P (((vals t).take (i + 1)).sum) := by
  have h' : ∃ v ∈ cumVals t, decide (P v) = true := h.imp fun v hv => ⟨hv.1, decide_eq_true hv.2⟩
  have hj := List.findIdx_lt_length_of_exists h'
  rw [argmaxBool_eq_findIdx _ _ h']
  refine ⟨length_cumVals t ▸ hj, ?_, fun i hi => ?_⟩
  · rw [← getElem_cumVals t _ hj]
    exact of_decide_eq_true (List.findIdx_getElem (w := hj))
  · rw [← getElem_cumVals t i (hi.trans hj)]
    exact of_decide_eq_false (List.not_of_lt_findIdx hi)

end Median

end Dit.Lemmas.Constructors
