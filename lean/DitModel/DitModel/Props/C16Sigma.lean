/-
C16 (companion) — the sigma-algebra route to join and meet.

`dit.algorithms.lattice` does not compute the partitions of `Core/Meet.lean` directly: it builds the
sigma-algebra induced by each group of variables (`induced_sigalg`), generates the sigma-algebra of
their union (`join_sigalg`) or intersects them (`meet_sigalg`), takes the atoms (`atom_set`) and
labels the outcomes by atom (`insert_rv`).  `Core/SigAlg.lean` models that route
(`dit.math.sigmaalgebra`: `sigma_algebra`, `is_sigma_algebra`, `is_sigma_algebra__brute`, `atom_set`).

This file proves, for every finite universal set and every family of subsets:
* what `sigmaAlgebra C X` contains (exactly the subsets of `X` that do not separate elements with
  identical membership in `C`), that it contains `∅`, `X` and the generators, is closed under
  complement and union, and is the least such family;
* that its atoms are the classes of identical membership, so the atoms of the sigma-algebra
  generated by a partition are the blocks of the partition;
* that the counting criterion of `is_sigma_algebra` agrees with the brute-force definition;
* that the atoms of `join_sigalg` are the classes of "agree on every group" (`joinClasses`) and the
  atoms of `meet_sigalg` are the connected components of "agree on some group" (`meetClasses`) —
  the two routes coincide, so every theorem of `Props/C16.lean` about `joinClasses` / `meetClasses`
  (partition, finest common function, Gács–Körner value) is a theorem about what the code computes.

Subsets are kept in canonical form (sub-lists of the duplicate-free list `X`), as the model and the
driver do; Python compares frozensets by set equality, which for sub-lists of a duplicate-free list
is list equality (`sublist_ext`).
-/
import DitModel.Lemmas.SigAlg

namespace Dit.Props.C16Sigma
open Dit Dit.Lemmas.Meet Dit.Lemmas.SigAlg

section Family
variable {ε : Type} [DecidableEq ε]

set_option linter.unusedSectionVars false in
/-- Canonical forms are unique: two sub-lists of a duplicate-free list with the same members are equal. -/
theorem sublist_ext {X s t : List ε} (hX : X.Nodup) (hs : s.Sublist X) (ht : t.Sublist X)
    (h : ∀ x, x ∈ s ↔ x ∈ t) : s = t :=
  eq_of_sublist_of_mem_iff hX hs ht h

/-- What `sigma_algebra` returns. -/
theorem mem_sigmaAlgebra_iff (C : List (List ε)) {X : List ε} (hX : X.Nodup) (s : List ε) :
    s ∈ sigmaAlgebra C X ↔
      (s.Sublist X ∧ ∀ x ∈ X, ∀ y ∈ X, colOf C x = colOf C y → (x ∈ s ↔ y ∈ s)) := by
  simp only [mem_sigmaAlgebra_sat C hX, Sat, colRel_iff]

/-- The groups of `colGroups` are non-empty and disjoint. -/
theorem sigmaAlgebra_nodup (C : List (List ε)) (X : List ε) : (sigmaAlgebra C X).Nodup :=
  map_pick_nodup (colGroups_classes C X)

theorem sigmaAlgebra_length (C : List (List ε)) (X : List ε) :
    (sigmaAlgebra C X).length = 2 ^ (colGroups C X).length := by
  simp only [sigmaAlgebra, List.length_map, boolWords_length]

theorem sigmaAlgebra_contains (C : List (List ε)) {X : List ε} (hX : X.Nodup) :
    [] ∈ sigmaAlgebra C X ∧ X ∈ sigmaAlgebra C X
      ∧ ∀ c ∈ C, X.filter (fun x => c.contains x) ∈ sigmaAlgebra C X := by
  refine ⟨?_, ?_, fun c hc => gen_mem_sigmaAlgebra C hX hc⟩
  · exact (mem_sigmaAlgebra_iff C hX _).mpr
      ⟨List.nil_sublist _, fun _ _ _ _ _ => iff_of_false List.not_mem_nil List.not_mem_nil⟩
  · exact (mem_sigmaAlgebra_iff C hX _).mpr
      ⟨List.Sublist.refl _, fun _ hx _ hy _ => iff_of_true hx hy⟩

theorem sigmaAlgebra_closed (C : List (List ε)) {X : List ε} (hX : X.Nodup) :
    (∀ s ∈ sigmaAlgebra C X, complIn X s ∈ sigmaAlgebra C X)
      ∧ ∀ s ∈ sigmaAlgebra C X, ∀ t ∈ sigmaAlgebra C X, unionIn X s t ∈ sigmaAlgebra C X := by
  have h := closed_of_sat (mem_sigmaAlgebra_sat C hX)
  exact ⟨h.compl, h.union⟩

/-- The brute-force test of the definition accepts `sigmaAlgebra C X`. -/
theorem sigmaAlgebra_brute (C : List (List ε)) {X : List ε} (hX : X.Nodup) :
    isSigmaAlgebraBrute (sigmaAlgebra C X) X = true :=
  isSigmaAlgebraBrute_iff.mpr (closed_of_sat (mem_sigmaAlgebra_sat C hX))

theorem sigmaAlgebra_least (C : List (List ε)) {X : List ε} (hX : X.Nodup) (F : List (List ε))
    (hne : F ≠ [])
    (hgen : ∀ c ∈ C, X.filter (fun x => c.contains x) ∈ F)
    (hcompl : ∀ s ∈ F, complIn X s ∈ F)
    (hunion : ∀ s ∈ F, ∀ t ∈ F, unionIn X s t ∈ F) :
    ∀ s ∈ sigmaAlgebra C X, s ∈ F := by
  intro s hs
  obtain ⟨hsub, hsat⟩ := (mem_sigmaAlgebra_sat C hX s).mp hs
  have hF : Closed X F := ⟨hcompl, hunion⟩
  -- a saturated set is the union of the classes of its members
  rw [eq_of_sublist_of_mem_iff hX hsub List.filter_sublist (t := X.filter fun x => s.any fun r => colRel C r x)
    fun x => ?_]
  · exact hF.filter_any hne _ s fun r _ => hF.class_mem hne C hgen r
  · rw [List.mem_filter, List.any_eq_true]
    exact ⟨fun hx => ⟨hsub.subset hx, x, hx, (colRel_eqvOn C X).refl x (hsub.subset hx)⟩,
      fun ⟨hx, r, hr, hrx⟩ => (hsat r (hsub.subset hr) x hx hrx).mp hr⟩

/-- **`unique_columns` partitions `X`** into the classes of identical membership: every group is a
non-empty sub-list of `X`, a group holds exactly the elements of `X` with the column of any of its
members, and every element of `X` lies in exactly one group. `hX` is not needed. -/
theorem colGroups_partition (C : List (List ε)) {X : List ε} (hX : X.Nodup) :
    (∀ g ∈ colGroups C X, g ≠ [] ∧ g.Sublist X
        ∧ ∀ x ∈ g, ∀ y, y ∈ g ↔ (y ∈ X ∧ colOf C y = colOf C x))
      ∧ (∀ x ∈ X, ∃ g ∈ colGroups C X, x ∈ g)
      ∧ (colGroups C X).Pairwise (fun g g' => ∀ x, x ∈ g → x ∉ g') := by
  have _ := hX
  have hc := colGroups_classes C X
  refine ⟨fun g hg => ⟨hc.ne g hg, hc.sublist hg, fun x hx y => ?_⟩, hc.cover, hc.disj⟩
  conv_lhs => rw [hc.cls g hg x hx]
  rw [List.mem_filter, colRel_iff]
  exact and_congr_right (fun _ => eq_comm)

theorem atomSet_sigmaAlgebra (C : List (List ε)) {X : List ε} (hX : X.Nodup) (a : List ε) :
    a ∈ atomSet (sigmaAlgebra C X) ↔ a ∈ colGroups C X :=
  mem_atomSet_iff hX (colGroups_classes C X) (mem_sigmaAlgebra_sat C hX) a

structure IsPartition (P : List (List ε)) (X : List ε) : Prop where
  sub : ∀ b ∈ P, b ≠ [] ∧ b.Sublist X
  disj : P.Pairwise (fun b b' => ∀ x, x ∈ b → x ∉ b')
  cover : ∀ x ∈ X, ∃ b ∈ P, x ∈ b

/-- **The atoms of the sigma-algebra generated by a partition are its blocks.** -/
theorem atomSet_of_partition {P : List (List ε)} {X : List ε} (hX : X.Nodup) (hP : IsPartition P X)
    (a : List ε) : a ∈ atomSet (sigmaAlgebra P X) ↔ a ∈ P := by
  rw [atomSet_sigmaAlgebra P hX]
  exact colGroups_of_classes (partition_classes hX hP.sub hP.disj hP.cover) a

/-- The counting criterion accepts what `sigma_algebra` generates. -/
theorem isSigmaAlgebra_generated (C : List (List ε)) {X : List ε} (hX : X.Nodup) :
    isSigmaAlgebra (sigmaAlgebra C X) X = true := by
  obtain ⟨h0, h1, _⟩ := sigmaAlgebra_contains C hX
  have e : colGroups (sigmaAlgebra C X) X = colGroups C X :=
    colGroups_congr (fun x hx y hy => colOf_sigma_iff C hX hx hy)
  exact isSigmaAlgebra_iff.mpr ⟨⟨h0, h1⟩, by rw [e, sigmaAlgebra_length]⟩

/-- **`is_sigma_algebra` decides the definition**: for a duplicate-free, non-empty family of subsets
of `X` the counting criterion (contains `∅` and `X`, has `2 ^ #distinct columns` members) holds iff
the family is closed under complement and union. -/
theorem isSigmaAlgebra_iff_brute {X : List ε} (hX : X.Nodup) (F : List (List ε)) (hF : F.Nodup)
    (hsub : ∀ s ∈ F, s.Sublist X) (hne : F ≠ []) :
    isSigmaAlgebra F X = true ↔ isSigmaAlgebraBrute F X = true := by
  have hFsub := subset_sigmaAlgebra hX hsub
  -- on either side `F` and the sigma-algebra it generates have the same members, by counting
  have hperm : (sigmaAlgebra F X).length ≤ F.length → F.Perm (sigmaAlgebra F X) :=
    (hF.subperm hFsub).perm_of_length_le
  constructor
  · intro h
    have hp := hperm (by rw [sigmaAlgebra_length, (isSigmaAlgebra_iff.mp h).2])
    exact isSigmaAlgebraBrute_iff.mpr
      (closed_of_sat fun s => hp.mem_iff.trans (mem_sigmaAlgebra_sat F hX s))
  · intro h
    have hcl := isSigmaAlgebraBrute_iff.mp h
    have hgen : ∀ c ∈ F, X.filter (fun x => c.contains x) ∈ F := fun c hcF => by
      rw [← sublist_eq_filter hX (hsub c hcF)]; exact hcF
    have hp := hperm ((sigmaAlgebra_nodup F X).subperm
      (sigmaAlgebra_least F hX F hne hgen hcl.compl hcl.union)).length_le
    exact isSigmaAlgebra_iff.mpr
      ⟨⟨hcl.nil_mem hne, hcl.univ_mem hne⟩, by rw [hp.length_eq, sigmaAlgebra_length]⟩

example : isSigmaAlgebra [[], [1, 2], [3], [1, 2, 3]] [1, 2, 3] = true
    ∧ isSigmaAlgebraBrute [[], [1, 2], [3], [1, 2, 3]] [1, 2, 3] = true
    ∧ isSigmaAlgebra [[], [1], [1, 2, 3]] [1, 2, 3] = false
    ∧ isSigmaAlgebraBrute [[], [1], [1, 2, 3]] [1, 2, 3] = false
    ∧ atomSet (sigmaAlgebra [[1, 2], [2, 3]] [1, 2, 3, 4]) = [[4], [3], [2], [1]] := by
  decide +kernel

end Family

section Lattice
variable {σ : Type} [DecidableEq σ]

/-- The atoms induced by one group of variables are the classes of agreement on that group, and they
partition the sample space. -/
theorem inducedAtoms_partition (g : List Nat) {rows : List (List σ)} (hr : rows.Nodup) :
    IsPartition (inducedAtoms g rows) rows
      ∧ ∀ a, a ∈ atomSet (inducedSigalg g rows) ↔ a ∈ joinClasses [g] rows := by
  have hc := inducedAtoms_classes g rows
  refine ⟨⟨fun b hb => ⟨hc.ne b hb, hc.sublist hb⟩, hc.disj, hc.cover⟩, fun a => ?_⟩
  unfold inducedSigalg
  rw [atomSet_sigmaAlgebra _ hr, colGroups_of_classes hc, inducedAtoms_eq_joinClasses]

/-- **Join: the two routes coincide.** The atoms of `join_sigalg` (the sigma-algebra generated by
the union of the induced sigma-algebras) are exactly the classes of "agree on every group" (same
members; the two lists come in different orders, see the example at the end). -/
theorem joinAtoms_eq_joinClasses (groups : List (List Nat)) {rows : List (List σ)} (hr : rows.Nodup)
    (a : List (List σ)) : a ∈ joinAtoms groups rows ↔ a ∈ joinClasses groups rows := by
  unfold joinAtoms joinSigalg
  rw [atomSet_sigmaAlgebra _ hr, joinSigalg_colGroups groups hr]

/-- **Meet: the two routes coincide.** The atoms of `meet_sigalg` (the intersection of the induced
sigma-algebras) are exactly the connected components of "agree on some group" (same members, in
another order).  (`groups ≠ []`: the code indexes the first sigma-algebra and raises otherwise.) -/
theorem meetAtoms_eq_meetClasses {groups : List (List Nat)} (hg : groups ≠ []) {rows : List (List σ)}
    (hr : rows.Nodup) (a : List (List σ)) :
    a ∈ meetAtoms groups rows ↔ a ∈ meetClasses groups rows :=
  mem_atomSet_iff hr (meetClasses_classes groups rows) (mem_meetSigalg_iff hg hr) a

/-- The meet sigma-algebra is a sigma-algebra on the sample space (closed under complement and union). -/
theorem meetSigalg_brute {groups : List (List Nat)} (hg : groups ≠ []) {rows : List (List σ)}
    (hr : rows.Nodup) : isSigmaAlgebraBrute (meetSigalg groups rows) rows = true :=
  isSigmaAlgebraBrute_iff.mpr (closed_of_sat (mem_meetSigalg_iff hg hr))

example : meetAtoms [[0], [1]] [[0, 0], [0, 1], [1, 0], [1, 1], [2, 2]]
      = [[[2, 2]], [[0, 0], [0, 1], [1, 0], [1, 1]]]
    ∧ meetClasses [[0], [1]] [[0, 0], [0, 1], [1, 0], [1, 1], [2, 2]]
      = [[[0, 0], [0, 1], [1, 0], [1, 1]], [[2, 2]]]
    ∧ joinAtoms [[0], [1]] [[0, 0], [0, 1], [2, 2]] = [[[2, 2]], [[0, 1]], [[0, 0]]] := by
  decide +kernel

end Lattice

end Dit.Props.C16Sigma
