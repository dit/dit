/-
Helper lemmas for the binning clause of C19 (`dit.inference.binning`): `uniformBin` of
Core/Examples.lean and `sortAsc`, `quantileSorted`, `maxentThresholds`, `maxentLoop`,
`maxentBinning`, `countLE` of Core/Binning.lean.
Property theorems: Props/C19Binning.lean.
-/
import DitModel.Core.Examples
import DitModel.Core.Binning
import DitModel.Lemmas.ListBasics
import Mathlib.Algebra.Order.Field.Basic
import Mathlib.Data.Nat.Cast.Order.Field
import Mathlib.Tactic.Ring

namespace Dit.Lemmas.Binning
open Dit Dit.Lemmas.ListBasics

/-! ## `uniformBin` -/

section Uniform
variable {α : Type} [Field α] [LinearOrder α] [IsStrictOrderedRing α]

omit [IsStrictOrderedRing α] in
theorem uniformBin_eq_findGreatest (bins : Nat) (lo range eps x : α) :
    uniformBin (Nat.cast : Nat → α) bins lo range eps x
      = Nat.findGreatest (fun k : Nat => (k : α) * (range + eps) ≤ (bins : α) * (x - lo))
          (bins - 1) := by
  cases bins with
  | zero => rfl
  | succ n => exact foldl_range_succ_ite_self _ n

/-- The label is the floor `⌊bins·(x − lo)/(range + eps)⌋`. -/
theorem uniformBin_spec {bins : Nat} (hb : 0 < bins) {lo range eps x : α} (hw : 0 < range + eps)
    (hlo : lo ≤ x) (hhi : (bins : α) * (x - lo) < (bins : α) * (range + eps)) (k : Nat) :
    k = uniformBin (Nat.cast : Nat → α) bins lo range eps x
      ↔ (k : α) * (range + eps) ≤ (bins : α) * (x - lo)
          ∧ (bins : α) * (x - lo) < ((k : α) + 1) * (range + eps) := by
  rw [uniformBin_eq_findGreatest, ← Nat.cast_succ, ← not_le]
  refine findGreatest_eq_iff_of_downward
    (fun m n hmn h => (mul_le_mul_of_nonneg_right (Nat.cast_le.mpr hmn) hw.le).trans h) ?_ ?_ k
  · rw [Nat.cast_zero, zero_mul]
    exact mul_nonneg (Nat.cast_nonneg _) (sub_nonneg.mpr hlo)
  · rw [Nat.sub_add_cancel hb]
    exact not_le.mpr hhi

theorem uniformBin_spec_of_mem {bins : Nat} (hb : 0 < bins) {lo range eps x : α} (heps : 0 < eps)
    (hlo : lo ≤ x) (hhi : x ≤ lo + range) (k : Nat) :
    k = uniformBin (Nat.cast : Nat → α) bins lo range eps x
      ↔ (k : α) * (range + eps) ≤ (bins : α) * (x - lo)
          ∧ (bins : α) * (x - lo) < ((k : α) + 1) * (range + eps) :=
  uniformBin_spec hb
    (add_pos_of_nonneg_of_pos ((le_add_iff_nonneg_right lo).mp (hlo.trans hhi)) heps) hlo
    (mul_lt_mul_of_pos_left
      ((sub_le_iff_le_add'.mpr hhi).trans_lt (lt_add_of_pos_right _ heps)) (Nat.cast_pos.mpr hb)) k

end Uniform

/-! ## Positions in a sorted list -/

section Sorted
variable {α : Type} [Field α] [LinearOrder α] [IsStrictOrderedRing α]

theorem countP_prefix {β : Type} (p : β → Bool) (a : List β) (k : Nat) (hk : k ≤ a.length)
    (h1 : ∀ j (hj : j < a.length), j < k → p a[j] = true)
    (h2 : ∀ j (hj : j < a.length), k ≤ j → p a[j] = false) : a.countP p = k := by
  conv_lhs => rw [← List.take_append_drop k a]
  rw [List.countP_append]
  have e1 : (a.take k).countP p = (a.take k).length := by
    rw [List.countP_eq_length]
    intro x hx
    obtain ⟨i, hi, rfl⟩ := List.mem_iff_getElem.mp hx
    rw [List.length_take] at hi
    rw [List.getElem_take]
    exact h1 i ((lt_min_iff.mp hi).2) (lt_min_iff.mp hi).1
  have e2 : (a.drop k).countP p = 0 := by
    rw [List.countP_eq_zero]
    intro x hx
    obtain ⟨i, hi, rfl⟩ := List.mem_iff_getElem.mp hx
    rw [List.length_drop] at hi
    rw [List.getElem_drop, h2 (k + i) (Nat.add_lt_of_lt_sub' hi) (Nat.le_add_right k i)]
    exact Bool.false_ne_true
  rw [e1, e2, List.length_take, Nat.add_zero, Nat.min_eq_left hk]

omit [LinearOrder α] [IsStrictOrderedRing α] in
theorem pairwise_getD {R : α → α → Prop} {a : List α} (hs : a.Pairwise R) {i j : Nat}
    (hij : i < j) (hj : j < a.length) : R (a.getD i 0) (a.getD j 0) := by
  rw [List.getD_eq_getElem _ _ (hij.trans hj), List.getD_eq_getElem _ _ hj]
  exact List.pairwise_iff_getElem.mp hs i j _ hj hij

omit [IsStrictOrderedRing α] in
theorem sorted_getD_le {a : List α} (hs : a.Pairwise (· ≤ ·)) {i j : Nat} (hij : i ≤ j)
    (hj : j < a.length) : a.getD i 0 ≤ a.getD j 0 := by
  rcases Nat.eq_or_lt_of_le hij with rfl | hlt
  · exact le_refl _
  · exact pairwise_getD hs hlt hj

omit [IsStrictOrderedRing α] in
theorem sorted_getD_bounds {a : List α} (hs : a.Pairwise (· ≤ ·)) {x : α} (hx : x ∈ a) :
    a.getD 0 0 ≤ x ∧ x ≤ a.getD (a.length - 1) 0 := by
  obtain ⟨i, hi, rfl⟩ := List.mem_iff_getElem.mp hx
  rw [← List.getD_eq_getElem _ 0 hi]
  exact ⟨sorted_getD_le hs (Nat.zero_le _) hi,
    sorted_getD_le hs (Nat.le_sub_one_of_lt hi) (Nat.sub_one_lt (Nat.ne_zero_of_lt hi))⟩

omit [IsStrictOrderedRing α] in
theorem countP_lt_of_sorted {a : List α} (hs : a.Pairwise (· ≤ ·)) {t : α} {k : Nat}
    (hk : k ≤ a.length) (h1 : 0 < k → a.getD (k - 1) 0 < t) (h2 : k < a.length → t ≤ a.getD k 0) :
    a.countP (fun x => decide (x < t)) = k := by
  refine countP_prefix _ a k hk (fun j hj hjk => ?_) (fun j hj hkj => ?_)
  · rw [decide_eq_true_iff, ← List.getD_eq_getElem _ 0 hj]
    have hk0 := Nat.zero_lt_of_lt hjk
    exact (sorted_getD_le hs (Nat.le_sub_one_of_lt hjk) (Nat.sub_one_lt_of_le hk0 hk)).trans_lt
      (h1 hk0)
  · rw [decide_eq_false_iff_not, not_lt, ← List.getD_eq_getElem _ 0 hj]
    exact (h2 (hkj.trans_lt hj)).trans (sorted_getD_le hs hkj hj)

end Sorted

/-! ## `maxentLoop` and `countLE` -/

section Loop
variable {α : Type} [Field α] [LinearOrder α]

/-- The test of the `i`-th pass of the loop. -/
def hit (ths : List α) (bins : Nat) (x : α) (i : Nat) : Prop :=
  (i = 0 ∨ ths.getD i 0 ≤ x) ∧ (i + 1 = bins ∨ x < ths.getD (i + 1) 0)

instance (ths : List α) (bins : Nat) (x : α) : DecidablePred (hit ths bins x) := fun i => by
  unfold hit; infer_instance

theorem maxentLoop_succ (ths : List α) (n : Nat) (x : α) :
    maxentLoop ths (n + 1) x
      = if hit ths (n + 1) x (Nat.findGreatest (hit ths (n + 1) x) n)
        then some (Nat.findGreatest (hit ths (n + 1) x) n) else none :=
  foldl_range_succ_ite (hit ths (n + 1) x) some none n

/-- Some pass of the loop fires, whatever the thresholds are: walk up from `i = 0` (whose lower
test is void) while the upper test fails; failing the upper test of pass `i` is passing the lower
test of pass `i + 1`, and the upper test of the last pass is void. -/
theorem exists_hit (ths : List α) {bins : Nat} (hb : 0 < bins) (x : α) :
    ∃ i, i < bins ∧ hit ths bins x i := by
  by_contra hno
  have key : ∀ m, m < bins → (m = 0 ∨ ths.getD m 0 ≤ x) := by
    intro m
    induction m with
    | zero => intro _; exact Or.inl rfl
    | succ m ih =>
      intro hm
      have hlow := ih (Nat.lt_of_succ_lt hm)
      right
      by_contra hlt
      exact hno ⟨m, Nat.lt_of_succ_lt hm, hlow, Or.inr (not_le.mp hlt)⟩
  exact hno ⟨bins - 1, Nat.sub_one_lt hb.ne', key (bins - 1) (Nat.sub_one_lt hb.ne'),
    Or.inl (Nat.sub_add_cancel hb)⟩

theorem maxentLoop_some (ths : List α) {bins : Nat} (hb : 0 < bins) (x : α) :
    ∃ r, maxentLoop ths bins x = some r ∧ r < bins ∧ hit ths bins x r := by
  obtain ⟨n, rfl⟩ := Nat.exists_eq_succ_of_ne_zero hb.ne'
  obtain ⟨i, hi, hh⟩ := exists_hit ths hb x
  have := Nat.findGreatest_spec (Nat.le_of_lt_succ hi) hh
  exact ⟨_, by rw [maxentLoop_succ, if_pos this], Nat.lt_succ_of_le (Nat.findGreatest_le n),
    this⟩

theorem countLE_succ (ths : List α) (n : Nat) (x : α) :
    countLE ths (n + 1) x = (List.range n).countP (fun i => decide (ths.getD (i + 1) 0 ≤ x)) := by
  rw [countLE, List.range_succ_eq_map, List.filter_cons_of_neg Bool.false_ne_true, List.filter_map,
    List.length_map, List.countP_eq_length_filter]
  rfl

theorem countLE_lt (ths : List α) {bins : Nat} (hb : 0 < bins) (x : α) :
    countLE ths bins x < bins := by
  obtain ⟨n, rfl⟩ := Nat.exists_eq_succ_of_ne_zero hb.ne'
  rw [countLE_succ]
  exact Nat.lt_succ_of_le (List.countP_le_length.trans_eq List.length_range)

theorem countLE_mono (ths : List α) (bins : Nat) {x y : α} (hxy : x ≤ y) :
    countLE ths bins x ≤ countLE ths bins y := by
  unfold countLE
  rw [← List.countP_eq_length_filter, ← List.countP_eq_length_filter]
  apply List.countP_mono_left
  intro i _ h
  simp only [Bool.and_eq_true, decide_eq_true_eq] at h ⊢
  exact ⟨h.1, le_trans h.2 hxy⟩

/-- With non-decreasing thresholds a pass that fires is the closed form: the thresholds up to
`t_r` are `≤ x` and those from `t_{r+1}` on are not. -/
theorem countLE_eq_of_hit (ths : List α) {bins : Nat} {x : α}
    (hs : ∀ i j, i ≤ j → j ≤ bins → ths.getD i 0 ≤ ths.getD j 0) {r : Nat} (hr : r < bins)
    (h : hit ths bins x r) : countLE ths bins x = r := by
  obtain ⟨n, rfl⟩ := Nat.exists_eq_succ_of_ne_zero (Nat.ne_zero_of_lt hr)
  rw [countLE_succ]
  refine countP_prefix _ _ r ((Nat.le_of_lt_succ hr).trans_eq List.length_range.symm)
    (fun j hj hjr => ?_)
    (fun j hj hrj => ?_)
  · rw [List.getElem_range, decide_eq_true_iff]
    exact (hs (j + 1) r hjr hr.le).trans (h.1.resolve_left (Nat.ne_zero_of_lt hjr))
  · rw [List.length_range] at hj
    rw [List.getElem_range, decide_eq_false_iff_not, not_le]
    exact (h.2.resolve_left (Nat.succ_lt_succ (hrj.trans_lt hj)).ne).trans_le
      (hs (r + 1) (j + 1) (Nat.succ_le_succ hrj) (Nat.succ_le_succ hj.le))

theorem maxentLoop_eq_countLE (ths : List α) {bins : Nat} (hb : 0 < bins) (x : α)
    (hs : ∀ i j, i ≤ j → j ≤ bins → ths.getD i 0 ≤ ths.getD j 0) :
    maxentLoop ths bins x = some (countLE ths bins x) := by
  obtain ⟨r, h, hr, hh⟩ := maxentLoop_some ths hb x
  rw [h, countLE_eq_of_hit ths hs hr hh]

theorem countLE_lt_iff (ths : List α) {bins : Nat} (x : α)
    (hs : ∀ i j, i ≤ j → j ≤ bins → ths.getD i 0 ≤ ths.getD j 0) {j : Nat} (hj0 : 0 < j)
    (hj : j < bins) : countLE ths bins x < j ↔ x < ths.getD j 0 := by
  obtain ⟨r, -, hr, hh⟩ := maxentLoop_some ths (Nat.zero_lt_of_lt hj) x
  rw [countLE_eq_of_hit ths hs hr hh]
  constructor
  · intro hrj
    exact (hh.2.resolve_left (Nat.lt_of_le_of_lt hrj hj).ne).trans_le (hs (r + 1) j hrj hj.le)
  · intro hx
    by_contra hge
    exact not_le.mpr hx ((hs j r (not_lt.mp hge) hr.le).trans
      (hh.1.resolve_left (hj0.trans_le (not_lt.mp hge)).ne'))

end Loop

/-! ## `sortAsc` -/

section SortAsc
variable {α : Type} [LinearOrder α]

theorem sortAsc_perm (ts : List α) : (sortAsc ts).Perm ts := isort_perm _ ts

theorem sortAsc_length (ts : List α) : (sortAsc ts).length = ts.length :=
  (sortAsc_perm ts).length_eq

theorem sortAsc_sorted (ts : List α) : (sortAsc ts).Pairwise (· ≤ ·) :=
  isort_pairwise _ (· ≤ ·) (fun _ _ h => (of_decide_eq_true h).le)
    (fun _ _ h => not_lt.mp (of_decide_eq_false h)) (fun _ _ _ => le_trans) ts

theorem sortAsc_strict (ts : List α) (hd : ts.Nodup) : (sortAsc ts).Pairwise (· < ·) :=
  ((sortAsc_sorted ts).and ((sortAsc_perm ts).nodup_iff.mpr hd)).imp
    fun h => lt_of_le_of_ne h.1 h.2

variable [Field α]

theorem sortAsc_min_max (ts : List α) (hne : ts ≠ []) :
    ((sortAsc ts).getD 0 0 ∈ ts ∧ ∀ x ∈ ts, (sortAsc ts).getD 0 0 ≤ x)
      ∧ ((sortAsc ts).getD ((sortAsc ts).length - 1) 0 ∈ ts
        ∧ ∀ x ∈ ts, x ≤ (sortAsc ts).getD ((sortAsc ts).length - 1) 0) := by
  have hmem {x : α} : x ∈ sortAsc ts ↔ x ∈ ts := (sortAsc_perm ts).mem_iff
  have hlen : 0 < (sortAsc ts).length := by
    rw [sortAsc_length]; exact List.length_pos_iff.mpr hne
  exact ⟨⟨hmem.mp (getD_mem hlen 0),
      fun x hx => (sorted_getD_bounds (sortAsc_sorted ts) (hmem.mpr hx)).1⟩,
    hmem.mp (getD_mem (Nat.sub_one_lt hlen.ne') 0),
      fun x hx => (sorted_getD_bounds (sortAsc_sorted ts) (hmem.mpr hx)).2⟩

end SortAsc

/-! ## `quantileSorted` -/

section Quantile
variable {α : Type} [Field α]

theorem quantileSorted_eq (a : List α) (num den : Nat) :
    quantileSorted (Nat.cast : Nat → α) a num den
      = a.getD (num * (a.length - 1) / den) 0
        + (a.getD (min (num * (a.length - 1) / den + 1) (a.length - 1)) 0
            - a.getD (num * (a.length - 1) / den) 0)
          * (((num * (a.length - 1) % den : Nat) : α) / (den : α)) :=
  rfl

theorem quantileSorted_of_mod_eq_zero (a : List α) {num den : Nat}
    (h : num * (a.length - 1) % den = 0) :
    quantileSorted (Nat.cast : Nat → α) a num den = a.getD (num * (a.length - 1) / den) 0 := by
  rw [quantileSorted_eq, h, Nat.cast_zero, zero_div, mul_zero, add_zero]

theorem quantileSorted_zero (a : List α) (den : Nat) :
    quantileSorted (Nat.cast : Nat → α) a 0 den = a.getD 0 0 := by
  rw [quantileSorted_of_mod_eq_zero a (by rw [Nat.zero_mul, Nat.zero_mod]), Nat.zero_mul,
    Nat.zero_div]

theorem quantileSorted_full (a : List α) {den : Nat} (hd : 0 < den) :
    quantileSorted (Nat.cast : Nat → α) a den den = a.getD (a.length - 1) 0 := by
  rw [quantileSorted_of_mod_eq_zero a (Nat.mul_mod_right _ _), Nat.mul_div_cancel_left _ hd]

variable [LinearOrder α] [IsStrictOrderedRing α]

theorem quantile_index_le {num den : Nat} (hnd : num ≤ den) (n : Nat) :
    num * (n - 1) / den ≤ n - 1 :=
  Nat.div_le_of_le_mul (Nat.mul_le_mul_right _ hnd)

omit [IsStrictOrderedRing α] in
theorem quantile_nodes_le {a : List α} (hs : a.Pairwise (· ≤ ·)) (hne : 0 < a.length)
    {num den : Nat} (hnd : num ≤ den) :
    a.getD (num * (a.length - 1) / den) 0
      ≤ a.getD (min (num * (a.length - 1) / den + 1) (a.length - 1)) 0 :=
  sorted_getD_le hs (le_min (Nat.le_succ _) (quantile_index_le hnd a.length))
    ((Nat.min_le_right _ _).trans_lt (Nat.sub_one_lt hne.ne'))

theorem quantileSorted_between {a : List α} (hs : a.Pairwise (· ≤ ·)) (hne : 0 < a.length)
    {num den : Nat} (hnd : num ≤ den) (hd : 0 < den) :
    a.getD (num * (a.length - 1) / den) 0 ≤ quantileSorted (Nat.cast : Nat → α) a num den
      ∧ quantileSorted (Nat.cast : Nat → α) a num den
          ≤ a.getD (min (num * (a.length - 1) / den + 1) (a.length - 1)) 0 := by
  rw [quantileSorted_eq]
  have hxy := sub_nonneg.mpr (quantile_nodes_le hs hne hnd)
  exact ⟨le_add_of_nonneg_right
      (mul_nonneg hxy (div_nonneg (Nat.cast_nonneg _) (Nat.cast_nonneg _))),
    le_sub_iff_add_le'.mp (mul_le_of_le_one_right hxy
      (div_le_one_of_le₀ (Nat.cast_le.mpr (Nat.mod_lt _ hd).le) (Nat.cast_nonneg _)))⟩

theorem quantileSorted_mono {a : List α} (hs : a.Pairwise (· ≤ ·)) (hne : 0 < a.length)
    {num num' den : Nat} (h1 : num ≤ num') (h2 : num' ≤ den) (hd : 0 < den) :
    quantileSorted (Nat.cast : Nat → α) a num den
      ≤ quantileSorted (Nat.cast : Nat → α) a num' den := by
  have hdiv : num * (a.length - 1) / den ≤ num' * (a.length - 1) / den :=
    Nat.div_le_div_right (Nat.mul_le_mul_right _ h1)
  rcases Nat.eq_or_lt_of_le hdiv with heq | hlt
  · -- same cell: the fraction grows
    have hmod : num * (a.length - 1) % den ≤ num' * (a.length - 1) % den := by
      rw [Nat.mod_def, Nat.mod_def, heq]
      exact Nat.sub_le_sub_right (Nat.mul_le_mul_right _ h1) _
    rw [quantileSorted_eq, quantileSorted_eq, ← heq]
    exact add_le_add_right (mul_le_mul_of_nonneg_left
      (div_le_div_of_nonneg_right (Nat.cast_le.mpr hmod) (Nat.cast_nonneg _))
      (sub_nonneg.mpr (quantile_nodes_le hs hne (h1.trans h2)))) _
  · -- different cells: the upper node of the first is at most the lower node of the second
    exact (quantileSorted_between hs hne (h1.trans h2) hd).2.trans
      ((sorted_getD_le hs ((Nat.min_le_left _ _).trans hlt)
          ((quantile_index_le h2 a.length).trans_lt (Nat.sub_one_lt hne.ne'))).trans
        (quantileSorted_between hs hne h2 hd).1)

omit [LinearOrder α] [IsStrictOrderedRing α] in
theorem quantileSorted_nil (num den : Nat) :
    quantileSorted (Nat.cast : Nat → α) [] num den = 0 := by
  rw [quantileSorted_eq]; simp

theorem quantileSorted_monotone {a : List α} (hs : a.Pairwise (· ≤ ·)) {num num' den : Nat}
    (h1 : num ≤ num') (h2 : num' ≤ den) :
    quantileSorted (Nat.cast : Nat → α) a num den
      ≤ quantileSorted (Nat.cast : Nat → α) a num' den := by
  rcases Nat.eq_zero_or_pos den with rfl | hd
  · rw [Nat.le_zero.mp h2, Nat.le_zero.mp (h1.trans h2)]
  · rcases Nat.eq_zero_or_pos a.length with h0 | hne
    · rw [List.length_eq_zero_iff.mp h0, quantileSorted_nil, quantileSorted_nil]
    · exact quantileSorted_mono hs hne h1 h2 hd

end Quantile

/-! ## `maxentThresholds`, `maxentBinning` -/

section Thresholds
variable {α : Type} [Field α] [LinearOrder α]

theorem maxentThresholds_length (bins : Nat) (ts : List α) :
    (maxentThresholds (Nat.cast : Nat → α) bins ts).length = bins + 1 := by
  unfold maxentThresholds; simp

theorem maxentThresholds_getD (bins : Nat) (ts : List α) {i : Nat} (hi : i ≤ bins) :
    (maxentThresholds (Nat.cast : Nat → α) bins ts).getD i 0
      = quantileSorted (Nat.cast : Nat → α) (sortAsc ts) i bins := by
  rw [List.getD_eq_getElem?_getD]
  unfold maxentThresholds
  rw [List.getElem?_map, List.getElem?_range (by omega)]
  rfl

variable [IsStrictOrderedRing α]

theorem maxentThresholds_mono (bins : Nat) (ts : List α) (i j : Nat) (hij : i ≤ j)
    (hj : j ≤ bins) :
    (maxentThresholds (Nat.cast : Nat → α) bins ts).getD i 0
      ≤ (maxentThresholds (Nat.cast : Nat → α) bins ts).getD j 0 := by
  rw [maxentThresholds_getD bins ts (le_trans hij hj), maxentThresholds_getD bins ts hj]
  exact quantileSorted_monotone (sortAsc_sorted ts) hij hj

theorem maxentBinning_eq_countLE {bins : Nat} (hb : 0 < bins) (ts : List α) :
    maxentBinning (Nat.cast : Nat → α) bins ts
      = ts.map (fun x => some (countLE (maxentThresholds (Nat.cast : Nat → α) bins ts) bins x)) := by
  unfold maxentBinning
  apply List.map_congr_left
  intro x _
  exact maxentLoop_eq_countLE _ hb x (maxentThresholds_mono bins ts)

end Thresholds

/-! ## Equally populated bins -/

section Population
variable {α : Type} [Field α] [LinearOrder α] [IsStrictOrderedRing α]

/-- Ceiling division written with the quotient and the remainder. -/
theorem ceil_div (p : Nat) {den : Nat} (hd : 0 < den) :
    (p + den - 1) / den = p / den + (if p % den = 0 then 0 else 1) := by
  rw [Nat.add_sub_assoc hd, Nat.add_div hd, Nat.div_eq_of_lt (Nat.sub_one_lt hd.ne'),
    Nat.mod_eq_of_lt (Nat.sub_one_lt hd.ne'), Nat.add_zero]
  by_cases h : p % den = 0
  · rw [if_pos h, h, Nat.zero_add, if_neg (Nat.not_le.mpr (Nat.sub_one_lt hd.ne'))]
  · rw [if_neg h, if_pos (by omega)]

/-- For strictly increasing samples, the number of samples strictly below the percentile at
`num/den < 1` is `⌈num·(n−1)/den⌉`. -/
theorem countP_lt_quantile {a : List α} (hs : a.Pairwise (· < ·)) (hne : 0 < a.length)
    {num den : Nat} (hnd : num < den) :
    a.countP (fun x => decide (x < quantileSorted (Nat.cast : Nat → α) a num den))
      = (num * (a.length - 1) + den - 1) / den := by
  have hd : 0 < den := Nat.zero_lt_of_lt hnd
  have hle : a.Pairwise (· ≤ ·) := hs.imp le_of_lt
  have hlo := quantile_index_le hnd.le a.length
  rw [ceil_div _ hd]
  by_cases hr : num * (a.length - 1) % den = 0
  · -- the percentile is a sample
    rw [if_pos hr, Nat.add_zero, quantileSorted_of_mod_eq_zero a hr]
    exact countP_lt_of_sorted hle (hlo.trans (Nat.sub_le _ _))
      (fun h => pairwise_getD hs (Nat.sub_one_lt h.ne') (hlo.trans_lt (Nat.sub_one_lt hne.ne')))
      (fun _ => le_refl _)
  · -- the percentile lies strictly between two consecutive samples
    rw [if_neg hr]
    have hpos : 0 < a.length - 1 :=
      Nat.pos_of_ne_zero fun h0 => hr (by rw [h0, Nat.mul_zero, Nat.zero_mod])
    have hlt : num * (a.length - 1) / den < a.length - 1 :=
      Nat.div_lt_of_lt_mul (Nat.mul_lt_mul_of_pos_right hnd hpos)
    have hmin : min (num * (a.length - 1) / den + 1) (a.length - 1)
        = num * (a.length - 1) / den + 1 := min_eq_left hlt
    refine countP_lt_of_sorted hle (hlt.trans_le (Nat.sub_le _ _)) (fun _ => ?_) (fun _ => ?_)
    · rw [Nat.add_sub_cancel, quantileSorted_eq, hmin]
      exact lt_add_of_pos_right _ (mul_pos
        (sub_pos.mpr (pairwise_getD hs (Nat.lt_succ_self _) (Nat.add_lt_of_lt_sub hlt)))
        (div_pos (Nat.cast_pos.mpr (Nat.pos_of_ne_zero hr)) (Nat.cast_pos.mpr hd)))
    · exact hmin ▸ (quantileSorted_between hle hne hnd.le hd).2

theorem countP_eq_sub {β : Type} (f : β → Nat) (l : List β) (k : Nat) :
    l.countP (fun x => decide (f x = k))
      = l.countP (fun x => decide (f x < k + 1)) - l.countP (fun x => decide (f x < k)) := by
  refine Nat.eq_sub_of_add_eq ?_
  induction l with
  | nil => rfl
  | cons x t ih =>
    rw [List.countP_cons, List.countP_cons, List.countP_cons, Nat.add_add_add_comm, ih]
    refine congrArg _ ?_
    simp only [decide_eq_true_eq]
    rcases Nat.lt_trichotomy (f x) k with h | h | h
    · rw [if_neg h.ne, if_pos h, if_pos (Nat.lt_succ_of_lt h)]
    · rw [if_pos h, if_neg h.not_lt, if_pos (Nat.lt_succ_of_le h.le)]
    · rw [if_neg h.ne', if_neg h.asymm, if_neg (Nat.not_lt.mpr h)]

/-- The number of samples whose label is below `j`, for distinct samples: `⌈j·(n−1)/bins⌉` for
`j < bins`. -/
theorem countP_label_lt {bins : Nat} (ts : List α) (hn : ts.Nodup) (hne : 0 < ts.length) {j : Nat}
    (hj : j < bins) :
    ts.countP (fun x => decide
        (countLE (maxentThresholds (Nat.cast : Nat → α) bins ts) bins x < j))
      = (j * (ts.length - 1) + bins - 1) / bins := by
  rcases Nat.eq_zero_or_pos j with rfl | h0
  · rw [Nat.zero_mul, Nat.zero_add, Nat.div_eq_of_lt (Nat.sub_one_lt (Nat.ne_zero_of_lt hj)),
      List.countP_eq_zero]
    exact fun x _ h => Nat.not_lt_zero _ (of_decide_eq_true h)
  · rw [List.countP_congr (q := fun x => decide
        (x < quantileSorted (Nat.cast : Nat → α) (sortAsc ts) j bins)) (fun x _ => by
      rw [decide_eq_true_iff, decide_eq_true_iff,
        countLE_lt_iff _ x (maxentThresholds_mono bins ts) h0 hj,
        maxentThresholds_getD bins ts hj.le]),
      ← (sortAsc_perm ts).countP_eq,
      countP_lt_quantile (sortAsc_strict ts hn) (by rw [sortAsc_length]; exact hne) hj,
      sortAsc_length]

theorem count_maxentBinning {bins : Nat} (hb : 0 < bins) (ts : List α) (k : Nat) :
    (maxentBinning (Nat.cast : Nat → α) bins ts).count (some k)
      = ts.countP (fun x => decide
          (countLE (maxentThresholds (Nat.cast : Nat → α) bins ts) bins x = k)) := by
  rw [maxentBinning_eq_countLE hb ts, List.count_eq_countP, List.countP_map]
  exact List.countP_congr fun x _ => by simp

/-- `⌈(x+y)/b⌉` is `⌈x/b⌉ + ⌊y/b⌋` or one more. -/
theorem ceil_add_bounds (x y : Nat) {b : Nat} (hb : 0 < b) :
    (x + b - 1) / b + y / b ≤ (x + y + b - 1) / b
      ∧ (x + y + b - 1) / b ≤ (x + b - 1) / b + (y / b + 1) := by
  rw [Nat.add_right_comm x y b, Nat.sub_add_comm (hb.trans_le (Nat.le_add_left b x)),
    Nat.add_div hb]
  refine ⟨Nat.le_add_right _ _, (Nat.add_le_add_left ?_ _).trans_eq (Nat.add_assoc _ _ _)⟩
  split
  exacts [le_refl 1, Nat.zero_le 1]

/-- `⌈c·m/(c+1)⌉ = m − ⌊m/(c+1)⌋`. -/
theorem ceil_mul_succ (c m : Nat) : (c * m + (c + 1) - 1) / (c + 1) + m / (c + 1) = m := by
  have e := Nat.div_add_mod m (c + 1)
  have hr := Nat.lt_succ_iff.mp (Nat.mod_lt m (Nat.succ_pos c))
  generalize m / (c + 1) = q at e ⊢
  generalize m % (c + 1) = r at e hr
  obtain ⟨d, rfl⟩ := Nat.exists_eq_add_of_le hr
  have : (r + d) * m + (r + d) = (r + d + 1) * ((r + d) * q + r) + d := by rw [← e]; ring
  rw [Nat.add_sub_assoc (Nat.le_add_left 1 _), Nat.add_sub_cancel, this,
    Nat.mul_add_div (Nat.succ_pos _), Nat.div_eq_of_lt (by omega), ← e]
  ring

end Population

end Dit.Lemmas.Binning
