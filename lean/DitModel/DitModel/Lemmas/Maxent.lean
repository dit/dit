/-
Helper lemmas for C14 (maximum-entropy distributions with prescribed marginals,
`Core/Maxent.lean`) over `ℝ` with `log := Real.logb 2`.

Marginals are event weights (`margAt_eq_wtBy`), so sums against a function of the `g`-coordinates
disintegrate over the `g`-marginal; with that, a log-linear `q` and a `p` with the same marginals
satisfy the Pythagorean identity `H(q) − H(p) = D(p‖q)`, which is the optimality certificate
`entropy_le_of_loglinear`.
-/
import DitModel.Core.Maxent
import DitModel.Core.Diverge
import DitModel.Lemmas.Table
import DitModel.Lemmas.InfoReal
import DitModel.Lemmas.Diverge
import Mathlib.Analysis.SpecialFunctions.Log.Base
import Mathlib.Algebra.BigOperators.Group.List.Basic
import Mathlib.Tactic.Linarith
import Mathlib.Tactic.Ring
import Mathlib.Tactic.FieldSimp
import Mathlib.Tactic.Positivity
import Mathlib.Tactic.NormNum

namespace Dit.Lemmas.Maxent
open Dit Dit.Lemmas.ListBasics Dit.Lemmas.Table

/-! ### Marginals as event weights -/

section Marg
variable {σ : Type} [DecidableEq σ]

/-- The `g`-marginal at `x` is the weight of the event `{o | project g o = x}`. -/
theorem margAt_eq_wtBy (t : Tab (List σ) ℝ) (g : List Nat) (x : List σ) :
    margAt t g x = wtBy (fun o => project g o = x) t :=
  lookupD_pushforward (project g) t x

theorem margAt_nonneg (t : Tab (List σ) ℝ) (h : ∀ r ∈ t, 0 ≤ r.2) (g : List Nat) (x : List σ) :
    0 ≤ margAt t g x := by
  rw [margAt_eq_wtBy]; exact Diverge.wtBy_nonneg _ t h

theorem margAt_eq_zero_of_not_image (t : Tab (List σ) ℝ) (g : List Nat) (x : List σ)
    (h : ∀ o ∈ keys t, project g o ≠ x) : margAt t g x = 0 := by
  rw [margAt_eq_wtBy]; exact wtBy_eq_zero _ t h

theorem le_margAt (t : Tab (List σ) ℝ) (h : ∀ r ∈ t, 0 ≤ r.2) (g : List Nat) (r : List σ × ℝ)
    (hr : r ∈ t) : r.2 ≤ margAt t g (project g r.1) := by
  rw [margAt_eq_wtBy]
  exact (if_pos rfl).symm.trans_le (List.single_le_sum
    (List.forall_mem_map.2 fun r' hr' => ite_nonneg (h r' hr') le_rfl) _
    (List.mem_map_of_mem (f := fun r' => if project g r'.1 = project g r.1 then r'.2 else 0) hr))

/-- Total mass as a sum of marginal values over any duplicate-free list containing the
projections of all stored outcomes. -/
theorem sum_margAt (t : Tab (List σ) ℝ) (g : List Nat) {l : List (List σ)} (hl : l.Nodup)
    (h : ∀ o ∈ keys t, project g o ∈ l) : (l.map (fun x => margAt t g x)).sum = mass t := by
  have := sum_map_wtBy_fibre hl (project g) (fun _ => True) t h
  simp only [if_true, wtBy_true] at this
  rw [← this]
  congr 1
  exact List.map_congr_left (fun x _ => margAt_eq_wtBy t g x)

end Marg

section Step
variable {σ : Type} [DecidableEq σ]

/-- Over `ℝ` the zero guard of `ipfStep` is redundant (`x / 0 = 0`). -/
theorem ipfStep_eq (t q : Tab (List σ) ℝ) (g : List Nat) :
    ipfStep t q g = q.map (fun r =>
      (r.1, r.2 * (margAt t g (project g r.1) / margAt q g (project g r.1)))) := by
  unfold ipfStep
  apply List.map_congr_left
  intro r _
  by_cases h : margAt q g (project g r.1) = 0
  · simp [h]
  · simp [h, mul_div_assoc]

theorem keys_ipfStep (t q : Tab (List σ) ℝ) (g : List Nat) : keys (ipfStep t q g) = keys q := by
  unfold ipfStep keys
  rw [List.map_map]
  rfl

theorem margAt_ipfStep_eq (t q : Tab (List σ) ℝ) (g : List Nat) (x : List σ) :
    margAt (ipfStep t q g) g x = margAt q g x * (margAt t g x / margAt q g x) := by
  rw [margAt_eq_wtBy, ipfStep_eq, wtBy, List.map_map]
  refine Eq.trans (congrArg List.sum (List.map_congr_left (fun r _ => ?_)))
    ((List.sum_map_mul_right q (fun r => if project g r.1 = x then r.2 else 0)
      (margAt t g x / margAt q g x)).trans
      (congrArg (· * _) (margAt_eq_wtBy q g x).symm))
  by_cases h : project g r.1 = x
  · simp only [Function.comp_apply, h, if_true]
  · simp only [Function.comp_apply, if_neg h, zero_mul]

theorem margAt_ipfStep (t q : Tab (List σ) ℝ) (g : List Nat)
    (h : ∀ x, margAt q g x = 0 → margAt t g x = 0) (x : List σ) :
    margAt (ipfStep t q g) g x = margAt t g x := by
  rw [margAt_ipfStep_eq]
  by_cases h0 : margAt q g x = 0
  · rw [h0, h x h0, zero_mul]
  · rw [← mul_div_assoc, mul_div_cancel_left₀ _ h0]

theorem ipfStep_eq_self (t q : Tab (List σ) ℝ) (hqn : ∀ r ∈ q, 0 ≤ r.2) (g : List Nat)
    (hm : ∀ x, margAt q g x = margAt t g x) : ipfStep t q g = q := by
  rw [ipfStep_eq]
  conv_rhs => rw [← List.map_id q]
  refine List.map_congr_left (fun r hr => Prod.ext rfl ?_)
  by_cases h0 : margAt q g (project g r.1) = 0
  · rw [h0, div_zero, mul_zero]
    exact le_antisymm (hqn r hr) (h0 ▸ le_margAt q hqn g r hr)
  · rw [← hm, div_self h0, mul_one]
    rfl

end Step

/-! ### Product form -/

section Product
variable {σ : Type} [DecidableEq σ]

/-- `q` has *product form* over `groups`: every stored value is a constant times a product of
factors, one for each distinct group, each factor depending on the outcome only through its
projection on that group: `q(o) = c · Π_g φ_g(o_g)`. -/
def ProductForm (groups : List (List Nat)) (q : Tab (List σ) ℝ) : Prop :=
  ∃ (c : ℝ) (φ : List Nat → List σ → ℝ), ∀ r ∈ q,
    r.2 = c * ((dedup groups).map (fun g => φ g (project g r.1))).prod

theorem prod_map_mul_ite {ι : Type} [DecidableEq ι] {l : List ι} (hl : l.Nodup) {g : ι}
    (hg : g ∈ l) (A C : ι → ℝ) :
    (l.map (fun h => A h * if h = g then C h else 1)).prod = (l.map A).prod * C g := by
  rw [List.prod_map_mul, List.prod_map_eq_pow_single g _ (fun _ hne _ => if_neg hne),
    List.count_eq_one_of_mem hl hg, pow_one, if_pos rfl]

omit [DecidableEq σ] in
theorem uniformOn_productForm (groups : List (List Nat)) (space : List (List σ)) :
    ProductForm groups (uniformOn (fun n : Nat => (n : ℝ)) space) := by
  refine ⟨1 / (space.length : ℝ), fun _ _ => 1, ?_⟩
  intro r hr
  obtain ⟨o, _, rfl⟩ := List.mem_map.mp hr
  simp

end Product

section Iter
variable {σ : Type} [DecidableEq σ]

theorem ipf_induction {P : Tab (List σ) ℝ → Prop} (t : Tab (List σ) ℝ) (groups : List (List Nat))
    (hstep : ∀ q, ∀ g ∈ groups, P q → P (ipfStep t q g)) {q0 : Tab (List σ) ℝ} (h0 : P q0)
    (n : Nat) : P (ipf t groups q0 n) := by
  have hsweep : ∀ gs : List (List Nat), (∀ g ∈ gs, g ∈ groups) → ∀ q, P q →
      P (gs.foldl (fun q' g => ipfStep t q' g) q) := by
    intro gs
    induction gs with
    | nil => exact fun _ _ h => h
    | cons g gs ih =>
      exact fun hgs q h => ih (fun g' hg' => hgs g' (List.mem_cons_of_mem _ hg')) _
        (hstep q g (hgs g List.mem_cons_self) h)
  induction n with
  | zero => exact h0
  | succ n ih => exact hsweep groups (fun _ h => h) _ ih

end Iter

/-! ### Tables on a sample space as graphs of functions -/

section Graph
variable {κ : Type} [DecidableEq κ]

theorem mass_eq_sum_lookupD {t : Tab κ ℝ} {space : List κ} (hk : keys t = space)
    (hnd : space.Nodup) : mass t = (space.map (fun o => lookupD 0 t o)).sum := by
  rw [mass_eq_sum, vals_eq_map hk hnd 0]

theorem eq_of_lookupD_eq {p q : Tab κ ℝ} {space : List κ} (hp : keys p = space)
    (hq : keys q = space) (hnd : space.Nodup) (h : ∀ o ∈ space, lookupD 0 p o = lookupD 0 q o) :
    p = q := by
  rw [eq_graph hp hnd 0, eq_graph hq hnd 0]
  exact List.map_congr_left (fun o ho => by rw [h o ho])

end Graph

/-! ### Disintegration -/

section Disint
open Dit.Lemmas.Diverge

/-- **Disintegration with a test function.** `Σ_rows v · h(f key) = Σ_x P(f = x) · h(x)`, the
outer sum over any duplicate-free list containing the images of all stored keys. -/
theorem sum_rows_fibre {κ κ' : Type} [DecidableEq κ'] {l : List κ'} (hl : l.Nodup) (f : κ → κ')
    (h : κ' → ℝ) (t : Tab κ ℝ) (hf : ∀ k ∈ keys t, f k ∈ l) :
    (t.map (fun r => r.2 * h (f r.1))).sum
      = (l.map (fun x => wtBy (fun k => f k = x) t * h x)).sum := by
  induction t with
  | nil => simp
  | cons r t ih =>
    have ih' := ih (fun k hk => hf k (List.mem_cons_of_mem _ hk))
    have hr : f r.1 ∈ l := hf r.1 (by simp)
    have e : (fun x => wtBy (fun k => f k = x) (r :: t) * h x)
        = fun x => (if f r.1 = x then r.2 * h x else 0) + wtBy (fun k => f k = x) t * h x := by
      funext x
      rw [wtBy_cons]
      by_cases hx : f r.1 = x <;> simp [hx, add_mul]
    rw [e, List.sum_map_add, ← ih', sum_map_ite_eq_of_nodup hl hr (fun x => r.2 * h x),
      List.map_cons, List.sum_cons]

variable {σ : Type} [DecidableEq σ]

theorem sum_rows_margAt (t : Tab (List σ) ℝ) (g : List Nat) (h : List σ → ℝ)
    {l : List (List σ)} (hl : l.Nodup) (hf : ∀ o ∈ keys t, project g o ∈ l) :
    (t.map (fun r => r.2 * h (project g r.1))).sum
      = (l.map (fun x => margAt t g x * h x)).sum := by
  rw [sum_rows_fibre hl (project g) h t hf]
  congr 1
  exact List.map_congr_left (fun x _ => by rw [margAt_eq_wtBy])

theorem sum_rows_eq_of_margAt_eq (p q : Tab (List σ) ℝ) (g : List Nat) (h : List σ → ℝ)
    (hm : ∀ x, margAt p g x = margAt q g x) :
    (p.map (fun r => r.2 * h (project g r.1))).sum
      = (q.map (fun r => r.2 * h (project g r.1))).sum := by
  have hl := nodup_dedup ((keys p ++ keys q).map (project g))
  rw [sum_rows_margAt p g h hl, sum_rows_margAt q g h hl]
  · congr 1
    exact List.map_congr_left (fun x _ => by rw [hm x])
  · exact fun o ho => mem_dedup.mpr (List.mem_map_of_mem (List.mem_append_right _ ho))
  · exact fun o ho => mem_dedup.mpr (List.mem_map_of_mem (List.mem_append_left _ ho))

theorem wtBy_eq_of_margAt_eq (p q : Tab (List σ) ℝ) (g : List Nat)
    (hm : ∀ x, margAt p g x = margAt q g x) (P : List σ → Prop) [DecidablePred P] :
    wtBy (fun o => P (project g o)) p = wtBy (fun o => P (project g o)) q := by
  simpa only [wtBy, mul_ite, mul_one, mul_zero]
    using sum_rows_eq_of_margAt_eq p q g (fun x => if P x then 1 else 0) hm

theorem mass_ipfStep (t q : Tab (List σ) ℝ) (g : List Nat)
    (h : ∀ x, margAt q g x = 0 → margAt t g x = 0) : mass (ipfStep t q g) = mass t := by
  simpa only [wtBy_true]
    using wtBy_eq_of_margAt_eq _ _ g (margAt_ipfStep t q g h) (fun _ => True)

omit [DecidableEq σ] in
/-- Linearity: the expectation of `c + Σ_g ψ_g(o_g)` is `mass · c + Σ_g E[ψ_g(o_g)]`. -/
theorem sum_rows_loglinear (T : Tab (List σ) ℝ) (groups : List (List Nat)) (c : ℝ)
    (ψ : List Nat → List σ → ℝ) :
    (T.map (fun r => r.2 * (c + (groups.map (fun g => ψ g (project g r.1))).sum))).sum
      = mass T * c
        + (groups.map (fun g => (T.map (fun r => r.2 * ψ g (project g r.1))).sum)).sum := by
  rw [← sum_comm, mass_eq_sum, vals, ← List.sum_map_mul_right, ← List.sum_map_add]
  refine congrArg List.sum (List.map_congr_left (fun r _ => ?_))
  rw [List.sum_map_mul_left]
  ring

theorem sum_loglinear_eq (p q : Tab (List σ) ℝ) (groups : List (List Nat)) (c : ℝ)
    (ψ : List Nat → List σ → ℝ) (hmass : mass p = mass q)
    (hm : ∀ g ∈ groups, ∀ x, margAt p g x = margAt q g x) :
    (p.map (fun r => r.2 * (c + (groups.map (fun g => ψ g (project g r.1))).sum))).sum
      = (q.map (fun r => r.2 * (c + (groups.map (fun g => ψ g (project g r.1))).sum))).sum := by
  rw [sum_rows_loglinear, sum_rows_loglinear, hmass,
    List.map_congr_left (fun g hg => sum_rows_eq_of_margAt_eq p q g (ψ g) (hm g hg))]

end Disint

/-! ### The Pythagorean identity -/

section Pyth
open Dit.Lemmas.Diverge Dit.Lemmas.InfoReal
variable {σ : Type} [DecidableEq σ]

theorem alignPair_eq {κ : Type} [DecidableEq κ] (p q : Tab κ ℝ) {space : List κ}
    (hp : keys p = space) (hnd : space.Nodup) :
    alignPair p q = space.map (fun o => (lookupD 0 p o, lookupD 0 q o)) := by
  unfold alignPair
  conv_lhs => rw [eq_graph hp hnd 0]
  rw [List.map_map]
  rfl

theorem alignPair_fst {κ : Type} [DecidableEq κ] (p q : Tab κ ℝ) :
    (alignPair p q).map Prod.fst = vals p := by
  simp [alignPair, vals, Function.comp_def]

theorem alignPair_snd {κ : Type} [DecidableEq κ] (p q : Tab κ ℝ) {space : List κ}
    (hp : keys p = space) (hq : keys q = space) (hnd : space.Nodup) :
    (alignPair p q).map Prod.snd = vals q := by
  rw [alignPair_eq p q hp hnd, vals_eq_map hq hnd 0, List.map_map]
  rfl

theorem absCont_alignPair {κ : Type} [DecidableEq κ] (p q : Tab κ ℝ) {space : List κ}
    (hp : keys p = space) (hnd : space.Nodup)
    (hsupp : ∀ o ∈ space, lookupD 0 q o = 0 → lookupD 0 p o = 0) :
    absCont (alignPair p q) = true := by
  rw [absCont_iff, alignPair_eq p q hp hnd]
  intro r hr h2
  obtain ⟨o, ho, rfl⟩ := List.mem_map.mp hr
  exact hsupp o ho h2

/-- Cross entropy against a log-linear table: `−Σ p log q = −E_p[c + Σ_g ψ_g]`, when the support
of `p` is inside that of `q`. -/
theorem xent_loglinear (p q : Tab (List σ) ℝ) {space : List (List σ)} (hp : keys p = space)
    (hnd : space.Nodup) (groups : List (List Nat)) (c : ℝ) (ψ : List Nat → List σ → ℝ)
    (hlog : ∀ o ∈ space, lookupD 0 q o ≠ 0 →
      Real.logb 2 (lookupD 0 q o) = c + (groups.map (fun g => ψ g (project g o))).sum)
    (hsupp : ∀ o ∈ space, lookupD 0 q o = 0 → lookupD 0 p o = 0) :
    xentSum (alignPair p q)
      = -(p.map (fun r => r.2 * (c + (groups.map (fun g => ψ g (project g r.1))).sum))).sum := by
  conv_rhs => rw [eq_graph hp hnd 0]
  rw [xentSum, alignPair_eq p q hp hnd, List.map_map, List.map_map]
  refine congrArg (fun l => -List.sum l) (List.map_congr_left (fun o ho => ?_))
  simp only [Function.comp_apply]
  by_cases h0 : lookupD 0 q o = 0
  · rw [hsupp o ho h0, zero_mul, zero_mul]
  · rw [hlog o ho h0]

/-- Entropy of a log-linear table: `H(q) = −E_q[c + Σ_g ψ_g]`. -/
theorem entropy_loglinear (q : Tab (List σ) ℝ) {space : List (List σ)} (hq : keys q = space)
    (hnd : space.Nodup) (groups : List (List Nat)) (c : ℝ) (ψ : List Nat → List σ → ℝ)
    (hlog : ∀ o ∈ space, lookupD 0 q o ≠ 0 →
      Real.logb 2 (lookupD 0 q o) = c + (groups.map (fun g => ψ g (project g o))).sum) :
    entropyVals (Real.logb 2) (vals q)
      = -(q.map (fun r => r.2 * (c + (groups.map (fun g => ψ g (project g r.1))).sum))).sum := by
  rw [← xent_loglinear q q hq hnd groups c ψ hlog (fun _ _ h => h), xentSum,
    alignPair_eq q q hq hnd, entropyVals_eq_sum, vals_eq_map hq hnd 0, List.map_map, List.map_map]
  rfl

/-- **Pythagorean identity.** If `q` is log-linear on its support over `groups`, `p` has the same
mass and the same marginals on every group, and `supp p ⊆ supp q`, then
`D(p‖q) = H(q) − H(p)`. -/
theorem klSum_eq_entropy_sub (p q : Tab (List σ) ℝ) {space : List (List σ)}
    (hp : keys p = space) (hq : keys q = space) (hnd : space.Nodup)
    (groups : List (List Nat)) (c : ℝ) (ψ : List Nat → List σ → ℝ)
    (hmass : mass p = mass q)
    (hm : ∀ g ∈ groups, ∀ x, margAt p g x = margAt q g x)
    (hlog : ∀ o ∈ space, lookupD 0 q o ≠ 0 →
      Real.logb 2 (lookupD 0 q o) = c + (groups.map (fun g => ψ g (project g o))).sum)
    (hsupp : ∀ o ∈ space, lookupD 0 q o = 0 → lookupD 0 p o = 0) :
    klSum (alignPair p q)
      = entropyVals (Real.logb 2) (vals q) - entropyVals (Real.logb 2) (vals p) := by
  have hac := absCont_alignPair p q hp hnd hsupp
  have h1 := xentSum_eq (alignPair p q) hac
  rw [alignPair_fst, xent_loglinear p q hp hnd groups c ψ hlog hsupp,
    sum_loglinear_eq p q groups c ψ hmass hm,
    ← entropy_loglinear q hq hnd groups c ψ hlog] at h1
  exact eq_sub_of_add_eq h1.symm

end Pyth

/-! ### Product of marginals; singleton constraints -/

section Singletons
open Dit.Lemmas.Diverge
variable {σ : Type} [DecidableEq σ]

/-- The singleton groups `[[0], …, [n-1]]`. -/
def singletons (n : Nat) : List (List Nat) := (List.range n).map (fun i => [i])

/-- Product of the marginals of `t` on the given groups, as a table on `space`:
`o ↦ Π_g P_t(o_g)`. -/
noncomputable def prodMarg (t : Tab (List σ) ℝ) (groups : List (List Nat))
    (space : List (List σ)) : Tab (List σ) ℝ :=
  space.map (fun o => (o, (groups.map (fun g => margAt t g (project g o))).prod))

theorem keys_prodMarg (t : Tab (List σ) ℝ) (groups : List (List Nat)) (space : List (List σ)) :
    keys (prodMarg t groups space) = space := keys_map_graph _ _

theorem lookupD_prodMarg (t : Tab (List σ) ℝ) (groups : List (List Nat)) (space : List (List σ))
    (o : List σ) (ho : o ∈ space) :
    lookupD 0 (prodMarg t groups space) o = (groups.map (fun g => margAt t g (project g o))).prod := by
  unfold lookupD prodMarg
  rw [lookup?_map_graph]; simp [ho]

theorem prodMarg_nonneg (t : Tab (List σ) ℝ) (ht : ∀ r ∈ t, 0 ≤ r.2) (groups : List (List Nat))
    (space : List (List σ)) : ∀ r ∈ prodMarg t groups space, 0 ≤ r.2 := by
  intro r hr
  obtain ⟨o, _, rfl⟩ := List.mem_map.mp hr
  refine List.prod_nonneg (fun a ha => ?_)
  obtain ⟨g, _, rfl⟩ := List.mem_map.mp ha
  exact margAt_nonneg t ht g _

theorem singletons_nodup (n : Nat) : (singletons n).Nodup :=
  List.nodup_range.map (fun a b e => by injection e)

theorem prodMarg_productForm (t : Tab (List σ) ℝ) (groups : List (List Nat))
    (hnd : groups.Nodup) (space : List (List σ)) :
    ProductForm groups (prodMarg t groups space) := by
  refine ⟨1, fun g x => margAt t g x, ?_⟩
  intro r hr
  obtain ⟨o, _, rfl⟩ := List.mem_map.mp hr
  rw [dedup_eq_self.mpr hnd, one_mul]

omit [DecidableEq σ] in
theorem project_single (i : Nat) (o : List σ) : project [i] o = (o[i]?).toList := by
  unfold project
  rw [List.filterMap_cons]
  cases o[i]? <;> rfl

theorem map_singletons {β : Type} (n : Nat) (H : List Nat → β) :
    (singletons n).map H = (List.range n).map (fun i => H [i]) := by
  simp [singletons, Function.comp_def]

theorem sum_flatMap_map {β γ : Type} (l : List β) (f : β → List γ) (h : γ → ℝ) :
    ((l.flatMap f).map h).sum = (l.map (fun x => ((f x).map h).sum)).sum := by
  induction l with
  | nil => simp
  | cons x l ih => simp [List.flatMap_cons, ih]

omit [DecidableEq σ] in
/-- **Sum of a product = product of sums** over a Cartesian product:
`Σ_{o ∈ cartesian as} Π_i G i (o_i) = Π_i Σ_{a ∈ as_i} G i [a]`. -/
theorem sum_cartesian_prod (G : Nat → List σ → ℝ) (as : List (List σ)) :
    ((cartesian as).map (fun o =>
        ((List.range as.length).map (fun i => G i (project [i] o))).prod)).sum
      = ((List.range as.length).map
          (fun i => ((as.getD i []).map (fun a => G i [a])).sum)).prod := by
  induction as generalizing G with
  | nil => simp [cartesian]
  | cons a rest ih =>
    rw [cartesian, sum_flatMap_map, List.length_cons, List.range_succ_eq_map, List.map_cons,
      List.prod_cons, List.map_map, ← List.sum_map_mul_right]
    congr 1
    apply List.map_congr_left
    intro x _
    rw [List.map_map]
    refine Eq.trans ?_ (congrArg (G 0 [x] * ·) (ih (fun i => G (i + 1))))
    rw [← List.sum_map_mul_left]
    congr 1
    apply List.map_congr_left
    intro o' _
    simp only [Function.comp_apply]
    rw [List.map_cons, List.prod_cons, List.map_map]
    rfl

omit [DecidableEq σ] in
theorem project_single_mem_of_mem_cartesian {as : List (List σ)} {o : List σ}
    (ho : o ∈ cartesian as) {j : Nat} (hj : j < as.length) :
    project [j] o ∈ (as.getD j []).map (fun a => [a]) := by
  obtain ⟨hlen, h⟩ := mem_cartesian_iff_getElem.mp ho
  have hj' : j < o.length := hlen ▸ hj
  rw [project_single, List.getElem?_eq_getElem hj', List.getD_eq_getElem?_getD,
    List.getElem?_eq_getElem hj]
  exact List.mem_map.mpr ⟨o[j], h j hj' hj, rfl⟩

/-- Summing the one-variable marginal of a table on a Cartesian space over the symbols of the
alphabet that satisfy `q` gives the weight of the event `q (o_j)`. -/
theorem sum_margAt_single (t : Tab (List σ) ℝ) (as : List (List σ)) (hnd : ∀ a ∈ as, a.Nodup)
    (hk : keys t = cartesian as) (j : Nat) (hj : j < as.length) (q : List σ → Prop)
    [DecidablePred q] :
    ((as.getD j []).map (fun a => if q [a] then margAt t [j] [a] else 0)).sum
      = wtBy (fun o => q (project [j] o)) t := by
  have hl : ((as.getD j []).map (fun a => [a])).Nodup := by
    rw [List.getD_eq_getElem?_getD, List.getElem?_eq_getElem hj]
    exact (hnd _ (List.getElem_mem hj)).map (fun a b e => by injection e)
  rw [← sum_map_wtBy_fibre hl (project [j]) q t
    (fun o ho => project_single_mem_of_mem_cartesian (hk ▸ ho) hj), List.map_map]
  exact congrArg List.sum (List.map_congr_left (fun a _ => by rw [margAt_eq_wtBy]; rfl))

theorem prodMarg_singletons_eq (t : Tab (List σ) ℝ) (n : Nat) (space : List (List σ)) :
    prodMarg t (singletons n) space = space.map (fun o =>
      (o, ((List.range n).map (fun i => margAt t [i] (project [i] o))).prod)) := by
  unfold prodMarg
  simp only [map_singletons]

theorem mass_prodMarg_singletons (t : Tab (List σ) ℝ) (as : List (List σ))
    (hnd : ∀ a ∈ as, a.Nodup) (hk : keys t = cartesian as) (hmass : mass t = 1) :
    mass (prodMarg t (singletons as.length) (cartesian as)) = 1 := by
  rw [prodMarg_singletons_eq, mass_eq_sum, vals, List.map_map]
  refine (sum_cartesian_prod (fun i x => margAt t [i] x) as).trans (List.prod_eq_one ?_)
  intro s hs
  obtain ⟨j, hj, rfl⟩ := List.mem_map.mp hs
  have := sum_margAt_single t as hnd hk j (List.mem_range.mp hj) (fun _ => True)
  simpa only [if_true, wtBy_true, hmass] using this

/-- **The product of the one-variable marginals has those marginals.** -/
theorem margAt_prodMarg_singletons (t : Tab (List σ) ℝ) (as : List (List σ))
    (hnd : ∀ a ∈ as, a.Nodup) (hk : keys t = cartesian as) (hmass : mass t = 1)
    (i : Nat) (hi : i < as.length) (x : List σ) :
    margAt (prodMarg t (singletons as.length) (cartesian as)) [i] x = margAt t [i] x := by
  -- the marginal weights with the `i`-th factor restricted to `x`
  let G : Nat → List σ → ℝ := fun j y => if j = i → y = x then margAt t [j] y else 0
  have e : ∀ o : List σ,
      (if project [i] o = x
        then ((List.range as.length).map (fun j => margAt t [j] (project [j] o))).prod else 0)
        = ((List.range as.length).map (fun j => G j (project [j] o))).prod := by
    intro o
    by_cases h : project [i] o = x
    · rw [if_pos h]
      exact congrArg List.prod (List.map_congr_left (fun j _ => (if_pos (fun e => e ▸ h)).symm))
    · rw [if_neg h]
      exact (List.prod_eq_zero (List.mem_map.mpr
        ⟨i, List.mem_range.mpr hi, if_neg (fun c => h (c rfl))⟩)).symm
  have hone : ∀ j, j ≠ i → j ∈ List.range as.length →
      ((as.getD j []).map (fun a => G j [a])).sum = 1 := by
    intro j hne hj
    have := sum_margAt_single t as hnd hk j (List.mem_range.mp hj) (fun _ => True)
    simpa only [G, if_pos (fun e : j = i => absurd e hne), if_true, wtBy_true, hmass] using this
  rw [prodMarg_singletons_eq, margAt_eq_wtBy, wtBy_map_graph, List.map_congr_left (fun o _ => e o),
    sum_cartesian_prod, List.prod_map_eq_pow_single i _ hone,
    List.count_eq_one_of_mem List.nodup_range (List.mem_range.mpr hi), pow_one, margAt_eq_wtBy]
  simpa only [G, forall_const] using sum_margAt_single t as hnd hk i hi (· = x)

end Singletons

/-! ### Log-linear form and support of the product of marginals -/

section LogLinear
open Dit.Lemmas.Diverge Dit.Lemmas.InfoReal
variable {σ : Type} [DecidableEq σ]

theorem logb_prod (l : List ℝ) (h : l.prod ≠ 0) :
    Real.logb 2 l.prod = (l.map (Real.logb 2)).sum := by
  induction l with
  | nil => simp
  | cons a l ih =>
    rw [List.prod_cons] at h
    rw [List.prod_cons, List.map_cons, List.sum_cons,
      Real.logb_mul (left_ne_zero_of_mul h) (right_ne_zero_of_mul h), ih (right_ne_zero_of_mul h)]

theorem mem_of_mem_space {κ : Type} [DecidableEq κ] {t : Tab κ ℝ} {space : List κ}
    (hk : keys t = space) (hnd : space.Nodup) {o : κ} (ho : o ∈ space) :
    (o, lookupD 0 t o) ∈ t := by
  obtain ⟨v, hv⟩ := mem_keys.mp (hk ▸ ho)
  rw [lookupD_eq_of_mem (hk ▸ hnd) hv 0]; exact hv

theorem lookupD_eq_zero_of_margAt_eq_zero (p : Tab (List σ) ℝ) (hp : ∀ r ∈ p, 0 ≤ r.2)
    (g : List Nat) (o : List σ) (h : margAt p g (project g o) = 0) : lookupD 0 p o = 0 := by
  unfold lookupD
  cases hl : lookup? p o with
  | none => rfl
  | some v =>
    have hm := mem_of_lookup?_eq_some hl
    exact le_antisymm (h ▸ le_margAt p hp g (o, v) hm) (hp (o, v) hm)

/-- The product of marginals is log-linear with `ψ_g = log₂ P_t(g = ·)` and constant 0. -/
theorem prodMarg_loglinear (t : Tab (List σ) ℝ) (groups : List (List Nat))
    (space : List (List σ)) :
    ∀ o ∈ space, lookupD 0 (prodMarg t groups space) o ≠ 0 →
      Real.logb 2 (lookupD 0 (prodMarg t groups space) o)
        = 0 + (groups.map (fun g => Real.logb 2 (margAt t g (project g o)))).sum := by
  intro o ho hne
  rw [lookupD_prodMarg t groups space o ho] at hne ⊢
  rw [logb_prod _ hne, List.map_map, zero_add]
  rfl

/-- The support of the product of marginals is the whole marginal support. -/
theorem prodMarg_marginal_support (t : Tab (List σ) ℝ) (groups : List (List Nat))
    (space : List (List σ)) :
    ∀ o ∈ space, lookupD 0 (prodMarg t groups space) o = 0 →
      ∃ g ∈ groups, margAt t g (project g o) = 0 := by
  intro o ho h0
  rw [lookupD_prodMarg t groups space o ho] at h0
  obtain ⟨g, hg, hz⟩ := List.mem_map.mp (List.prod_eq_zero_iff.mp h0)
  exact ⟨g, hg, hz⟩

/-- Entropy of a table that is log-linear in the logarithms of the marginals of `t` and has the
marginals of `t`: the sum of the marginal entropies. -/
theorem entropy_eq_sum_entropyOf (t q : Tab (List σ) ℝ) {space : List (List σ)}
    (hq : keys q = space) (hnd : space.Nodup) (groups : List (List Nat))
    (hmass : mass q = mass t) (hm : ∀ g ∈ groups, ∀ x, margAt q g x = margAt t g x)
    (hlog : ∀ o ∈ space, lookupD 0 q o ≠ 0 →
      Real.logb 2 (lookupD 0 q o)
        = 0 + (groups.map (fun g => Real.logb 2 (margAt t g (project g o)))).sum) :
    entropyVals (Real.logb 2) (vals q)
      = (groups.map (fun g => entropyOf (Real.logb 2) t g)).sum := by
  have hrows : ∀ g ∈ groups, entropyOf (Real.logb 2) t g
      = -(t.map (fun r => r.2 * Real.logb 2 (margAt t g (project g r.1)))).sum := by
    intro g _
    rw [entropyOf_rows]
    refine congrArg (fun l => -List.sum l) (List.map_congr_left (fun r _ => ?_))
    rw [fibreSum_eq_ite, margAt_eq_wtBy]
    rfl
  rw [entropy_loglinear q hq hnd groups 0 (fun g x => Real.logb 2 (margAt t g x)) hlog,
    sum_loglinear_eq q t groups 0 (fun g x => Real.logb 2 (margAt t g x)) hmass hm,
    sum_rows_loglinear t groups 0 (fun g x => Real.logb 2 (margAt t g x)), mul_zero, zero_add,
    List.map_congr_left hrows, sum_map_neg]

end LogLinear

/-! ### Feasible tables -/

section Feasible
open Dit.Lemmas.Diverge Dit.Lemmas.InfoReal
variable {σ : Type} [DecidableEq σ]

/-- `p` is *feasible* for the constraints `(t, groups)` on `space`: a non-negative table on
`space` with the total mass of `t` and the marginals of `t` on every group of `groups`. -/
structure Feasible (t : Tab (List σ) ℝ) (space : List (List σ)) (groups : List (List Nat))
    (p : Tab (List σ) ℝ) : Prop where
  keys_eq : keys p = space
  nonneg : ∀ r ∈ p, 0 ≤ r.2
  mass_eq : mass p = mass t
  marg : ∀ g ∈ groups, ∀ x, margAt p g x = margAt t g x

theorem Feasible.self (t : Tab (List σ) ℝ) (space : List (List σ)) (groups : List (List Nat))
    (hk : keys t = space) (hnn : ∀ r ∈ t, 0 ≤ r.2) : Feasible t space groups t :=
  ⟨hk, hnn, rfl, fun _ _ _ => rfl⟩

/-- If the support of `q` is the whole *marginal support* of the constraints (every outcome with
`q(o) = 0` has a vanishing `t`-marginal on some group), then every feasible table has its support
inside that of `q`. -/
theorem Feasible.supp_subset {t p : Tab (List σ) ℝ} {space : List (List σ)}
    {groups : List (List Nat)} (hp : Feasible t space groups p) (q : Tab (List σ) ℝ)
    (hfull : ∀ o ∈ space, lookupD 0 q o = 0 → ∃ g ∈ groups, margAt t g (project g o) = 0) :
    ∀ o ∈ space, lookupD 0 q o = 0 → lookupD 0 p o = 0 := by
  intro o ho h0
  obtain ⟨g, hg, hz⟩ := hfull o ho h0
  exact lookupD_eq_zero_of_margAt_eq_zero p hp.nonneg g o ((hp.marg g hg _).trans hz)

theorem Feasible.dedup {t : Tab (List σ) ℝ} {space : List (List σ)} {groups : List (List Nat)}
    {p : Tab (List σ) ℝ} (h : Feasible t space groups p) :
    Feasible t space (Dit.dedup groups) p :=
  ⟨h.keys_eq, h.nonneg, h.mass_eq, fun g hg => h.marg g (mem_dedup.mp hg)⟩

/-- Every index list contained in `g'` is read off `g'` at suitable positions. -/
theorem exists_positions (g g' : List Nat) (h : ∀ i ∈ g, i ∈ g') :
    ∃ J : List Nat, g = J.filterMap (fun j => g'[j]?) := by
  induction g with
  | nil => exact ⟨[], rfl⟩
  | cons i g ih =>
    obtain ⟨J, hJ⟩ := ih (fun k hk => h k (List.mem_cons_of_mem _ hk))
    obtain ⟨j, hj⟩ := List.mem_iff_getElem?.mp (h i (by simp))
    exact ⟨j :: J, by rw [List.filterMap_cons, hj, ← hJ]⟩

/-- **Marginals of sub-groups.** If two tables have the same `g'`-marginal, every index of `g`
occurs in `g'`, and the indices of `g'` are valid for all stored outcomes, then the tables have
the same `g`-marginal. -/
theorem margAt_of_submarginal (p q : Tab (List σ) ℝ) (g g' : List Nat)
    (hsub : ∀ i ∈ g, i ∈ g')
    (hvp : ∀ o ∈ keys p, ∀ i ∈ g', i < o.length) (hvq : ∀ o ∈ keys q, ∀ i ∈ g', i < o.length)
    (hm : ∀ x, margAt p g' x = margAt q g' x) (x : List σ) :
    margAt p g x = margAt q g x := by
  obtain ⟨J, hJ⟩ := exists_positions g g' hsub
  have key : ∀ T : Tab (List σ) ℝ, (∀ o ∈ keys T, ∀ i ∈ g', i < o.length) →
      margAt T g x = wtBy (fun o => project J (project g' o) = x) T := by
    intro T hv
    rw [margAt_eq_wtBy]
    exact wtBy_congr _ _ T (fun o ho => by rw [project_project (hv o ho) J, ← hJ])
  rw [key p hvp, key q hvq]
  exact wtBy_eq_of_margAt_eq p q g' hm (fun y => project J y = x)

theorem Feasible.coarsen {t : Tab (List σ) ℝ} {space : List (List σ)}
    {groups₁ groups₂ : List (List Nat)} {p : Tab (List σ) ℝ} (ht : keys t = space)
    (hcoarse : ∀ g ∈ groups₁, ∃ g' ∈ groups₂, ∀ i ∈ g, i ∈ g')
    (hvalid : ∀ o ∈ space, ∀ g' ∈ groups₂, ∀ i ∈ g', i < o.length)
    (h : Feasible t space groups₂ p) : Feasible t space groups₁ p := by
  refine ⟨h.keys_eq, h.nonneg, h.mass_eq, ?_⟩
  intro g hg x
  obtain ⟨g', hg', hsub⟩ := hcoarse g hg
  exact margAt_of_submarginal p t g g' hsub
    (fun o ho => hvalid o (h.keys_eq ▸ ho) g' hg') (fun o ho => hvalid o (ht ▸ ho) g' hg')
    (h.marg g' hg') x

omit [DecidableEq σ] in
theorem project_range_length (o : List σ) : project (List.range o.length) o = o := by
  induction o with
  | nil => rfl
  | cons a o ih =>
    rw [List.length_cons, List.range_succ_eq_map]
    unfold project at ih ⊢
    rw [List.filterMap_cons, List.filterMap_map]
    simp only [List.getElem?_cons_zero]
    congr 1

/-- If `g` covers all variables (`project g o = o` on the stored outcomes) the `g`-marginal is
the table itself. -/
theorem lookupD_eq_margAt_of_full (T : Tab (List σ) ℝ) (hnd : (keys T).Nodup) (g : List Nat)
    (hfull : ∀ o ∈ keys T, project g o = o) (o : List σ) : lookupD 0 T o = margAt T g o := by
  rw [lookupD_eq_wtBy hnd, margAt_eq_wtBy]
  apply wtBy_congr
  intro k hk
  rw [hfull k hk]

theorem lookupD_uniformOn (space : List (List σ)) (o : List σ) (ho : o ∈ space) :
    lookupD 0 (uniformOn (fun n : Nat => (n : ℝ)) space) o = 1 / (space.length : ℝ) := by
  unfold lookupD uniformOn
  rw [lookup?_map_graph]; simp [ho]

theorem lookupD_uniformOn_ne_zero (space : List (List σ)) {o : List σ} (ho : o ∈ space) :
    lookupD 0 (uniformOn (fun n : Nat => (n : ℝ)) space) o ≠ 0 := by
  rw [lookupD_uniformOn space o ho]
  exact one_div_ne_zero (Nat.cast_ne_zero.mpr (List.length_pos_of_mem ho).ne')

omit [DecidableEq σ] in
theorem keys_uniformOn (space : List (List σ)) :
    keys (uniformOn (fun n : Nat => (n : ℝ)) space) = space := keys_map_graph _ _

omit [DecidableEq σ] in
theorem uniformOn_nonneg (space : List (List σ)) :
    ∀ r ∈ uniformOn (fun n : Nat => (n : ℝ)) space, 0 ≤ r.2 := by
  intro r hr
  obtain ⟨o, _, rfl⟩ := List.mem_map.mp hr
  exact one_div_nonneg.mpr (Nat.cast_nonneg _)

omit [DecidableEq σ] in
theorem vals_uniformOn (space : List (List σ)) :
    vals (uniformOn (fun n : Nat => (n : ℝ)) space)
      = List.replicate space.length (1 / (space.length : ℝ)) := by
  rw [uniformOn, vals, List.map_map]
  exact List.map_const' ..

omit [DecidableEq σ] in
theorem mass_uniformOn (space : List (List σ)) (hne : space ≠ []) :
    mass (uniformOn (fun n : Nat => (n : ℝ)) space) = 1 := by
  rw [mass_eq_sum, vals_uniformOn, List.sum_replicate, nsmul_eq_mul,
    mul_one_div_cancel (Nat.cast_ne_zero.mpr (List.length_pos_iff.mpr hne).ne')]

omit [DecidableEq σ] in
theorem entropy_uniformOn (space : List (List σ)) :
    entropyVals (Real.logb 2) (vals (uniformOn (fun n : Nat => (n : ℝ)) space))
      = Real.logb 2 (space.length : ℝ) := by
  rw [entropyVals_eq_sum, vals_uniformOn, List.map_replicate, List.sum_replicate, nsmul_eq_mul,
    one_div, Real.logb_inv, ← mul_assoc]
  by_cases h0 : (space.length : ℝ) = 0
  · simp [h0]
  · rw [mul_inv_cancel₀ h0, one_mul, neg_neg]

end Feasible

/-! ### An IPF step does not increase `D(t‖q)` -/

section StepKL
open Dit.Lemmas.Diverge Dit.Lemmas.InfoReal
variable {σ : Type} [DecidableEq σ]

theorem lookupD_ipfStep (t q : Tab (List σ) ℝ) {space : List (List σ)} (hq : keys q = space)
    (hnd : space.Nodup) (g : List Nat) (o : List σ) (ho : o ∈ space) :
    lookupD 0 (ipfStep t q g) o
      = lookupD 0 q o * (margAt t g (project g o) / margAt q g (project g o)) := by
  have hm : (o, lookupD 0 q o * (margAt t g (project g o) / margAt q g (project g o)))
      ∈ ipfStep t q g := by
    rw [ipfStep_eq]
    exact List.mem_map.mpr ⟨_, mem_of_mem_space hq hnd ho, rfl⟩
  exact lookupD_eq_of_mem (by rw [keys_ipfStep, hq]; exact hnd) hm 0

theorem supp_ipfStep (t q : Tab (List σ) ℝ) {space : List (List σ)} (hq : keys q = space)
    (hnd : space.Nodup) (htn : ∀ r ∈ t, 0 ≤ r.2) (hqn : ∀ r ∈ q, 0 ≤ r.2) (g : List Nat)
    (hsupp : ∀ o ∈ space, lookupD 0 q o = 0 → lookupD 0 t o = 0) :
    ∀ o ∈ space, lookupD 0 (ipfStep t q g) o = 0 → lookupD 0 t o = 0 := by
  intro o ho h0
  rw [lookupD_ipfStep t q hq hnd g o ho] at h0
  rcases mul_eq_zero.mp h0 with h | h
  · exact hsupp o ho h
  · rcases div_eq_zero_iff.mp h with h | h
    · exact lookupD_eq_zero_of_margAt_eq_zero t htn g o h
    · exact hsupp o ho (lookupD_eq_zero_of_margAt_eq_zero q hqn g o h)

theorem margAt_absCont (t q : Tab (List σ) ℝ) {space : List (List σ)} (ht : keys t = space)
    (hnd : space.Nodup) (hqn : ∀ r ∈ q, 0 ≤ r.2) (g : List Nat)
    (hsupp : ∀ o ∈ space, lookupD 0 q o = 0 → lookupD 0 t o = 0) (x : List σ)
    (h : margAt q g x = 0) : margAt t g x = 0 := by
  rw [margAt_eq_wtBy]
  refine List.sum_eq_zero (fun z hz => ?_)
  obtain ⟨r, hr, rfl⟩ := List.mem_map.mp hz
  by_cases hp : project g r.1 = x
  · rw [if_pos hp, ← lookupD_eq_of_mem (ht ▸ hnd) hr 0]
    exact hsupp r.1 (ht ▸ mem_keys_of_mem hr)
      (lookupD_eq_zero_of_margAt_eq_zero q hqn g r.1 (hp ▸ h))
  · exact if_neg hp

/-- **Decrease of the divergence in one IPF step**: `D(t‖q) − D(t‖q') = D(t_g‖q_g)`, the
divergence between the `g`-marginals (listed over the distinct projections of the space). -/
theorem klSum_sub_klSum_ipfStep (t q : Tab (List σ) ℝ) {space : List (List σ)}
    (ht : keys t = space) (hq : keys q = space) (hnd : space.Nodup)
    (htn : ∀ r ∈ t, 0 ≤ r.2) (hqn : ∀ r ∈ q, 0 ≤ r.2) (g : List Nat)
    (hsupp : ∀ o ∈ space, lookupD 0 q o = 0 → lookupD 0 t o = 0) :
    klSum (alignPair t q) - klSum (alignPair t (ipfStep t q g))
      = klSum ((dedup (space.map (project g))).map (fun x => (margAt t g x, margAt q g x))) := by
  have e := sum_rows_margAt t g (fun x => Real.logb 2 (margAt t g x / margAt q g x))
    (nodup_dedup (space.map (project g)))
    (fun o ho => mem_dedup.mpr (List.mem_map_of_mem (ht ▸ ho)))
  unfold klSum alignPair
  rw [List.map_map, List.map_map, List.map_map, ← sum_map_sub]
  refine Eq.trans (congrArg List.sum (List.map_congr_left (fun r hr => ?_))) e
  simp only [Function.comp_apply]
  by_cases h0 : r.2 = 0
  · simp only [h0, zero_mul, sub_self]
  · have hmem : r.1 ∈ space := ht ▸ mem_keys_of_mem hr
    have hT : lookupD 0 t r.1 = r.2 := lookupD_eq_of_mem (ht ▸ hnd) hr 0
    have hQ0 : lookupD 0 q r.1 ≠ 0 := fun e' => h0 (hT ▸ hsupp r.1 hmem e')
    have hmt : margAt t g (project g r.1) ≠ 0 :=
      fun e' => h0 (hT ▸ lookupD_eq_zero_of_margAt_eq_zero t htn g r.1 e')
    have hmq : margAt q g (project g r.1) ≠ 0 :=
      fun e' => hQ0 (lookupD_eq_zero_of_margAt_eq_zero q hqn g r.1 e')
    rw [lookupD_ipfStep t q hq hnd g r.1 hmem, ← div_div,
      Real.logb_div (div_ne_zero h0 hQ0) (div_ne_zero hmt hmq)]
    ring

/-- **An IPF step does not increase `D(t‖q)`**, for non-negative tables on the same space with
`supp t ⊆ supp q` and `mass q ≤ mass t`. -/
theorem klSum_ipfStep_le (t q : Tab (List σ) ℝ) {space : List (List σ)}
    (ht : keys t = space) (hq : keys q = space) (hnd : space.Nodup)
    (htn : ∀ r ∈ t, 0 ≤ r.2) (hqn : ∀ r ∈ q, 0 ≤ r.2) (g : List Nat)
    (hsupp : ∀ o ∈ space, lookupD 0 q o = 0 → lookupD 0 t o = 0) (hmass : mass q ≤ mass t) :
    klSum (alignPair t (ipfStep t q g)) ≤ klSum (alignPair t q) := by
  have hl := nodup_dedup (space.map (project g))
  have hcov : ∀ T : Tab (List σ) ℝ, keys T = space →
      ∀ o ∈ keys T, project g o ∈ dedup (space.map (project g)) :=
    fun T hT o ho => mem_dedup.mpr (List.mem_map_of_mem (hT ▸ ho))
  have hnn := klSum_nonneg
    ((dedup (space.map (project g))).map (fun x => (margAt t g x, margAt q g x)))
    (fun r hr => by
      obtain ⟨x, _, rfl⟩ := List.mem_map.mp hr
      exact ⟨margAt_nonneg t htn g x, margAt_nonneg q hqn g x⟩)
    ((absCont_iff _).mpr (fun r hr h2 => by
      obtain ⟨x, _, rfl⟩ := List.mem_map.mp hr
      exact margAt_absCont t q ht hnd hqn g hsupp x h2))
    (by
      rw [List.map_map, List.map_map]
      exact (sum_margAt q g hl (hcov q hq)).trans_le
        (hmass.trans_eq (sum_margAt t g hl (hcov t ht)).symm))
  rw [← klSum_sub_klSum_ipfStep t q ht hq hnd htn hqn g hsupp] at hnn
  exact sub_nonneg.mp hnn

end StepKL

/-! ### The optimality certificate -/

section Certificate
open Dit.Lemmas.Diverge Dit.Lemmas.InfoReal
variable {σ : Type} [DecidableEq σ]

/-- **Certificate of optimality.** A table `q` that is log-linear on its support over `groups`
has at least the entropy of every non-negative table `p` on the same space with the same mass,
the same marginals on `groups` and `supp p ⊆ supp q`; equality holds only for `p = q`. -/
theorem entropy_le_of_loglinear (p q : Tab (List σ) ℝ) {space : List (List σ)}
    (hp : keys p = space) (hq : keys q = space) (hnd : space.Nodup)
    (hpn : ∀ r ∈ p, 0 ≤ r.2) (hqn : ∀ r ∈ q, 0 ≤ r.2)
    (groups : List (List Nat)) (c : ℝ) (ψ : List Nat → List σ → ℝ)
    (hmass : mass p = mass q)
    (hm : ∀ g ∈ groups, ∀ x, margAt p g x = margAt q g x)
    (hlog : ∀ o ∈ space, lookupD 0 q o ≠ 0 →
      Real.logb 2 (lookupD 0 q o) = c + (groups.map (fun g => ψ g (project g o))).sum)
    (hsupp : ∀ o ∈ space, lookupD 0 q o = 0 → lookupD 0 p o = 0) :
    entropyVals (Real.logb 2) (vals p) ≤ entropyVals (Real.logb 2) (vals q)
      ∧ (entropyVals (Real.logb 2) (vals p) = entropyVals (Real.logb 2) (vals q) ↔ p = q) := by
  have hid := klSum_eq_entropy_sub p q hp hq hnd groups c ψ hmass hm hlog hsupp
  have hac := absCont_alignPair p q hp hnd hsupp
  have hnn : ∀ r ∈ alignPair p q, 0 ≤ r.1 ∧ 0 ≤ r.2 := by
    rw [alignPair_eq p q hp hnd]
    intro r hr
    obtain ⟨o, _, rfl⟩ := List.mem_map.mp hr
    exact ⟨lookupD_nonneg hpn o, lookupD_nonneg hqn o⟩
  have hs : ((alignPair p q).map Prod.fst).sum = ((alignPair p q).map Prod.snd).sum := by
    rw [alignPair_fst, alignPair_snd p q hp hq hnd, ← mass_eq_sum, ← mass_eq_sum, hmass]
  have h0 := klSum_nonneg (alignPair p q) hnn hac hs.ge
  have hz := klSum_eq_zero_iff (alignPair p q) hnn hac hs
  refine ⟨sub_nonneg.mp (hid ▸ h0), fun he => eq_of_lookupD_eq hp hq hnd (fun o ho => ?_), fun he => by rw [he]⟩
  have hall := hz.mp (by rw [hid, he, sub_self])
  rw [alignPair_eq p q hp hnd] at hall
  exact hall _ (List.mem_map.mpr ⟨o, ho, rfl⟩)

end Certificate

/-! ### A concrete instance (used by the non-vacuity examples of Props/C14.lean) -/

section Example

/-- Two binary alphabets. -/
def exAlph : List (List Nat) := [[0, 1], [0, 1]]

/-- Two perfectly correlated fair bits, stored densely on the Cartesian space. -/
noncomputable def exCorr : Tab (List Nat) ℝ :=
  [([0, 0], 1 / 2), ([0, 1], 0), ([1, 0], 0), ([1, 1], 1 / 2)]

theorem exAlph_nodup : ∀ a ∈ exAlph, a.Nodup := by decide

theorem exCorr_keys : keys exCorr = cartesian exAlph := rfl

theorem exCorr_nonneg : ∀ r ∈ exCorr, 0 ≤ r.2 := by
  intro r hr
  simp only [exCorr, List.mem_cons, List.not_mem_nil, or_false] at hr
  rcases hr with rfl | rfl | rfl | rfl <;> norm_num

theorem exCorr_mass : mass exCorr = 1 := by
  rw [mass_eq_sum]
  simp only [exCorr, vals, List.map_cons, List.map_nil, List.sum_cons, List.sum_nil]
  norm_num

theorem exCorr_lookup : lookupD 0 exCorr [0, 1] = 0 := by
  simp [exCorr, lookupD, lookup?]

/-- The product of the marginals differs from the correlated table. -/
theorem exCorr_prod_lookup :
    lookupD 0 (prodMarg exCorr (singletons 2) (cartesian exAlph)) [0, 1] = 1 / 4 := by
  rw [lookupD_prodMarg _ _ _ _ (by decide)]
  simp +decide only [singletons, List.range_succ_eq_map, List.range_zero, List.map_cons,
    List.map_nil, List.prod_cons, List.prod_nil, margAt_eq_wtBy, exCorr, wtBy_cons, wtBy_nil,
    if_true, if_false]
  norm_num

end Example

end Dit.Lemmas.Maxent
