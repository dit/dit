/-
C13 — `channel_capacity`: the iteration itself (`Core/CapLoop.lean`, the code's own order:
`q = next_q(p, r)`, `r = next_r(p, q)`, `cc = calc_cc(p, q, r)`, stop when `isclose(cc, old_cc)`).

Theorems at `α := ℝ`, `log2 := Real.logb 2`, `exp2 := (2:ℝ)^·`, `ofNat := Nat.cast`, for an
`n × m` channel `IsChannel P n m` and input laws with strictly positive entries (`IsLaw r n`,
`∀ x < n, 0 < vec r x`: the uniform start is one and every pass returns one). Entries are read
with `vec r x = r.getD x 0`, `ent P x y = (P.getD x []).getD y 0`; `q` is a list over `y` of lists
over `x`, so `q(x|y) = ent q y x`.

The pass alternately maximises Arimoto's functional `J(r, q) = calc_cc(p, q, r)` in `q` and in
`r`, which gives `I(r;P) ≤ cc ≤ I(r';P) ≤ max_x D(P_x‖r'P)` for one pass and, since for ANY
stopping predicate and fuel the loop returns one pass applied to a positive law, for `capRun`.
No hypothesis "every output letter is reachable" is needed except for the posterior to sum to one:
terms with `P(y|x) = 0` are guarded in the code (`0 ** 0 = 1`, `nansum`) and in the model alike.
`Real.logb 2 0 = 0` (not `−∞`), which is why `arimoto_q_step` and `arimoto_r_step` ask `q` to be non-zero where
the weight multiplying its logarithm is. Helper lemmas: Lemmas/CapLoop.lean.
-/
import DitModel.Lemmas.CapLoop
import DitModel.Props.C13

namespace Dit.Props.C13Cap
open Dit Dit.Lemmas.Channel Dit.Lemmas.CapLoop Finset

/-! ## Maximisation in `q` and in `r` -/

/-- **`next_q` is the posterior**: for an input law `r` and a channel `P`, `capNextQ r P`
has one row per output letter `y`, of length `n`, with non-negative entries
`q(x|y) = r_x P(y|x) / Σ_x' r_x' P(y|x')` summing to at most one; if `r` is strictly positive and
the output letter `y` is reachable (some `P(y|x) ≠ 0` — otherwise the code divides `0/0`), that
row is a probability vector. -/
theorem capNextQ_posterior (r : List ℝ) (P : List (List ℝ)) (n m : ℕ) (hr : IsLaw r n)
    (hP : IsChannel P n m) :
    (capNextQ r P).length = m
    ∧ ∀ y < m, ((capNextQ r P).getD y []).length = n
      ∧ (∀ x < n, ent (capNextQ r P) y x
          = vec r x * ent P x y / ∑ x' ∈ range n, vec r x' * ent P x' y)
      ∧ (∀ x < n, 0 ≤ ent (capNextQ r P) y x)
      ∧ ∑ x ∈ range n, ent (capNextQ r P) y x ≤ 1
      ∧ ((∀ x < n, 0 < vec r x) → (∃ x < n, ent P x y ≠ 0) →
          IsLaw ((capNextQ r P).getD y []) n) := by
  have hM := capNextQ_isMat hr.len hP.isMat hr.pos_len
  refine ⟨hM.len, fun y hy => ⟨hM.row_len hy, fun x hx => ?_,
    fun x hx => capNextQ_nonneg hr hP hy hx, capNextQ_sum_le hr hP hy, ?_⟩⟩
  · rw [ent_capNextQ hr.len hP.isMat hy hx, vec_outputLaw r P n m hr.len hP.isMat]
  · rintro hpos ⟨x, hx, hxy⟩
    apply isLaw_of_vec _ n (hM.row_len hy) (fun x hx => capNextQ_nonneg hr hP hy hx)
    exact (capNextQ_sum hr hP hy).trans
      (div_self (out_pos ⟨hr, hpos⟩ hP hx hxy).ne')

/-- Non-vacuity: BSC(1/4) with the uniform input; every output letter is reachable. -/
example : IsLaw [(1 : ℝ) / 2, 1 / 2] 2 ∧ IsChannel (bsc (1 / 4)) 2 2
    ∧ (∀ x < 2, 0 < vec [(1 : ℝ) / 2, 1 / 2] x) ∧ ∀ y < 2, ∃ x < 2, ent (bsc (1 / 4)) x y ≠ 0 :=
  ⟨half_law, bsc_quarter, half_pos, fun y hy =>
    ⟨0, two_pos, (vec_pair_pos (a := 1 - 1 / 4) (by norm_num) (by norm_num) y hy).ne'⟩⟩
example : capNextQ [(1 : ℚ) / 3, 2 / 3] [[3 / 4, 1 / 4], [1 / 4, 3 / 4]]
    = [[3 / 5, 2 / 5], [1 / 7, 6 / 7]] := by decide +kernel

/-- **`next_r` returns a strictly positive law**: for an `n × m` matrix `P`, `n ≥ 1`, and
ANY `q`, `capNextR log₂ exp₂ P q` has length `n`, strictly positive entries summing to one, in the
closed form `r'_x = w_x / Σ_x' w_x'` with `w_x = 2^{Σ_y P(y|x) log₂ q(x|y)} = Π_y q(x|y)^{P(y|x)}`. -/
theorem capNextR_isLaw (P q : List (List ℝ)) (n m : ℕ) (hP : IsMat P n m) (hn : 0 < n) :
    IsLaw (capNextR (Real.logb 2) (fun x => (2 : ℝ) ^ x) P q) n
    ∧ (∀ x < n, 0 < vec (capNextR (Real.logb 2) (fun x => (2 : ℝ) ^ x) P q) x)
    ∧ ∀ x < n, vec (capNextR (Real.logb 2) (fun x => (2 : ℝ) ^ x) P q) x
        = (2 : ℝ) ^ (∑ y ∈ range m, ent P x y * Real.logb 2 (ent q y x))
          / ∑ x' ∈ range n, (2 : ℝ) ^ (∑ y ∈ range m, ent P x' y * Real.logb 2 (ent q y x')) :=
  ⟨(capNextR_posLaw q hP hn).law, (capNextR_posLaw q hP hn).pos,
    fun _ => vec_capNextR q hP⟩

/-- Non-vacuity: a `2 × 2` matrix. -/
example : IsMat (bsc (1 / 4)) 2 2 ∧ 0 < 2 :=
  ⟨bsc_quarter.isMat, two_pos⟩

/-- **The reported quantity, entrywise**: `calc_cc(p, q, r) = Σ_x Σ_y r_x P(y|x) log₂ (q(x|y)/r_x)`
(shapes only; the `nansum` guard agrees with `0 · log₂ _ = 0`). -/
theorem capCC_eq_def (P q : List (List ℝ)) (r : List ℝ) (n m : ℕ) (hP : IsMat P n m) :
    capCC (Real.logb 2) P q r = ∑ x ∈ range n, ∑ y ∈ range m,
      vec r x * ent P x y * Real.logb 2 (ent q y x / vec r x) :=
  capCC_eq q r hP

/-- **Maximisation in `q`, Gibbs**: for a fixed input law `r`, among all families `q` of
sub-probability vectors over `x` (one per output letter) the posterior maximises `J(r, ·)`, and the
maximum is the mutual information: `J(r, q) ≤ J(r, next_q r) = I(r; P)`. The hypothesis
`q(x|y) = 0 → r_x P(y|x) = 0` is needed because `Real.logb 2 0 = 0` where the code has `−∞`. -/
theorem arimoto_q_step (P : List (List ℝ)) (n m : ℕ) (hP : IsChannel P n m) (r : List ℝ)
    (hr : IsLaw r n) (q : List (List ℝ)) (hq : ∀ y < m, ∀ x < n, 0 ≤ ent q y x)
    (hqs : ∀ y < m, ∑ x ∈ range n, ent q y x ≤ 1)
    (hdom : ∀ x < n, ∀ y < m, ent q y x = 0 → vec r x * ent P x y = 0) :
    capCC (Real.logb 2) P q r ≤ capCC (Real.logb 2) P (capNextQ r P) r
    ∧ capCC (Real.logb 2) P (capNextQ r P) r = channelMI (Real.logb 2) r P := by
  rw [capCC_posterior hr.len hP.isMat]
  exact ⟨capCC_le_channelMI hP hr hq hqs hdom, rfl⟩

/-- Non-vacuity: the constant family `q(x|y) = 1/2` against BSC(1/4) and the uniform input. -/
example : (∀ y < 2, ∀ x < 2, 0 ≤ ent [[(1 : ℝ) / 2, 1 / 2], [1 / 2, 1 / 2]] y x)
    ∧ (∀ y < 2, ∑ x ∈ range 2, ent [[(1 : ℝ) / 2, 1 / 2], [1 / 2, 1 / 2]] y x ≤ 1)
    ∧ (∀ x < 2, ∀ y < 2, ent [[(1 : ℝ) / 2, 1 / 2], [1 / 2, 1 / 2]] y x = 0
        → vec [(1 : ℝ) / 2, 1 / 2] x * ent (bsc (1 / 4)) x y = 0) :=
  ⟨fun y _ x _ => halves_isChannel.ent_nonneg y x, fun _ hy => (halves_isChannel.sum_ent hy).le,
    fun x hx y hy h => absurd h (halves_pos y hy x hx).ne'⟩

/-- **Maximisation in `r`**: for a fixed family `q` that is non-zero where `P` is (again
because `Real.logb 2 0 = 0`), among all input laws `r` the law `next_r q` maximises `J(·, q)`, and
the maximum is `log₂ Σ_x w_x`, `w_x = 2^{Σ_y P(y|x) log₂ q(x|y)}`. -/
theorem arimoto_r_step (P : List (List ℝ)) (n m : ℕ) (hP : IsChannel P n m) (hn : 0 < n)
    (q : List (List ℝ)) (hq : ∀ x < n, ∀ y < m, ent P x y ≠ 0 → ent q y x ≠ 0)
    (r : List ℝ) (hr : IsLaw r n) :
    capCC (Real.logb 2) P q r
      ≤ capCC (Real.logb 2) P q (capNextR (Real.logb 2) (fun x => (2 : ℝ) ^ x) P q)
    ∧ capCC (Real.logb 2) P q (capNextR (Real.logb 2) (fun x => (2 : ℝ) ^ x) P q)
      = Real.logb 2 (∑ x ∈ range n,
          (2 : ℝ) ^ (∑ y ∈ range m, ent P x y * Real.logb 2 (ent q y x))) := by
  rw [capCC_capNextR hP hn hq]
  exact ⟨capCC_le_log hP hq hr, rfl⟩

/-- Non-vacuity: the constant family is non-zero everywhere. -/
example : ∀ x < 2, ∀ y < 2, ent (bsc (1 / 4)) x y ≠ 0
    → ent [[(1 : ℝ) / 2, 1 / 2], [1 / 2, 1 / 2]] y x ≠ 0 :=
  fun x hx y hy _ => (halves_pos y hy x hx).ne'

/-! ## One pass -/

/-- **The sandwich**: one pass `(cc, r') = capStep P r` from a strictly positive law `r`
returns a strictly positive law `r'` and a value with `I(r; P) ≤ cc ≤ I(r'; P)`: the reported
value never exceeds the mutual information its returned input law achieves. (Positivity of `r`
makes the posterior non-zero wherever `P` is.) -/
theorem capStep_sandwich (P : List (List ℝ)) (n m : ℕ) (hP : IsChannel P n m) (r : List ℝ)
    (hr : IsLaw r n) (hpos : ∀ x < n, 0 < vec r x) :
    IsLaw (capStep (Real.logb 2) (fun x => (2 : ℝ) ^ x) P r).2 n
    ∧ (∀ x < n, 0 < vec (capStep (Real.logb 2) (fun x => (2 : ℝ) ^ x) P r).2 x)
    ∧ channelMI (Real.logb 2) r P ≤ (capStep (Real.logb 2) (fun x => (2 : ℝ) ^ x) P r).1
    ∧ (capStep (Real.logb 2) (fun x => (2 : ℝ) ^ x) P r).1
        ≤ channelMI (Real.logb 2) (capStep (Real.logb 2) (fun x => (2 : ℝ) ^ x) P r).2 P :=
  ⟨(capStep_posLaw hP.isMat hr.pos_len r).law,
    (capStep_posLaw hP.isMat hr.pos_len r).pos,
    Lemmas.CapLoop.capStep_sandwich hP ⟨hr, hpos⟩⟩

/-- **Monotone ascent**: the mutual information achieved by the input law never
decreases from pass to pass. -/
theorem capStep_ascent (P : List (List ℝ)) (n m : ℕ) (hP : IsChannel P n m) (r : List ℝ)
    (hr : IsLaw r n) (hpos : ∀ x < n, 0 < vec r x) :
    channelMI (Real.logb 2) r P
      ≤ channelMI (Real.logb 2) (capStep (Real.logb 2) (fun x => (2 : ℝ) ^ x) P r).2 P :=
  have ⟨h1, h2⟩ := Lemmas.CapLoop.capStep_sandwich hP ⟨hr, hpos⟩
  h1.trans h2

/-- **The value is below the dual bound**: `cc ≤ I(r'; P) ≤ max_x D(P_x ‖ r'P)`, and
every input law `r''` has `I(r''; P) ≤ max_x D(P_x ‖ r'P)` — so `cc ≤ C ≤ max_x D(P_x ‖ r'P)`. -/
theorem capStep_le_dual (P : List (List ℝ)) (n m : ℕ) (hP : IsChannel P n m) (r : List ℝ)
    (hr : IsLaw r n) (hpos : ∀ x < n, 0 < vec r x) :
    (capStep (Real.logb 2) (fun x => (2 : ℝ) ^ x) P r).1
      ≤ lmaxOf (P.map (fun px => klRow (Real.logb 2) px
          (outputLaw (capStep (Real.logb 2) (fun x => (2 : ℝ) ^ x) P r).2 P)))
    ∧ ∀ r'', IsLaw r'' n → channelMI (Real.logb 2) r'' P
        ≤ lmaxOf (P.map (fun px => klRow (Real.logb 2) px
            (outputLaw (capStep (Real.logb 2) (fun x => (2 : ℝ) ^ x) P r).2 P))) := by
  have hr' := capStep_posLaw hP.isMat hr.pos_len r
  have hdual := fun r'' hr'' => Props.C13.capacity_dual_bound P n m hP _
    (outputLaw_isLaw _ P n m hr'.law hP)
    (Props.C13.dominates_of_pos _ P n m hr'.law hP hr'.pos) r'' hr''
  exact ⟨le_trans (Lemmas.CapLoop.capStep_sandwich hP ⟨hr, hpos⟩).2 (hdual _ hr'.law),
    hdual⟩

/-- Non-vacuity for the one-pass theorems: BSC(1/4) and the uniform input (see the first
`example`), and the non-uniform positive law `(1/3, 2/3)`. -/
example : IsLaw [(1 : ℝ) / 3, 2 / 3] 2 ∧ ∀ x < 2, 0 < vec [(1 : ℝ) / 3, 2 / 3] x := by
  have hp : ∀ a ∈ [(1 : ℝ) / 3, 2 / 3], 0 < a := by norm_num
  exact ⟨⟨rfl, fun a ha => (hp a ha).le, by norm_num⟩, vec_pos_of_mem rfl hp⟩

/-- **One pass in closed form**: from a strictly positive law, with `D_x = D(P_x ‖ rP)`,
`r'_x = r_x 2^{D_x} / Σ_x' r_x' 2^{D_x'}` and `cc = log₂ Σ_x r_x 2^{D_x}`; and the returned law is
the model's one-step `baCapacityStep`. -/
theorem capStep_closed_form (P : List (List ℝ)) (n m : ℕ) (hP : IsChannel P n m) (r : List ℝ)
    (hr : IsLaw r n) (hpos : ∀ x < n, 0 < vec r x) :
    (∀ x < n, vec (capStep (Real.logb 2) (fun x => (2 : ℝ) ^ x) P r).2 x
      = vec r x * (2 : ℝ) ^ (klRow (Real.logb 2) (P.getD x []) (outputLaw r P))
        / ∑ x' ∈ range n, vec r x' *
            (2 : ℝ) ^ (klRow (Real.logb 2) (P.getD x' []) (outputLaw r P)))
    ∧ (capStep (Real.logb 2) (fun x => (2 : ℝ) ^ x) P r).1
      = Real.logb 2 (∑ x ∈ range n, vec r x *
          (2 : ℝ) ^ (klRow (Real.logb 2) (P.getD x []) (outputLaw r P)))
    ∧ (capStep (Real.logb 2) (fun x => (2 : ℝ) ^ x) P r).2
      = baCapacityStep (Real.logb 2) (fun x => (2 : ℝ) ^ x) r P :=
  ⟨fun _ => vec_capStep_snd ⟨hr, hpos⟩ hP, capStep_fst_closed ⟨hr, hpos⟩ hP,
    capStep_snd_eq_baCapacityStep hr.len hP.isMat hr.pos_len⟩

/-! ## The loop and `channel_capacity` -/

/-- **Loop invariant**: if the state `(cc, r)` entering `capLoop` is one pass applied to
a strictly positive law, then — for ANY stopping predicate `close`, any fuel, any `old`, `it` — so
is the returned `(cc', r')`, and the pass counter grows by at most the fuel. -/
theorem capLoop_invariant (P : List (List ℝ)) (n m : ℕ) (hP : IsChannel P n m) (hn : 0 < n)
    (close : ℝ → ℝ → Bool) (fuel : ℕ) (old cc : ℝ) (r : List ℝ) (it : ℕ)
    (h : ∃ rp, IsLaw rp n ∧ (∀ x < n, 0 < vec rp x)
      ∧ capStep (Real.logb 2) (fun x => (2 : ℝ) ^ x) P rp = (cc, r)) :
    (∃ rp, IsLaw rp n ∧ (∀ x < n, 0 < vec rp x)
      ∧ capStep (Real.logb 2) (fun x => (2 : ℝ) ^ x) P rp
        = ((capLoop (Real.logb 2) (fun x => (2 : ℝ) ^ x) P close fuel old cc r it).1,
           (capLoop (Real.logb 2) (fun x => (2 : ℝ) ^ x) P close fuel old cc r it).2.1))
    ∧ it ≤ (capLoop (Real.logb 2) (fun x => (2 : ℝ) ^ x) P close fuel old cc r it).2.2
    ∧ (capLoop (Real.logb 2) (fun x => (2 : ℝ) ^ x) P close fuel old cc r it).2.2 ≤ it + fuel :=
  capLoop_spec close
    (fun cc r => ∃ rp, IsLaw rp n ∧ (∀ x < n, 0 < vec rp x)
      ∧ capStep (Real.logb 2) (fun x => (2 : ℝ) ^ x) P rp = (cc, r))
    (by
      rintro cc r ⟨rp, _, _, he⟩
      have hr := capStep_posLaw hP.isMat hn rp
      rw [he] at hr
      exact ⟨r, hr.law, hr.pos, rfl⟩)
    fuel old cc r it h

/-- Non-vacuity: the state after the first pass from the uniform law. -/
example : ∃ rp, IsLaw rp 2 ∧ (∀ x < 2, 0 < vec rp x)
    ∧ capStep (Real.logb 2) (fun x => (2 : ℝ) ^ x) (bsc (1 / 4)) rp
      = ((capStep (Real.logb 2) (fun x => (2 : ℝ) ^ x) (bsc (1 / 4)) [1 / 2, 1 / 2]).1,
         (capStep (Real.logb 2) (fun x => (2 : ℝ) ^ x) (bsc (1 / 4)) [1 / 2, 1 / 2]).2) :=
  ⟨[1 / 2, 1 / 2], half_law, half_pos, rfl⟩

/-- **What `channel_capacity` returns**: for an `n × m` channel, `n ≥ 1`, ANY stopping
predicate and ANY fuel, the result `(cc, r, it)` of `capRun` satisfies: `r` is a strictly positive
input law; `(cc, r)` is one pass applied to a strictly positive law `r_prev`; `1 ≤ it ≤ fuel + 1`;
and `I(r_prev; P) ≤ cc ≤ I(r; P) ≤ max_x D(P_x ‖ rP)`. In particular the reported value is never
above the mutual information the returned law achieves, hence never above the capacity. -/
theorem capRun_spec (P : List (List ℝ)) (n m : ℕ) (hP : IsChannel P n m) (hn : 0 < n)
    (close : ℝ → ℝ → Bool) (fuel : ℕ) :
    ∀ cc r it, capRun (Real.logb 2) (fun x => (2 : ℝ) ^ x) (fun k => (k : ℝ)) P close fuel
        = (cc, r, it) →
      IsLaw r n ∧ (∀ x < n, 0 < vec r x) ∧ 1 ≤ it ∧ it ≤ fuel + 1
      ∧ ∃ rp, IsLaw rp n ∧ (∀ x < n, 0 < vec rp x)
        ∧ capStep (Real.logb 2) (fun x => (2 : ℝ) ^ x) P rp = (cc, r)
        ∧ channelMI (Real.logb 2) rp P ≤ cc
        ∧ cc ≤ channelMI (Real.logb 2) r P
        ∧ channelMI (Real.logb 2) r P
            ≤ lmaxOf (P.map (fun px => klRow (Real.logb 2) px (outputLaw r P))) := by
  intro cc r it hres
  rw [capRun_eq, hP.len] at hres
  obtain ⟨⟨rp, hrp, hpos, he⟩, h1, h2⟩ := capLoop_invariant P n m hP hn close fuel 0 _ _ 1
    ⟨uniformLaw n, (uniform_posLaw hn).law, (uniform_posLaw hn).pos, Prod.mk.eta.symm⟩
  rw [hres] at he h1 h2
  have hr := capStep_posLaw hP.isMat hn rp
  have hs := Lemmas.CapLoop.capStep_sandwich hP ⟨hrp, hpos⟩
  rw [he] at hr hs
  refine ⟨hr.law, hr.pos, h1, Nat.add_comm 1 fuel ▸ h2, rp, hrp, hpos, he, hs.1, hs.2, ?_⟩
  exact Props.C13.capacity_dual_bound P n m hP _ (outputLaw_isLaw r P n m hr.law hP)
    (Props.C13.dominates_of_pos r P n m hr.law hP hr.pos) r hr.law

/-- Non-vacuity: a channel with at least one input letter; the model runs on the BSC. -/
example : IsChannel (bsc (1 / 4)) 2 2 ∧ 0 < 2 :=
  ⟨bsc_quarter, two_pos⟩

/-- **From the measured quantities to the distance from capacity**: for the result
`(cc, r, it)` of `capRun`, `0 ≤ I(r;P) − cc`, and every input law `r''` has
`I(r'';P) − cc ≤ capacityGap r P + (I(r;P) − cc)`. Hence if a check measured
`capacityGap r P ≤ tol` and `|cc − I(r;P)| ≤ tol`, then `cc ≤ I(r;P)` (so `cc` is at most the
capacity) and no input law achieves more than `cc + 2·tol`: `cc` is within `2·tol` of capacity. -/
theorem capRun_gap (P : List (List ℝ)) (n m : ℕ) (hP : IsChannel P n m) (hn : 0 < n)
    (close : ℝ → ℝ → Bool) (fuel : ℕ) :
    ∀ cc r it, capRun (Real.logb 2) (fun x => (2 : ℝ) ^ x) (fun k => (k : ℝ)) P close fuel
        = (cc, r, it) →
      0 ≤ channelMI (Real.logb 2) r P - cc
      ∧ (∀ r'', IsLaw r'' n → channelMI (Real.logb 2) r'' P - cc
          ≤ capacityGap (Real.logb 2) r P + (channelMI (Real.logb 2) r P - cc))
      ∧ ∀ tol : ℝ, capacityGap (Real.logb 2) r P ≤ tol →
          |cc - channelMI (Real.logb 2) r P| ≤ tol →
          IsLaw r n ∧ cc ≤ channelMI (Real.logb 2) r P
          ∧ ∀ r'', IsLaw r'' n → channelMI (Real.logb 2) r'' P ≤ cc + 2 * tol := by
  intro cc r it hres
  obtain ⟨hr, hpos, _, _, rp, _, _, _, _, hle, _⟩ := capRun_spec P n m hP hn close fuel cc r it hres
  have hcert := fun r'' hr'' => Props.C13.capacity_gap_certificate r P n m hr hP
    (Props.C13.dominates_of_pos r P n m hr hP hpos) r'' hr''
  refine ⟨sub_nonneg.mpr hle, fun r'' hr'' => ?_, fun tol hgap habs => ⟨hr, hle, fun r'' hr'' => ?_⟩⟩
  · linarith only [hcert r'' hr'']
  · linarith only [hcert r'' hr'', hgap, (abs_le.mp habs).1]

/-! ## Fixed points -/

/-- **A fixed point is capacity-achieving**: if one pass returns the strictly positive
law `r` it started from, then every row divergence `D(P_x ‖ rP)` equals `I(r; P)`, the gap is `0`,
the reported value is `I(r; P)`, and no input law does better. -/
theorem capStep_fixed_point (P : List (List ℝ)) (n m : ℕ) (hP : IsChannel P n m) (r : List ℝ)
    (hr : IsLaw r n) (hpos : ∀ x < n, 0 < vec r x)
    (hfix : (capStep (Real.logb 2) (fun x => (2 : ℝ) ^ x) P r).2 = r) :
    (∀ px ∈ P, klRow (Real.logb 2) px (outputLaw r P) = channelMI (Real.logb 2) r P)
    ∧ capacityGap (Real.logb 2) r P = 0
    ∧ (capStep (Real.logb 2) (fun x => (2 : ℝ) ^ x) P r).1 = channelMI (Real.logb 2) r P
    ∧ ∀ r'', IsLaw r'' n → channelMI (Real.logb 2) r'' P ≤ channelMI (Real.logb 2) r P := by
  have hrows := fixed_rows ⟨hr, hpos⟩ hP hfix
  obtain ⟨hmi, hgap, hbest⟩ := Props.C13.capacity_kkt r P n m hr hP
    (Props.C13.dominates_of_pos r P n m hr hP hpos) _ hrows
  have hs := Lemmas.CapLoop.capStep_sandwich hP ⟨hr, hpos⟩
  rw [hfix] at hs
  rw [← hmi] at hrows hbest
  exact ⟨hrows, hgap, le_antisymm hs.2 hs.1, hbest⟩

/-- **Conversely**, a strictly positive law whose row divergences `D(P_x ‖ rP)` are all equal to
some `C` is returned unchanged by one pass, with reported value `C` (`= I(r;P)`, the capacity, by
`C13.capacity_kkt`). So the fixed points of the pass with full support are exactly the KKT
points. -/
theorem capStep_fixed_of_kkt (P : List (List ℝ)) (n m : ℕ) (hP : IsChannel P n m) (r : List ℝ)
    (hr : IsLaw r n) (hpos : ∀ x < n, 0 < vec r x) (C : ℝ)
    (hC : ∀ px ∈ P, klRow (Real.logb 2) px (outputLaw r P) = C) :
    (capStep (Real.logb 2) (fun x => (2 : ℝ) ^ x) P r).2 = r
    ∧ (capStep (Real.logb 2) (fun x => (2 : ℝ) ^ x) P r).1 = C := by
  have hr' : PosLaw r n := ⟨hr, hpos⟩
  have hD : ∀ x < n, klRow (Real.logb 2) (P.getD x []) (outputLaw r P) = C := fun x hx =>
    hC _ (Lemmas.ListBasics.getD_mem (hx.trans_eq hP.len.symm) [])
  have hZ : ∑ x ∈ range n, vec r x * (2 : ℝ) ^ klRow (Real.logb 2) (P.getD x []) (outputLaw r P)
      = (2 : ℝ) ^ C := by
    rw [sum_congr rfl (fun x hx => by rw [hD x (mem_range.mp hx)]), ← sum_mul, hr.sum_vec,
      one_mul]
  constructor
  · apply list_ext_vec (capStep_posLaw hP.isMat hr.pos_len r).law.len hr.len
    intro x hx
    rw [vec_capStep_snd hr' hP hx, hZ, hD x hx,
      mul_div_cancel_right₀ _ (Real.rpow_pos_of_pos two_pos C).ne']
  · rw [capStep_fst_closed hr' hP, hZ, Real.logb_rpow two_pos (by norm_num)]

/-- Non-vacuity of both fixed-point theorems: for BSC(1/4) the uniform input has equal row
divergences (`Lemmas.Channel.bsc_rows`), so it is a fixed point of the pass. -/
example : (capStep (Real.logb 2) (fun x => (2 : ℝ) ^ x) (bsc (1 / 4)) [1 / 2, 1 / 2]).2
    = [1 / 2, 1 / 2] :=
  (capStep_fixed_of_kkt (bsc (1 / 4)) 2 2 bsc_quarter [1 / 2, 1 / 2] half_law half_pos _
    (bsc_rows (1 / 4))).1

/-- The model runs on `ℚ` with stand-in `log2`/`exp2` (structure of one pass and of the loop). -/
example : (capRun (fun x : ℚ => x) (fun x => x) (fun k => (k : ℚ)) [[3 / 4, 1 / 4], [1 / 4, 3 / 4]]
    (fun _ _ => true) 5).2 = ([1 / 2, 1 / 2], 1) := by decide +kernel

end Dit.Props.C13Cap
