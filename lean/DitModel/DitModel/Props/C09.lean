/-
C09 — Any history of mutations tracks a plain probability-table model.

The implementation model is the list-based state machine `Dit.Dist.step` (Core/Dist.lean:
insertion followed by re-sorting by sample-space index, filtering, mapping).  The
specification machine is `specStep` on `Spec` (Lemmas/Machine.lean), related to it by `abs`
under the representation invariant `WF`.  All proofs go through `conc`, the canonical state of
a specification state satisfying `Spec.OK`: one step of the implementation on `conc s` is
`conc` of one step of the specification (`step_conc`).
Helper lemmas: Lemmas/Machine.lean; the inversion of the constructor: Lemmas/Construct.lean.
-/
import DitModel.Lemmas.Machine
import DitModel.Lemmas.Construct
import Mathlib.Algebra.Field.Defs
import Mathlib.Algebra.Field.Rat

namespace Dit.Props.C09
open Dit Dit.Lemmas.Machine

variable {σ α : Type} [DecidableEq σ] [Field α]

/-- **One step refines.** For a well-formed state and every operation (legal or not), the
abstraction of the implementation's next state is the specification's next state, and the
outputs (ok / `InvalidOutcome` / the total returned by `normalize`) are equal. -/
theorem step_refines (cfg : NumCfg α) {d : Dist σ α} (h : WF d) (op : Op σ α) :
    abs (d.step cfg op).1 = (specStep cfg (abs d) op).1 ∧
      (d.step cfg op).2 = (specStep cfg (abs d) op).2 := by
  obtain ⟨s, hs, rfl⟩ := h.exists_conc
  rw [abs_conc hs, step_conc cfg hs op]
  exact ⟨abs_conc (ok_specStep cfg hs op), rfl⟩

/-- **One step keeps the invariant**: stored outcomes stay duplicate-free members of the
sample space in sample-space order (an inserted outcome is re-sorted to its place), and a
dense state keeps storing every member. -/
theorem wf_step (cfg : NumCfg α) {d : Dist σ α} (h : WF d) (op : Op σ α) :
    WF (d.step cfg op).1 := by
  obtain ⟨s, hs, rfl⟩ := h.exists_conc
  rw [step_conc cfg hs op]
  exact wf_conc (ok_specStep cfg hs op)

theorem wf_history (cfg : NumCfg α) {d : Dist σ α} (h : WF d) (ops : List (Op σ α)) :
    WF (ops.foldl (fun s o => (s.step cfg o).1) d) := by
  induction ops generalizing d with
  | nil => exact h
  | cons o os ih => exact ih (wf_step cfg h o)

/-- **Histories refine.** After any sequence of item assignments, deletions, `make_dense`,
`make_sparse`, `normalize`, `set_base` and `copy`, the abstraction of the implementation
state is the state of the plain table model put through the same operations, and the two
runs produced the same list of outputs. (`run` collects the outputs; its state component is
the `foldl`, see `Dit.Lemmas.Machine.run_fst`.) -/
theorem history_refines (cfg : NumCfg α) {d : Dist σ α} (h : WF d) (ops : List (Op σ α)) :
    abs (ops.foldl (fun s o => (s.step cfg o).1) d)
        = ops.foldl (fun s o => (specStep cfg s o).1) (abs d) ∧
      (run (Dist.step cfg) d ops).2 = (run (specStep cfg) (abs d) ops).2 := by
  induction ops generalizing d with
  | nil => exact ⟨rfl, rfl⟩
  | cons o os ih =>
    obtain ⟨h1, h2⟩ := step_refines cfg h o
    obtain ⟨i1, i2⟩ := ih (wf_step cfg h o)
    simp only [List.foldl_cons, run, ← h1, ← h2]
    exact ⟨i1, congrArg _ i2⟩

/-- **Observable state.** In every state reachable from a well-formed one, each observable of
the implementation — lookups over the whole sample space (`none` = `InvalidOutcome`), stored
outcomes and their order, the pmf, length, membership, the sparse flag, the base, the sample
space and the verdict of `validate()` — equals the observable computed from the state of the
plain table model after the same history. -/
theorem history_observables (cfg : NumCfg α) {d : Dist σ α} (h : WF d) (ops : List (Op σ α)) :
    let d' := ops.foldl (fun s o => (s.step cfg o).1) d
    let s' := ops.foldl (fun s o => (specStep cfg s o).1) (abs d)
    (∀ o, d'.get o = s'.get o) ∧ keys d'.tab = s'.outcomes ∧ vals d'.tab = s'.pmf ∧
      d'.tab.length = s'.length ∧ (∀ o, (keys d'.tab).contains o = s'.has o) ∧
      d'.sparse = s'.sparse ∧ d'.base = s'.base ∧ d'.space = s'.space ∧
      d'.validate cfg = s'.validate cfg := by
  intro d' s'
  have hw : WF d' := wf_history cfg h ops
  have he : abs d' = s' := (history_refines cfg h ops).1
  rw [← he]
  exact ⟨fun o => get_abs d' o, outcomes_abs hw, pmf_abs hw, length_abs hw,
    fun o => has_abs d' o, rfl, rfl, rfl, validate_abs cfg hw⟩

/-- **Illegal operations.** Assigning to or deleting an outcome outside the sample space
returns `InvalidOutcome` and leaves the state unchanged (equality of whole states; no
invariant needed). -/
theorem illegal_noop (cfg : NumCfg α) (d : Dist σ α) (o : List σ) (v : α)
    (ho : d.space.mem o = false) :
    d.step cfg (.set o v) = (d, .err .invalidOutcome) ∧
      d.step cfg (.del o) = (d, .err .invalidOutcome) := by
  simp [Dist.step, ho]

/-- **The sample space never changes** in one step — hence neither do the alphabets, the
outcome length and the sample-space enumeration, which are functions of it. -/
theorem space_const (cfg : NumCfg α) (d : Dist σ α) (op : Op σ α) :
    (d.step cfg op).1.space = d.space := by
  cases op with
  | set o v =>
    by_cases ho : d.space.mem o = true
    · simp only [Dist.step, if_pos ho, Dist.setIn]
      cases lookup? d.tab o <;> rfl
    · simp only [Dist.step, if_neg ho]
  | del o =>
    by_cases ho : d.space.mem o = true
    · simp only [Dist.step, if_pos ho, Dist.delIn]
      cases d.sparse <;> rfl
    · simp only [Dist.step, if_neg ho]
  | makeDense => rfl
  | makeSparse t => rfl
  | normalize => rfl
  | setBase b => rfl
  | copy => rfl

/-- **The sample space never changes** along any history (with it `Space.toList`,
`Space.alphabets` and the outcome length). -/
theorem space_const_history (cfg : NumCfg α) (d : Dist σ α) (ops : List (Op σ α)) :
    (ops.foldl (fun s o => (s.step cfg o).1) d).space = d.space := by
  induction ops generalizing d with
  | nil => rfl
  | cons o os ih => exact (ih _).trans (space_const cfg d o)

/-- **Lookup after assignment.** After `d[o] = v` (with `o` in the sample space) the touched
outcome reads `v` and every other outcome reads what it read before. -/
theorem set_get (cfg : NumCfg α) {d : Dist σ α} (h : WF d) (o : List σ) (v : α)
    (ho : d.space.mem o = true) (o' : List σ) :
    (d.step cfg (.set o v)).1.get o' = if o' = o then some v else d.get o' := by
  have ho2 : (abs d).space.mem o = true := ho
  rw [get_abs, (step_refines cfg h _).1, get_abs]
  simp only [specStep, ho2, if_true, Spec.get_upd, Option.getD_some]

/-- **Lookup after deletion.** After `del d[o]` (with `o` in the sample space) the touched
outcome reads the null value — the row is removed (sparse) or zeroed (dense) — and every other
outcome reads what it read before. -/
theorem del_get (cfg : NumCfg α) {d : Dist σ α} (h : WF d) (o : List σ)
    (ho : d.space.mem o = true) (o' : List σ) :
    (d.step cfg (.del o)).1.get o' = if o' = o then some 0 else d.get o' := by
  have ho2 : (abs d).space.mem o = true := ho
  rw [get_abs, (step_refines cfg h _).1, get_abs]
  simp only [specStep, ho2, if_true, Spec.get_upd]
  cases (abs d).sparse <;> rfl

/-- **Dense / sparse round trips.** `make_dense` followed by `make_sparse(trim=False)` keeps
every lookup; `make_sparse(trim=True)` followed by `make_dense` keeps every lookup except that
stored null values read as `0`. -/
theorem dense_roundtrip (cfg : NumCfg α) {d : Dist σ α} (h : WF d) (o : List σ) :
    ((d.step cfg .makeDense).1.step cfg (.makeSparse false)).1.get o = d.get o ∧
      ((d.step cfg (.makeSparse true)).1.step cfg .makeDense).1.get o
        = (d.get o).map (fun v => if cfg.isNull d.base v then 0 else v) := by
  constructor
  · exact Lemmas.Table.get_makeDense d o
  · refine (Lemmas.Table.get_makeDense _ o).trans ?_
    rw [get_abs, (step_refines cfg h _).1, get_abs]
    simp only [specStep, Spec.get, if_true]
    cases (abs d).space.mem o with
    | false => rfl
    | true => exact congrArg some (getD_filter_not (cfg.isNull d.base) _ 0)

/-- **A copy is observationally identical to its source**: it is an equal value. -/
theorem copy_obs (cfg : NumCfg α) (d : Dist σ α) : d.step cfg .copy = (d, .ok) := rfl

/-- **Copies are independent.** In this functional model states are values, so the clause is
immediate: the copy `c` is an equal value, any history run on `c` is a function of `c` alone
and produces exactly what the same history would produce on `d`, and `d` itself is not an
argument that could change. The force of this clause (no aliasing of the outcome list, pmf
array or index dict between a distribution and its copy) comes from the differential test
of the real code against this model, not from this theorem. -/
theorem copy_independent (cfg : NumCfg α) (d : Dist σ α) (ops : List (Op σ α)) :
    (d.step cfg .copy).1 = d ∧
      run (Dist.step cfg) (d.step cfg .copy).1 ops = run (Dist.step cfg) d ops :=
  ⟨rfl, rfl⟩

/-- **The constructor establishes the invariant.** Every distribution returned by
`construct` (sort=True, validate=True) is well formed, provided the given outcomes are
duplicate-free and the sample-space argument has a duplicate-free enumeration: a given list
or `SampleSpace` has no repeated outcome, the alphabets of a given `CartesianProduct` have no
repeated symbol (nothing is needed when the sample space is derived from the outcomes). The
hypotheses are needed because the model's sample space is a list and `Space.rank` is the
index of the first occurrence. -/
theorem construct_wf (cfg : NumCfg α) (symLt : σ → σ → Bool) (outLt : List σ → List σ → Bool)
    (outs : List (List σ)) (pmf : List α) (sp : SpaceArg σ) (base : Base) (sparse trim : Bool)
    (d : Dist σ α) (houts : outs.Nodup)
    (hsp : match sp with
      | .none => True
      | .list l => l.Nodup
      | .sampleSpace l => l.Nodup
      | .cartesian as => ∀ a ∈ as, a.Nodup)
    (h : construct cfg symLt outLt outs pmf sp base sparse trim = .ok d) : WF d := by
  obtain ⟨_, _, _, hmem, _, _, rfl⟩ :=
    (Lemmas.Construct.construct_ok_iff cfg symLt outLt outs pmf sp base sparse trim d).mp h
  exact wf_finish cfg _ (Lemmas.Construct.spaceArg_toList_nodup symLt outLt outs sp hsp)
    outs pmf houts hmem base sparse trim

/-! ### Non-vacuity -/

/-- The hypothesis `WF` is satisfiable by a non-trivial state. -/
example : WF exDist :=
  exDist_wf

/-- The theorems, stated over a field, apply to the very machine the driver runs at `Rat`
(the `Field Rat` instance projects to the core `Add`/`Zero`/`Mul`/`Inv` instances). -/
example (ops : List (Op Nat Rat)) :
    WF (ops.foldl (fun s o => (s.step exCfg o).1) exDist) :=
  wf_history exCfg exDist_wf ops

/-- Delete the middle outcome, then assign it again: the implementation appends the row and
re-sorts, so that it lands in the middle again. -/
example :
    keys ([Op.del [0, 1], Op.set [0, 1] (1 / 8)].foldl (fun s o => (s.step exCfg o).1) exDist).tab
      = [[0, 0], [0, 1], [1, 1]] := by decide +kernel

example :
    ([Op.del [0, 1], Op.set [1, 0] (1 / 8), Op.set [0, 1] (1 / 8)].foldl
      (fun s o => (s.step exCfg o).1) exDist).tab
      = [([0, 0], 1 / 4), ([0, 1], 1 / 8), ([1, 0], 1 / 8), ([1, 1], 1 / 2)] := by decide +kernel

/-- An illegal assignment (hypothesis of `illegal_noop`) and a legal one (`set_get`). -/
example : exDist.space.mem [2, 0] = false ∧ exDist.space.mem [1, 0] = true := by decide +kernel

/-- The outputs of a history: ok, an error (`InvalidOutcome`), and the total returned by
`normalize`; implementation and specification agree on it, as `history_refines` says. -/
example :
    (run (specStep exCfg) (abs exDist) [Op.del [0, 1], Op.set [2, 0] 1, Op.normalize]).2.map outCode
      = [(0, 0), (1, 0), (2, 3 / 4)] ∧
    (run (Dist.step exCfg) exDist [Op.del [0, 1], Op.set [2, 0] 1, Op.normalize]).2.map outCode
      = [(0, 0), (1, 0), (2, 3 / 4)] := by decide +kernel

/-- The hypotheses of `construct_wf` are satisfiable and the constructor succeeds. -/
example :
    (construct exCfg (fun a b => decide (a < b)) lexLt [[1, 1], [0, 0]] [(1 : Rat) / 2, 1 / 2]
      (SpaceArg.none) Base.linear true true).toOption.map (fun d => keys d.tab)
      = some [[0, 0], [1, 1]] := by decide +kernel

end Dit.Props.C09
