/-
Helper lemmas for C20 (non-combinatorial part): the simplex utilities of Core/Aitchison.lean
(`closure`, `perturbation`, `powering`, `clr`/`alr`/`ilr` and their inverses, the Aitchison inner
product, `convexCombination`, `replaceZeros`, `downsample`).
The algebraic facts are stated over a (linearly ordered) field; the transforms are instantiated
at `ℝ` with `realA` (`log = logb 2`, `exp = 2^·`, `sqrt = Real.sqrt`, `pow = rpow`).
Property theorems are in Props/C20.lean.
-/
import DitModel.Core.Aitchison
import DitModel.Lemmas.Table
import DitModel.Lemmas.ListSums
import Mathlib.Algebra.Order.Field.Basic
import Mathlib.Algebra.BigOperators.Group.List.Basic
import Mathlib.Algebra.BigOperators.Ring.List
import Mathlib.Algebra.BigOperators.Ring.Finset
import Mathlib.Algebra.Order.BigOperators.Group.List
import Mathlib.Analysis.SpecialFunctions.Log.Base
import Mathlib.Analysis.SpecialFunctions.Pow.Real
import Mathlib.Analysis.SpecialFunctions.Sqrt
import Mathlib.Tactic.Linarith
import Mathlib.Tactic.Ring
import Mathlib.Tactic.FieldSimp
import Mathlib.Tactic.Positivity
import Mathlib.Tactic.NormNum

namespace Dit.Lemmas.Aitchison
open Dit Dit.Lemmas.Table Dit.Lemmas.ListBasics

section Closure
variable {α : Type} [Field α]

theorem closure_eq (x : List α) : closure x = x.map (· / x.sum) := by
  unfold closure; rw [lsum_eq_sum]

@[simp] theorem closure_length (x : List α) : (closure x).length = x.length := by
  simp [closure]

theorem sum_map_mul_const (x : List α) (c : α) : (x.map (· * c)).sum = x.sum * c := by
  simpa using List.sum_map_mul_right x id c

theorem sum_map_div (x : List α) (c : α) : (x.map (· / c)).sum = x.sum / c := by
  simpa only [div_eq_mul_inv] using sum_map_mul_const x c⁻¹

theorem closure_sum (x : List α) (h : x.sum ≠ 0) : (closure x).sum = 1 := by
  rw [closure_eq, sum_map_div, div_self h]

theorem closure_of_sum_one (x : List α) (h : x.sum = 1) : closure x = x := by
  rw [closure_eq, h]; simp

theorem closure_map_mul (x : List α) (c : α) (hc : c ≠ 0) :
    closure (x.map (· * c)) = closure x := by
  rw [closure_eq, closure_eq, sum_map_mul_const, List.map_map]
  apply List.map_congr_left
  intro v _
  simp only [Function.comp]
  rw [mul_div_mul_right _ _ hc]

theorem closure_map_div (x : List α) (c : α) (hc : c ≠ 0) :
    closure (x.map (· / c)) = closure x := by
  have : x.map (· / c) = x.map (· * c⁻¹) := by
    apply List.map_congr_left; intro v _; rw [div_eq_mul_inv]
  rw [this, closure_map_mul x _ (inv_ne_zero hc)]

theorem mem_closure {x : List α} {v : α} (h : v ∈ closure x) : ∃ u ∈ x, v = u / x.sum := by
  rw [closure_eq] at h
  rcases List.mem_map.mp h with ⟨u, hu, rfl⟩
  exact ⟨u, hu, rfl⟩

end Closure

section ClosureOrd
variable {α : Type} [Field α] [LinearOrder α] [IsStrictOrderedRing α]

theorem closure_pos {x : List α} (h : ∀ v ∈ x, 0 < v) : ∀ v ∈ closure x, 0 < v := by
  intro v hv
  obtain ⟨u, hu, rfl⟩ := mem_closure hv
  have hne : x ≠ [] := List.ne_nil_of_mem hu
  exact div_pos (h u hu) (List.sum_pos x h hne)

theorem closure_nonneg {x : List α} (h : ∀ v ∈ x, 0 ≤ v) : ∀ v ∈ closure x, 0 ≤ v := by
  intro v hv
  obtain ⟨u, hu, rfl⟩ := mem_closure hv
  exact div_nonneg (h u hu) (List.sum_nonneg h)

theorem closure_simplex {x : List α} (hne : x ≠ []) (h : ∀ v ∈ x, 0 < v) :
    (closure x).length = x.length ∧ (∀ v ∈ closure x, 0 < v) ∧ (closure x).sum = 1 :=
  ⟨closure_length x, closure_pos h, closure_sum x (ne_of_gt (List.sum_pos x h hne))⟩

theorem forall_mem_zipWith {β γ δ : Type} {f : β → γ → δ} {P : δ → Prop} {l₁ : List β}
    {l₂ : List γ} (h : ∀ a ∈ l₁, ∀ b ∈ l₂, P (f a b)) : ∀ v ∈ List.zipWith f l₁ l₂, P v := by
  intro v hv
  obtain ⟨i, hi, rfl⟩ := List.mem_iff_getElem.mp hv
  rw [List.getElem_zipWith]
  exact h _ (List.getElem_mem _) _ (List.getElem_mem _)

theorem zipWith_mul_pos {x y : List α} (hx : ∀ v ∈ x, 0 < v) (hy : ∀ v ∈ y, 0 < v) :
    ∀ v ∈ List.zipWith (· * ·) x y, 0 < v :=
  forall_mem_zipWith fun a ha b hb => mul_pos (hx a ha) (hy b hb)

theorem perturbation_simplex {x y : List α} (hne : x ≠ []) (hlen : x.length = y.length)
    (hx : ∀ v ∈ x, 0 < v) (hy : ∀ v ∈ y, 0 < v) :
    (perturbation x y).length = x.length ∧ (∀ v ∈ perturbation x y, 0 < v) ∧
      (perturbation x y).sum = 1 := by
  have hzl : (List.zipWith (· * ·) x y).length = x.length := by
    rw [List.length_zipWith, ← hlen, Nat.min_self]
  have hz : List.zipWith (· * ·) x y ≠ [] :=
    mt List.length_eq_zero_iff.mpr (hzl ▸ mt List.length_eq_zero_iff.mp hne)
  have h := closure_simplex hz (zipWith_mul_pos hx hy)
  rwa [hzl] at h

end ClosureOrd

/-- The model's transcendental operations at `ℝ`: `log₂`, `2^·`, `√`, real power, cast. -/
noncomputable def realA : AOps ℝ :=
  ⟨Real.logb 2, fun y => (2 : ℝ) ^ y, Real.sqrt, fun x a => x ^ a, fun n => (n : ℝ)⟩

section RealBasics

theorem two_rpow_logb {v : ℝ} (h : 0 < v) : (2 : ℝ) ^ Real.logb 2 v = v :=
  Real.rpow_logb (by norm_num) (by norm_num) h

theorem logb_two_rpow (y : ℝ) : Real.logb 2 ((2 : ℝ) ^ y) = y :=
  Real.logb_rpow (by norm_num) (by norm_num)

theorem two_rpow_sub (y z : ℝ) : (2 : ℝ) ^ (y - z) = (2 : ℝ) ^ y / (2 : ℝ) ^ z :=
  Real.rpow_sub (by norm_num) y z

theorem logb_two_div {a b : ℝ} (ha : 0 < a) (hb : 0 < b) :
    Real.logb 2 (a / b) = Real.logb 2 a - Real.logb 2 b :=
  Real.logb_div (ne_of_gt ha) (ne_of_gt hb)

theorem logb_two_mul {a b : ℝ} (ha : 0 < a) (hb : 0 < b) :
    Real.logb 2 (a * b) = Real.logb 2 a + Real.logb 2 b :=
  Real.logb_mul (ne_of_gt ha) (ne_of_gt hb)

theorem sum_map_sub_const {β : Type} (x : List β) (f : β → ℝ) (c : ℝ) :
    (x.map (fun v => f v - c)).sum = (x.map f).sum - x.length * c := by
  induction x with
  | nil => simp
  | cons a x ih => simp [ih]; ring

theorem map_exp_pos (y : List ℝ) : ∀ v ∈ y.map (fun t => (2 : ℝ) ^ t), 0 < v := by
  intro v hv
  rcases List.mem_map.mp hv with ⟨t, _, rfl⟩
  exact Real.rpow_pos_of_pos two_pos t

theorem map_rpow_pos {x : List ℝ} (hx : ∀ v ∈ x, 0 < v) (a : ℝ) :
    ∀ v ∈ x.map (fun v => realA.pow v a), 0 < v := by
  intro v hv
  obtain ⟨u, hu, rfl⟩ := List.mem_map.mp hv
  exact Real.rpow_pos_of_pos (hx u hu) a

theorem powering_simplex {x : List ℝ} (hne : x ≠ []) (hx : ∀ v ∈ x, 0 < v) (a : ℝ) :
    (powering realA x a).length = x.length ∧ (∀ v ∈ powering realA x a, 0 < v) ∧
      (powering realA x a).sum = 1 := by
  have h := closure_simplex (mt List.map_eq_nil_iff.mp hne) (map_rpow_pos hx a)
  rwa [List.length_map] at h

end RealBasics

section ClrAlr

theorem logGM_eq (x : List ℝ) :
    logGM realA x = (x.map (Real.logb 2)).sum / (x.length : ℝ) := by
  unfold logGM; rw [lsum_eq_sum]; rfl

theorem clr_eq (x : List ℝ) :
    clr realA x = x.map (fun v => Real.logb 2 v - logGM realA x) := rfl

@[simp] theorem clr_length (x : List ℝ) : (clr realA x).length = x.length := by
  simp [clr]

theorem cast_length_ne_zero {x : List ℝ} (h : x ≠ []) : (x.length : ℝ) ≠ 0 :=
  Nat.cast_ne_zero.mpr (mt List.length_eq_zero_iff.mp h)

theorem clr_sum (x : List ℝ) : (clr realA x).sum = 0 := by
  rw [clr_eq, sum_map_sub_const, logGM_eq]
  by_cases h : x = []
  · rw [h]; simp
  · rw [mul_div_cancel₀ _ (cast_length_ne_zero h), sub_self]

theorem clrInv_eq (y : List ℝ) : clrInv realA y = closure (y.map (fun t => (2 : ℝ) ^ t)) := rfl

theorem clrInv_clr (x : List ℝ) (hx : ∀ v ∈ x, 0 < v) : clrInv realA (clr realA x) = closure x := by
  rw [clrInv_eq, clr_eq, List.map_map]
  have e : x.map ((fun t => (2 : ℝ) ^ t) ∘ fun v => Real.logb 2 v - logGM realA x)
      = x.map (· / (2 : ℝ) ^ logGM realA x) := by
    apply List.map_congr_left
    intro v hv
    simp only [Function.comp]
    rw [two_rpow_sub, two_rpow_logb (hx v hv)]
  rw [e, closure_map_div x _ (ne_of_gt (Real.rpow_pos_of_pos two_pos _))]

theorem logGM_map_div {u : List ℝ} (hne : u ≠ []) (hu : ∀ v ∈ u, 0 < v) {S : ℝ} (hS : 0 < S) :
    logGM realA (u.map (· / S)) = logGM realA u - Real.logb 2 S := by
  have e : (u.map (· / S)).map (Real.logb 2) = u.map (fun v => Real.logb 2 v - Real.logb 2 S) := by
    rw [List.map_map]
    exact List.map_congr_left fun v hv => logb_two_div (hu v hv) hS
  rw [logGM_eq, logGM_eq, e, sum_map_sub_const, List.length_map, sub_div,
    mul_div_cancel_left₀ _ (cast_length_ne_zero hne)]

theorem clr_map_div {u : List ℝ} (hu : ∀ v ∈ u, 0 < v) {S : ℝ} (hS : 0 < S) :
    clr realA (u.map (· / S)) = clr realA u := by
  by_cases hne : u = []
  · rw [hne]; rfl
  rw [clr_eq, clr_eq, logGM_map_div hne hu hS, List.map_map]
  refine List.map_congr_left fun v hv => ?_
  rw [Function.comp_apply, logb_two_div (hu v hv) hS, sub_sub_sub_cancel_right]

theorem clr_closure {u : List ℝ} (hu : ∀ v ∈ u, 0 < v) : clr realA (closure u) = clr realA u := by
  by_cases hne : u = []
  · rw [hne]; rfl
  rw [closure_eq]
  exact clr_map_div hu (List.sum_pos u hu hne)

theorem clrInv_simplex {y : List ℝ} (hne : y ≠ []) :
    (clrInv realA y).length = y.length ∧ (∀ v ∈ clrInv realA y, 0 < v) ∧
      (clrInv realA y).sum = 1 := by
  have h := closure_simplex (mt List.map_eq_nil_iff.mp hne) (map_exp_pos y)
  rwa [List.length_map] at h

theorem alr_concat (init : List ℝ) (l : ℝ) :
    alr realA (init ++ [l]) = init.map (fun v => Real.logb 2 v - Real.logb 2 l) := by
  unfold alr
  simp only [List.getLast?_append, List.getLast?_singleton, Option.some_or, List.dropLast_concat]
  rfl

theorem alrInv_eq (y : List ℝ) :
    alrInv realA y = closure (y.map (fun t => (2 : ℝ) ^ t) ++ [1]) := rfl

theorem alrInv_alr (x : List ℝ) (hne : x ≠ []) (hx : ∀ v ∈ x, 0 < v) :
    alrInv realA (alr realA x) = closure x := by
  rcases List.eq_nil_or_concat x with h | ⟨init, l, rfl⟩
  · exact absurd h hne
  rw [List.concat_eq_append] at hx ⊢
  have hl : 0 < l := hx l (by simp)
  rw [alr_concat, alrInv_eq, List.map_map]
  have e : init.map ((fun t => (2 : ℝ) ^ t) ∘ fun v => Real.logb 2 v - Real.logb 2 l) ++ [1]
      = (init ++ [l]).map (· / l) := by
    rw [List.map_append]
    congr 1
    · apply List.map_congr_left
      intro v hv
      simp only [Function.comp]
      rw [two_rpow_sub, two_rpow_logb (hx v (by simp [hv])), two_rpow_logb hl]
    · simp [div_self (ne_of_gt hl)]
  rw [e, closure_map_div _ _ (ne_of_gt hl)]

end ClrAlr

section Convex
variable {α : Type} [Field α]

theorem convex_cons (p : List α) (ps : List (List α)) (w : List α) :
    convexCombination (p :: ps) w = (List.range p.length).map (fun j =>
      (List.zipWith (fun pm wi => pm.getD j 0 * wi) (p :: ps) (closure w)).sum) := by
  simp only [convexCombination, lsum_eq_sum]

theorem sum_range_zipWith (N : Nat) (ps : List (List α)) (ws : List α) :
    ((List.range N).map (fun j => (List.zipWith (fun pm wi => pm.getD j 0 * wi) ps ws).sum)).sum
      = (List.zipWith (fun pm wi => ((List.range N).map (fun j => pm.getD j 0)).sum * wi) ps ws).sum := by
  induction ps generalizing ws with
  | nil => simp only [List.zipWith_nil_left, List.sum_nil, List.sum_map_zero]
  | cons p ps ih =>
    cases ws with
    | nil => simp only [List.zipWith_nil_right, List.sum_nil, List.sum_map_zero]
    | cons w ws =>
      simp only [List.zipWith_cons_cons, List.sum_cons]
      rw [List.sum_map_add, ih ws, List.sum_map_mul_right]

theorem sum_zipWith_of_one {β : Type} (F : β → α) (ps : List β) (ws : List α)
    (hF : ∀ pm ∈ ps, F pm = 1) (hlen : ps.length = ws.length) :
    (List.zipWith (fun pm wi => F pm * wi) ps ws).sum = ws.sum := by
  induction ps generalizing ws with
  | nil =>
    have : ws = [] := by simpa using hlen.symm
    subst this; simp
  | cons p ps ih =>
    cases ws with
    | nil => simp at hlen
    | cons w ws =>
      simp only [List.zipWith_cons_cons, List.sum_cons]
      rw [hF p (by simp), one_mul, ih ws (fun pm h => hF pm (List.mem_cons_of_mem _ h))
        (by simpa using hlen)]

theorem convex_sum (p : List α) (ps : List (List α)) (w : List α)
    (hws : w.sum ≠ 0) (hlen : (p :: ps).length = w.length)
    (hN : ∀ pm ∈ p :: ps, pm.length = p.length) (h1 : ∀ pm ∈ p :: ps, pm.sum = 1) :
    (convexCombination (p :: ps) w).sum = 1 := by
  rw [convex_cons, sum_range_zipWith]
  refine (sum_zipWith_of_one
    (fun pm : List α => ((List.range p.length).map (fun j => pm.getD j 0)).sum)
    (p :: ps) (closure w) ?_ ?_).trans ?_
  rotate_left 2
  · exact closure_sum w hws
  · intro pm hpm
    show ((List.range p.length).map (fun j => pm.getD j 0)).sum = 1
    rw [← hN pm hpm, map_range_getD, h1 pm hpm]
  · rw [closure_length]; exact hlen

variable [LinearOrder α] [IsStrictOrderedRing α]

theorem convex_nonneg (p : List α) (ps : List (List α)) (w : List α)
    (hw : ∀ v ∈ w, 0 ≤ v) (hnn : ∀ pm ∈ p :: ps, ∀ v ∈ pm, 0 ≤ v) :
    ∀ v ∈ convexCombination (p :: ps) w, 0 ≤ v := by
  intro v hv
  rw [convex_cons] at hv
  obtain ⟨j, _, rfl⟩ := List.mem_map.mp hv
  exact List.sum_nonneg (forall_mem_zipWith fun pm hpm wi hwi =>
    mul_nonneg (getD_of_forall le_rfl (hnn pm hpm) j) (closure_nonneg hw wi hwi))

theorem convex_getD (p : List α) (ps : List (List α)) (w : List α) (j : Nat) (hj : j < p.length) :
    (convexCombination (p :: ps) w).getD j 0
      = (List.zipWith (fun pm wi => wi / w.sum * pm.getD j 0) (p :: ps) w).sum := by
  rw [convex_cons, getD_range_map _ 0 hj, closure_eq, List.zipWith_map_right]
  have e : (fun (a : List α) (b : α) => a.getD j 0 * (b / w.sum))
      = (fun (pm : List α) (wi : α) => wi / w.sum * pm.getD j 0) := by
    funext a b; ring
  rw [e]

end Convex

section ReplaceZeros
variable {α : Type} [Field α] [LinearOrder α] [IsStrictOrderedRing α]

def zc (pmf : List α) : Nat := (pmf.filter (· == 0)).length

set_option linter.unusedSectionVars false in
theorem zc_nil : zc ([] : List α) = 0 := rfl

section
omit [IsStrictOrderedRing α]

theorem zc_cons (p : α) (ps : List α) : zc (p :: ps) = (if p = 0 then 1 else 0) + zc ps := by
  unfold zc
  rw [List.filter_cons]
  by_cases h : p = 0
  · rw [if_pos (beq_iff_eq.mpr h), if_pos h, List.length_cons, Nat.add_comm]
  · rw [if_neg (mt beq_iff_eq.mp h), if_neg h, Nat.zero_add]

theorem zc_cons_zero (ps : List α) : zc (0 :: ps) = zc ps + 1 := by
  rw [zc_cons, if_pos rfl, Nat.add_comm]

theorem zc_cons_ne {p : α} (hp : p ≠ 0) (ps : List α) : zc (p :: ps) = zc ps := by
  rw [zc_cons, if_neg hp, Nat.zero_add]

/-- What the fold of `replaceZeros` computes, for a fixed scale `c` and replacement stream. -/
def rzSpec (c : α) : List α → List α → List α
  | [], _ => []
  | p :: ps, us =>
    if p = 0 then
      match us with
      | r :: rs => r :: rzSpec c ps rs
      | [] => p :: rzSpec c ps []
    else (p * c) :: rzSpec c ps us

theorem rzSpec_zero_cons (c : α) (ps : List α) (r : α) (rs : List α) :
    rzSpec c (0 :: ps) (r :: rs) = r :: rzSpec c ps rs := by
  rw [rzSpec, if_pos rfl]

theorem rzSpec_zero_nil (c : α) (ps : List α) : rzSpec c (0 :: ps) [] = 0 :: rzSpec c ps [] := by
  rw [rzSpec, if_pos rfl]

theorem rzSpec_ne (c : α) {p : α} (hp : p ≠ 0) (ps us : List α) :
    rzSpec c (p :: ps) us = p * c :: rzSpec c ps us := by
  cases us <;> rw [rzSpec, if_neg hp]

theorem rz_fold (c : α) (pmf acc us : List α) :
    (pmf.foldl (fun (acc : List α × List α) p =>
      if p == 0 then
        match acc.2 with
        | r :: rs => (acc.1 ++ [r], rs)
        | [] => (acc.1 ++ [p], [])
      else (acc.1 ++ [p * c], acc.2)) (acc, us)).1 = acc ++ rzSpec c pmf us := by
  induction pmf generalizing acc us with
  | nil => exact (List.append_nil acc).symm
  | cons p ps ih =>
    rw [List.foldl_cons]
    by_cases hp : p = 0
    · subst hp
      rw [if_pos (beq_self_eq_true _)]
      cases us with
      | nil => rw [rzSpec_zero_nil]; exact (ih _ _).trans (List.append_assoc acc [0] _)
      | cons r rs => rw [rzSpec_zero_cons]; exact (ih _ _).trans (List.append_assoc acc [r] _)
    · rw [if_neg (mt beq_iff_eq.mp hp), rzSpec_ne c hp]
      exact (ih _ _).trans (List.append_assoc acc [p * c] _)

theorem replaceZeros_eq (pmf repl : List α) :
    replaceZeros pmf repl
      = rzSpec (1 - (repl.take (zc pmf)).sum) pmf (repl.take (zc pmf)) := by
  unfold replaceZeros
  simp only [lsum_eq_sum]
  exact (rz_fold _ pmf [] _).trans (by simp [zc])

theorem rz_induction {motive : List α → List α → Prop} (nil : ∀ us, motive [] us)
    (zero : ∀ ps r rs, zc ps ≤ rs.length → motive ps rs → motive (0 :: ps) (r :: rs))
    (ne : ∀ p ps us, p ≠ 0 → zc ps ≤ us.length → motive ps us → motive (p :: ps) us)
    (pmf us : List α) (h : zc pmf ≤ us.length) : motive pmf us := by
  induction pmf generalizing us with
  | nil => exact nil us
  | cons p ps ih =>
    by_cases hp : p = 0
    · subst hp
      rw [zc_cons_zero] at h
      match us, h with
      | r :: rs, h => exact zero ps r rs (Nat.le_of_succ_le_succ h) (ih rs (Nat.le_of_succ_le_succ h))
    · rw [zc_cons_ne hp] at h
      exact ne p ps us hp h (ih us h)

theorem rzSpec_length (c : α) (pmf us : List α) : (rzSpec c pmf us).length = pmf.length := by
  induction pmf generalizing us with
  | nil => rfl
  | cons p ps ih =>
    by_cases hp : p = 0
    · subst hp
      cases us with
      | nil => rw [rzSpec_zero_nil, List.length_cons, ih, List.length_cons]
      | cons r rs => rw [rzSpec_zero_cons, List.length_cons, ih, List.length_cons]
    · rw [rzSpec_ne c hp, List.length_cons, ih, List.length_cons]

end

theorem rzSpec_sum (c : α) (pmf us : List α) (h : zc pmf ≤ us.length) :
    (rzSpec c pmf us).sum = (us.take (zc pmf)).sum + pmf.sum * c := by
  refine rz_induction (motive := fun pmf us =>
    (rzSpec c pmf us).sum = (us.take (zc pmf)).sum + pmf.sum * c) ?_ ?_ ?_ pmf us h
  · intro us
    rw [zc_nil, List.take_zero, List.sum_nil, zero_mul, add_zero]
    rfl
  · intro ps r rs _ ih
    rw [rzSpec_zero_cons, zc_cons_zero, List.take_succ_cons, List.sum_cons, List.sum_cons,
      List.sum_cons, ih, zero_add, add_assoc]
  · intro p ps us hp _ ih
    rw [rzSpec_ne c hp, zc_cons_ne hp, List.sum_cons, List.sum_cons, ih, add_mul, add_left_comm]

theorem rzSpec_getD (c : α) (pmf us : List α) (h : zc pmf ≤ us.length) (j : Nat)
    (hj : j < pmf.length) :
    (rzSpec c pmf us).getD j 0
      = if pmf.getD j 0 = 0 then us.getD (zc (pmf.take j)) 0 else pmf.getD j 0 * c := by
  revert j
  refine rz_induction (motive := fun pmf us => ∀ j, j < pmf.length → (rzSpec c pmf us).getD j 0
      = if pmf.getD j 0 = 0 then us.getD (zc (pmf.take j)) 0 else pmf.getD j 0 * c) ?_ ?_ ?_ pmf us h
  · intro us j hj
    exact absurd hj (Nat.not_lt_zero j)
  · intro ps r rs _ ih j hj
    rw [rzSpec_zero_cons]
    cases j with
    | zero => rw [List.getD_cons_zero, List.getD_cons_zero, if_pos rfl, List.take_zero, zc_nil,
        List.getD_cons_zero]
    | succ j => rw [List.getD_cons_succ, List.getD_cons_succ, List.take_succ_cons, zc_cons_zero,
        List.getD_cons_succ, ih j (Nat.lt_of_succ_lt_succ hj)]
  · intro p ps us hp _ ih j hj
    rw [rzSpec_ne c hp]
    cases j with
    | zero => rw [List.getD_cons_zero, List.getD_cons_zero, if_neg hp]
    | succ j => rw [List.getD_cons_succ, List.getD_cons_succ, List.take_succ_cons, zc_cons_ne hp,
        ih j (Nat.lt_of_succ_lt_succ hj)]

theorem rzSpec_pos (c : α) (hc : 0 < c) (pmf us : List α) (h : zc pmf ≤ us.length)
    (hus : ∀ r ∈ us, 0 < r) (hnn : ∀ v ∈ pmf, 0 ≤ v) : ∀ v ∈ rzSpec c pmf us, 0 < v := by
  revert hus hnn
  refine rz_induction (motive := fun pmf us => (∀ r ∈ us, 0 < r) → (∀ v ∈ pmf, 0 ≤ v) →
    ∀ v ∈ rzSpec c pmf us, 0 < v) ?_ ?_ ?_ pmf us h
  · intro us _ _ v hv
    exact absurd hv List.not_mem_nil
  · intro ps r rs _ ih hus hnn
    rw [rzSpec_zero_cons]
    exact List.forall_mem_cons.mpr ⟨hus r List.mem_cons_self,
      ih (List.forall_mem_cons.mp hus).2 (List.forall_mem_cons.mp hnn).2⟩
  · intro p ps us hp _ ih hus hnn
    rw [rzSpec_ne c hp]
    exact List.forall_mem_cons.mpr
      ⟨mul_pos (lt_of_le_of_ne (hnn p List.mem_cons_self) (Ne.symm hp)) hc,
        ih hus (List.forall_mem_cons.mp hnn).2⟩

theorem zc_take_lt (pmf : List α) (j : Nat) (hj : j < pmf.length) (h0 : pmf.getD j 0 = 0) :
    zc (pmf.take j) < zc pmf := by
  induction pmf generalizing j with
  | nil => exact absurd hj (Nat.not_lt_zero j)
  | cons p ps ih =>
    cases j with
    | zero =>
      obtain rfl : p = 0 := h0
      rw [List.take_zero, zc_nil, zc_cons_zero]
      exact Nat.succ_pos _
    | succ j =>
      have := ih j (Nat.lt_of_succ_lt_succ hj) h0
      rw [List.take_succ_cons, zc_cons, zc_cons]
      exact Nat.add_lt_add_left this _

end ReplaceZeros

/-! ## The clr-basis `ubasis` as a function of two indices -/

section UB
open Finset

noncomputable def sc (i : ℕ) : ℝ := Real.sqrt ((i : ℝ) / ((i + 1 : ℕ) : ℝ))

/-- Entry `j` of row `i` of `ubasis` (it does not depend on the number of columns). -/
noncomputable def ub (i j : ℕ) : ℝ :=
  sc i * (if j < i then 1 / (i : ℝ) else if j = i then -1 else 0)

theorem sc_sq (i : ℕ) : sc i * sc i = (i : ℝ) / ((i : ℝ) + 1) := by
  unfold sc
  rw [Real.mul_self_sqrt (by positivity)]
  push_cast; rfl

theorem ub_lt {i j : ℕ} (h : j < i) : ub i j = sc i * (1 / (i : ℝ)) := by
  simp [ub, h]

theorem ub_self (i : ℕ) : ub i i = - sc i := by
  simp [ub]

theorem ub_gt {i j : ℕ} (h : i < j) : ub i j = 0 := by
  have h1 : ¬ j < i := by omega
  have h2 : ¬ j = i := by omega
  simp [ub, h1, h2]

theorem sum_mul_ub (f : ℕ → ℝ) (i N : ℕ) (hN : i < N) :
    ∑ j ∈ range N, f j * ub i j = sc i * ((∑ j ∈ range i, f j) / (i : ℝ) - f i) := by
  induction N, (show i + 1 ≤ N from hN) using Nat.le_induction with
  | base =>
    rw [sum_range_succ, ub_self]
    have : ∑ j ∈ range i, f j * ub i j = ∑ j ∈ range i, f j * (sc i * (1 / (i : ℝ))) :=
      sum_congr rfl (fun j hj => by rw [ub_lt (mem_range.mp hj)])
    rw [this, ← sum_mul]
    ring
  | succ N hle ih =>
    rw [sum_range_succ, ih (by omega), ub_gt (by omega)]
    ring

theorem ub_sum_zero (i N : ℕ) (hi : 1 ≤ i) (hN : i < N) : ∑ j ∈ range N, ub i j = 0 := by
  have hi0 : (i : ℝ) ≠ 0 := Nat.cast_ne_zero.mpr (Nat.ne_of_gt hi)
  rw [sum_congr rfl fun j _ => (one_mul (ub i j)).symm, sum_mul_ub (fun _ => 1) i N hN, sum_const,
    card_range, nsmul_eq_mul, mul_one, div_self hi0, sub_self, mul_zero]

theorem ub_mul_lt_lt {i j j' : ℕ} (h : j < i) (h' : j' < i) :
    ub i j * ub i j' = 1 / (i : ℝ) - 1 / ((i : ℝ) + 1) := by
  have hi : (i : ℝ) ≠ 0 := Nat.cast_ne_zero.mpr (Nat.ne_zero_of_lt h)
  rw [ub_lt h, ub_lt h', mul_mul_mul_comm, sc_sq]
  field_simp
  ring

theorem ub_mul_lt_self {i j : ℕ} (h : j < i) : ub i j * ub i i = -(1 / ((i : ℝ) + 1)) := by
  have hi : (i : ℝ) ≠ 0 := Nat.cast_ne_zero.mpr (Nat.ne_zero_of_lt h)
  rw [ub_lt h, ub_self, mul_neg, mul_right_comm, sc_sq]
  field_simp

theorem ub_mul_self (i : ℕ) : ub i i * ub i i = 1 - 1 / ((i : ℝ) + 1) := by
  rw [ub_self, neg_mul_neg, sc_sq]
  field_simp
  ring

theorem sum_ub_lt (i : ℕ) (hi : 1 ≤ i) : ∑ j ∈ range i, ub i j = sc i := by
  have hi0 : (i : ℝ) ≠ 0 := Nat.cast_ne_zero.mpr (Nat.ne_of_gt hi)
  rw [sum_congr rfl (fun j hj => ub_lt (mem_range.mp hj)), sum_const, card_range, nsmul_eq_mul,
    mul_one_div, mul_div_cancel₀ _ hi0]

theorem ub_orth_self (i N : ℕ) (hi : 1 ≤ i) (hN : i < N) :
    ∑ j ∈ range N, ub i j * ub i j = 1 := by
  have hi0 : (i : ℝ) ≠ 0 := Nat.cast_ne_zero.mpr (Nat.ne_of_gt hi)
  rw [sum_mul_ub (ub i) i N hN, sum_ub_lt i hi, ub_self, sub_neg_eq_add, mul_add, ← mul_div_assoc,
    sc_sq]
  field_simp
  ring

theorem ub_orth_lt (i' i N : ℕ) (hi' : 1 ≤ i') (h : i' < i) (hN : i < N) :
    ∑ j ∈ range N, ub i' j * ub i j = 0 := by
  rw [sum_mul_ub (ub i') i N hN, ub_sum_zero i' i hi' h, ub_gt h]
  simp

theorem ub_orth (i i' N : ℕ) (hi : 1 ≤ i) (hi' : 1 ≤ i') (hN : i < N) (hN' : i' < N) :
    ∑ j ∈ range N, ub i j * ub i' j = if i = i' then 1 else 0 := by
  rcases Nat.lt_trichotomy i i' with h | h | h
  · rw [if_neg (by omega)]; exact ub_orth_lt i i' N hi h hN'
  · subst h; rw [if_pos rfl]; exact ub_orth_self i N hi hN
  · rw [if_neg (by omega)]
    have := ub_orth_lt i' i N hi' h hN
    rw [← this]
    exact sum_congr rfl (fun j _ => mul_comm _ _)

theorem ub_complete_le (n j j' : ℕ) (hj : j ≤ j') (hj' : j' ≤ n) :
    ∑ k ∈ range n, ub (k + 1) j * ub (k + 1) j'
      = (if j = j' then 1 else 0) - 1 / ((n : ℝ) + 1) := by
  induction n with
  | zero =>
    obtain rfl := Nat.le_zero.mp hj'
    obtain rfl := Nat.le_zero.mp hj
    simp
  | succ n ih =>
    rw [sum_range_succ, Nat.cast_succ]
    rcases Nat.lt_or_ge j' (n + 1) with hl | hg
    · rw [ih (Nat.le_of_lt_succ hl), ub_mul_lt_lt (lt_of_le_of_lt hj hl) hl, Nat.cast_succ]
      exact sub_add_sub_cancel _ _ _
    · obtain rfl : j' = n + 1 := le_antisymm hj' hg
      have hvan : ∑ k ∈ range n, ub (k + 1) j * ub (k + 1) (n + 1) = 0 :=
        sum_eq_zero fun k hk => by rw [ub_gt (Nat.succ_lt_succ (mem_range.mp hk)), mul_zero]
      rw [hvan, zero_add]
      rcases Nat.lt_or_ge j (n + 1) with hl | hg
      · rw [ub_mul_lt_self hl, if_neg (Nat.ne_of_lt hl), Nat.cast_succ, zero_sub]
      · obtain rfl : j = n + 1 := le_antisymm hj hg
        rw [ub_mul_self, if_pos rfl, Nat.cast_succ]

/-- **Completeness**: the rows `1..n` span the orthogonal complement of `(1,…,1)` in
`ℝ^(n+1)`. -/
theorem ub_complete (n j j' : ℕ) (hj : j ≤ n) (hj' : j' ≤ n) :
    ∑ k ∈ range n, ub (k + 1) j * ub (k + 1) j'
      = (if j = j' then 1 else 0) - 1 / ((n : ℝ) + 1) := by
  rcases le_total j j' with h | h
  · exact ub_complete_le n j j' h hj'
  · rw [sum_congr rfl fun k _ => mul_comm (ub (k + 1) j) (ub (k + 1) j'), ub_complete_le n j' j h hj,
      if_congr eq_comm rfl rfl]

theorem sum_mul_sum_mul (s t : Finset ℕ) (A b : ℕ → ℝ) (U : ℕ → ℕ → ℝ) :
    ∑ k ∈ s, A k * ∑ j ∈ t, b j * U k j = ∑ j ∈ t, b j * ∑ k ∈ s, A k * U k j := by
  simp_rw [mul_sum]
  rw [sum_comm]
  exact sum_congr rfl fun j _ => sum_congr rfl fun k _ => mul_left_comm _ _ _

theorem proj_complete (L : ℕ → ℝ) (n j : ℕ) (hj : j ≤ n) :
    ∑ k ∈ range n, (∑ j' ∈ range (n + 1), L j' * ub (k + 1) j') * ub (k + 1) j
      = L j - (∑ j' ∈ range (n + 1), L j') / ((n : ℝ) + 1) := by
  rw [sum_congr rfl fun k _ => mul_comm _ (ub (k + 1) j),
    sum_mul_sum_mul _ _ (fun k => ub (k + 1) j) L fun k j' => ub (k + 1) j',
    sum_congr rfl fun j' hj' => by
      rw [ub_complete n j j' hj (Nat.le_of_lt_succ (mem_range.mp hj')), mul_sub, mul_ite, mul_one,
        mul_zero],
    sum_sub_distrib, sum_ite_eq, if_pos (mem_range.mpr (Nat.lt_succ_of_le hj)), ← sum_mul,
    mul_one_div]

theorem proj_orth (y : ℕ → ℝ) (n k : ℕ) (hk : k < n) :
    ∑ j ∈ range (n + 1), (∑ k' ∈ range n, y k' * ub (k' + 1) j) * ub (k + 1) j = y k := by
  rw [sum_congr rfl fun j _ => mul_comm _ (ub (k + 1) j),
    sum_mul_sum_mul _ _ (fun j => ub (k + 1) j) y fun j k' => ub (k' + 1) j,
    sum_congr rfl fun k' hk' => by
      rw [ub_orth (k + 1) (k' + 1) (n + 1) (Nat.le_add_left 1 k) (Nat.le_add_left 1 k')
        (Nat.succ_lt_succ hk) (Nat.succ_lt_succ (mem_range.mp hk')),
        if_congr (Nat.add_right_cancel_iff (n := 1)) rfl rfl, mul_ite, mul_one, mul_zero],
    sum_ite_eq, if_pos (mem_range.mpr hk)]

theorem parseval (a b : ℕ → ℝ) (n : ℕ) :
    ∑ k ∈ range n, (∑ j ∈ range (n + 1), a j * ub (k + 1) j)
        * (∑ j ∈ range (n + 1), b j * ub (k + 1) j)
      = ∑ j ∈ range (n + 1), a j * b j
        - (∑ j ∈ range (n + 1), a j) * (∑ j ∈ range (n + 1), b j) / ((n : ℝ) + 1) := by
  rw [sum_mul_sum_mul,
    sum_congr rfl fun j hj => by
      rw [proj_complete a n j (Nat.le_of_lt_succ (mem_range.mp hj)), mul_sub, mul_comm],
    sum_sub_distrib, ← sum_mul]
  ring

end UB

/-! ## Lists as `(List.range N).map f` and the `ilr` transform -/

section Ilr
open Finset

theorem zipWith_range_map (op : ℝ → ℝ → ℝ) (f g : ℕ → ℝ) (N : ℕ) :
    List.zipWith op ((List.range N).map f) ((List.range N).map g)
      = (List.range N).map (fun j => op (f j) (g j)) := by
  apply List.ext_getElem
  · simp
  · intro i h1 h2; simp

theorem map_eq_range_map (x : List ℝ) (g : ℝ → ℝ) :
    x.map g = (List.range x.length).map (fun j => g (x.getD j 0)) := by
  conv_lhs => rw [← map_range_getD x 0, List.map_map]
  rfl

theorem sum_take_map (x : List ℝ) (g : ℝ → ℝ) (i : ℕ) (hi : i ≤ x.length) :
    ((x.take i).map g).sum = ∑ j ∈ range i, g (x.getD j 0) := by
  induction i with
  | zero => simp
  | succ i ih =>
    have hlt : i < x.length := by omega
    rw [List.take_succ_eq_append_getElem hlt, List.map_append, List.sum_append, ih (by omega),
      sum_range_succ]
    simp [List.getD_eq_getElem?_getD, List.getElem?_eq_getElem hlt]

theorem dot_eq (x y : List ℝ) : dot x y = (List.zipWith (· * ·) x y).sum := by
  unfold dot; rw [lsum_eq_sum]

theorem dot_range_map (f g : ℕ → ℝ) (N : ℕ) :
    dot ((List.range N).map f) ((List.range N).map g) = ∑ j ∈ range N, f j * g j := by
  rw [dot_eq, zipWith_range_map, sum_range_map]

theorem ubasisRow_eq (n i : ℕ) : ubasisRow realA n i = (List.range (n + 1)).map (ub i) := rfl

theorem ubasisRow_getD (n i j : ℕ) (hj : j ≤ n) : (ubasisRow realA n i).getD j 0 = ub i j := by
  rw [ubasisRow_eq, getD_range_map _ 0 (by omega)]

noncomputable def Lg (x : List ℝ) (j : ℕ) : ℝ := Real.logb 2 (x.getD j 0)

theorem logGM_eq_sum (x : List ℝ) :
    logGM realA x = (∑ j ∈ range x.length, Lg x j) / (x.length : ℝ) := by
  rw [logGM_eq, map_eq_range_map, sum_range_map]; rfl

theorem clr_range (x : List ℝ) :
    clr realA x = (List.range x.length).map (fun j => Lg x j - logGM realA x) := by
  rw [clr_eq, map_eq_range_map]; rfl

theorem ilr_eq_log (x : List ℝ) :
    ilr realA x = (List.range (x.length - 1)).map (fun k =>
      ∑ j ∈ range x.length, Lg x j * ub (k + 1) j) := by
  unfold ilr
  apply List.map_congr_left
  intro k hk
  have hk' : k + 1 < x.length := by
    have := List.mem_range.mp hk; omega
  rw [sum_mul_ub (Lg x) (k + 1) x.length hk']
  simp only [lsum_eq_sum]
  rw [sum_take_map x realA.log (k + 1) (by omega)]
  rfl

/-- The rows of `ub` sum to zero, so the mean of the logs drops out. -/
theorem ilr_eq_clr (x : List ℝ) :
    ilr realA x = (List.range (x.length - 1)).map (fun k =>
      ∑ j ∈ range x.length, (Lg x j - logGM realA x) * ub (k + 1) j) := by
  rw [ilr_eq_log]
  apply List.map_congr_left
  intro k hk
  have hk' : k + 1 < x.length := by
    have := List.mem_range.mp hk; omega
  have e : ∀ j ∈ range x.length, (Lg x j - logGM realA x) * ub (k + 1) j
      = Lg x j * ub (k + 1) j - logGM realA x * ub (k + 1) j := fun j _ => by ring
  rw [sum_congr rfl e, sum_sub_distrib, ← mul_sum, ub_sum_zero (k + 1) x.length (by omega) hk']
  ring

theorem ilr_of_clr (p : List ℝ) (c : ℕ → ℝ) (h : clr realA p = (List.range p.length).map c) :
    ilr realA p = (List.range (p.length - 1)).map (fun k =>
      ∑ j ∈ range p.length, c j * ub (k + 1) j) := by
  rw [ilr_eq_clr]
  apply List.map_congr_left
  intro k _
  apply sum_congr rfl
  intro j hj
  have hj' := mem_range.mp hj
  have : (clr realA p).getD j 0 = c j := by rw [h, getD_range_map _ 0 hj']
  rw [clr_range, getD_range_map _ 0 hj'] at this
  rw [this]

theorem ilr_closure {u : List ℝ} (hu : ∀ v ∈ u, 0 < v) : ilr realA (closure u) = ilr realA u := by
  have h : clr realA (closure u)
      = (List.range (closure u).length).map (fun j => Lg u j - logGM realA u) := by
    rw [clr_closure hu, clr_range, closure_length]
  rw [ilr_of_clr _ _ h, closure_length, ← ilr_eq_clr]

@[simp] theorem ilr_length (x : List ℝ) : (ilr realA x).length = x.length - 1 := by
  simp [ilr]

theorem ilrInv_arg_eq (y : List ℝ) :
    (List.range (y.length + 1)).map (fun j =>
      lsum ((List.range y.length).map (fun k =>
        y.getD k 0 * (ubasisRow realA y.length (k + 1)).getD j 0)))
    = (List.range (y.length + 1)).map (fun j =>
      ∑ k ∈ range y.length, y.getD k 0 * ub (k + 1) j) := by
  apply List.map_congr_left
  intro j hj
  have hj' : j ≤ y.length := by
    have := List.mem_range.mp hj; omega
  rw [lsum_eq_sum, sum_range_map]
  exact sum_congr rfl (fun k _ => by rw [ubasisRow_getD _ _ _ hj'])

theorem ilrInv_eq (y : List ℝ) :
    ilrInv realA y = clrInv realA ((List.range (y.length + 1)).map (fun j =>
      ∑ k ∈ range y.length, y.getD k 0 * ub (k + 1) j)) := by
  rw [← ilrInv_arg_eq]; rfl

/-- `clr x = Σ_k ilr(x)_k · u_k`. -/
theorem sum_ilr_ubasis (x : List ℝ) (hne : x ≠ []) :
    (List.range ((ilr realA x).length + 1)).map (fun j =>
      ∑ k ∈ range (ilr realA x).length, (ilr realA x).getD k 0 * ub (k + 1) j) = clr realA x := by
  have hpos : 0 < x.length := List.length_pos_iff.mpr hne
  obtain ⟨n, hn⟩ : ∃ n, x.length = n + 1 := ⟨x.length - 1, by omega⟩
  rw [ilr_length, clr_range, hn, Nat.add_sub_cancel]
  apply List.map_congr_left
  intro j hj
  have hj' : j ≤ n := by
    have := List.mem_range.mp hj; omega
  have e : ∀ k ∈ range n, (ilr realA x).getD k 0 * ub (k + 1) j
      = (∑ j' ∈ range (n + 1), Lg x j' * ub (k + 1) j') * ub (k + 1) j := by
    intro k hk
    rw [ilr_eq_log, hn, Nat.add_sub_cancel, getD_range_map _ 0 (mem_range.mp hk)]
  rw [sum_congr rfl e, proj_complete (Lg x) n j hj', logGM_eq_sum, hn]
  push_cast; rfl

end Ilr

section Isometry
open Finset

theorem sum_centred (x : List ℝ) : ∑ j ∈ range x.length, (Lg x j - logGM realA x) = 0 := by
  have := clr_sum x
  rwa [clr_range, sum_range_map] at this

theorem ainner_eq_dot_ilr (x y : List ℝ) (hlen : x.length = y.length) :
    ainner realA x y = dot (ilr realA x) (ilr realA y) := by
  show dot (clr realA x) (clr realA y) = _
  rcases Nat.eq_zero_or_pos x.length with h0 | hpos
  · have hx : x = [] := List.length_eq_zero_iff.mp h0
    have hy : y = [] := List.length_eq_zero_iff.mp (hlen ▸ h0)
    subst hx; subst hy
    simp [dot, clr, ilr, lsum]
  obtain ⟨n, hn⟩ : ∃ n, x.length = n + 1 := ⟨x.length - 1, by omega⟩
  have hn' : y.length = n + 1 := hlen ▸ hn
  have sx := sum_centred x
  have sy := sum_centred y
  rw [clr_range, clr_range, ilr_eq_clr, ilr_eq_clr]
  rw [hn] at sx ⊢
  rw [hn'] at sy ⊢
  rw [Nat.add_sub_cancel, dot_range_map, dot_range_map, parseval, sx, sy]
  simp

theorem getD_pos {l : List ℝ} (hl : ∀ v ∈ l, 0 < v) {j : ℕ} (h : j < l.length) :
    0 < l.getD j 0 :=
  hl _ (getD_mem h 0)

theorem clr_of_Lg (w : List ℝ) (a : ℕ → ℝ) (h : ∀ j, j < w.length → Lg w j = a j) :
    clr realA w = (List.range w.length).map (fun j =>
      a j - (∑ j ∈ range w.length, a j) / (w.length : ℝ)) := by
  rw [clr_range, logGM_eq_sum, sum_congr rfl fun j hj => h j (mem_range.mp hj)]
  exact List.map_congr_left fun j hj => by rw [h j (List.mem_range.mp hj)]

theorem clr_perturbation (x y : List ℝ) (hlen : x.length = y.length)
    (hx : ∀ v ∈ x, 0 < v) (hy : ∀ v ∈ y, 0 < v) :
    clr realA (perturbation x y) = List.zipWith (· + ·) (clr realA x) (clr realA y) := by
  have hzl : (List.zipWith (· * ·) x y).length = x.length := by
    rw [List.length_zipWith, ← hlen, Nat.min_self]
  have hL : ∀ j, j < (List.zipWith (· * ·) x y).length →
      Lg (List.zipWith (· * ·) x y) j = Lg x j + Lg y j := by
    intro j hj
    have hjx : j < x.length := hzl ▸ hj
    have hjy : j < y.length := hlen ▸ hjx
    unfold Lg
    rw [List.getD_eq_getElem _ 0 hj, List.getElem_zipWith, List.getD_eq_getElem _ 0 hjx,
      List.getD_eq_getElem _ 0 hjy]
    exact logb_two_mul (hx _ (List.getElem_mem _)) (hy _ (List.getElem_mem _))
  rw [perturbation, clr_closure (zipWith_mul_pos hx hy), clr_of_Lg _ _ hL, hzl, clr_range x,
    clr_range y, logGM_eq_sum, logGM_eq_sum, ← hlen, zipWith_range_map, sum_add_distrib, add_div]
  exact List.map_congr_left fun j _ => add_sub_add_comm _ _ _ _

theorem clr_powering (x : List ℝ) (a : ℝ) (hx : ∀ v ∈ x, 0 < v) :
    clr realA (powering realA x a) = (clr realA x).map (a * ·) := by
  have hL : ∀ j, j < (x.map fun v => realA.pow v a).length →
      Lg (x.map fun v => realA.pow v a) j = a * Lg x j := by
    intro j hj
    have hjx : j < x.length := List.length_map (as := x) _ ▸ hj
    unfold Lg
    rw [List.getD_eq_getElem _ 0 hj, List.getElem_map, List.getD_eq_getElem _ 0 hjx]
    exact Real.logb_rpow_eq_mul_logb_of_pos (hx _ (List.getElem_mem hjx))
  rw [powering, clr_closure (map_rpow_pos hx a), clr_of_Lg _ _ hL, List.length_map, clr_range x,
    List.map_map, logGM_eq_sum, ← mul_sum, mul_div_assoc]
  exact List.map_congr_left fun j _ => (mul_sub _ _ _).symm

theorem ilr_sub (x y : List ℝ) (hne : x ≠ []) (hlen : x.length = y.length)
    (hx : ∀ v ∈ x, 0 < v) (hy : ∀ v ∈ y, 0 < v) :
    ilr realA (perturbation x (powering realA y (-1)))
      = List.zipWith (· - ·) (ilr realA x) (ilr realA y) := by
  have hney : y ≠ [] := by
    intro e; rw [e] at hlen; exact hne (List.length_eq_zero_iff.mp hlen)
  obtain ⟨hql, hqpos, _⟩ := powering_simplex hney hy (-1)
  have hlen' : x.length = (powering realA y (-1)).length := by rw [hql, hlen]
  obtain ⟨hpl, _, _⟩ := perturbation_simplex hne hlen' hx hqpos
  have hc : clr realA (perturbation x (powering realA y (-1)))
      = (List.range (perturbation x (powering realA y (-1))).length).map (fun j =>
          (Lg x j - logGM realA x) + (-1) * (Lg y j - logGM realA y)) := by
    rw [clr_perturbation x _ hlen' hx hqpos, clr_powering y (-1) hy, clr_range x,
      clr_range y, List.map_map, ← hlen, zipWith_range_map, hpl]
    rfl
  rw [ilr_of_clr _ _ hc, hpl, ilr_eq_clr x, ilr_eq_clr y, ← hlen, zipWith_range_map]
  apply List.map_congr_left
  intro k _
  rw [← sum_sub_distrib]
  exact sum_congr rfl (fun j _ => by ring)

end Isometry

section Downsample
variable {α : Type} [Field α] [LinearOrder α] [IsStrictOrderedRing α]

theorem cast_div_le_iff (m : ℕ) (hm : 1 ≤ m) (a b : ℕ) :
    (a : α) / (m : α) ≤ (b : α) / (m : α) ↔ a ≤ b := by
  have hm' : (0 : α) < (m : α) := Nat.cast_pos.mpr hm
  rw [div_le_div_iff_of_pos_right hm', Nat.cast_le]

/-- The `lower` of `snapNum`: the largest `k ≤ m` with `k/m ≤ p`, or `0` if there is none. -/
def snapLower (m : ℕ) (p : α) : ℕ := Nat.findGreatest (fun k : ℕ => (k : α) / (m : α) ≤ p) m

section
omit [IsStrictOrderedRing α]

theorem snapLower_le (m : ℕ) (p : α) : snapLower m p ≤ m := Nat.findGreatest_le m

theorem snapLower_sat (m : ℕ) {p : α} (hp : 0 ≤ p) : (snapLower m p : α) / (m : α) ≤ p :=
  Nat.findGreatest_spec (P := fun k : ℕ => (k : α) / (m : α) ≤ p) (Nat.zero_le m)
    (by rwa [Nat.cast_zero, zero_div])

theorem le_snapLower {m K : ℕ} {p : α} (hK : K ≤ m) (h : (K : α) / (m : α) ≤ p) :
    K ≤ snapLower m p :=
  Nat.le_findGreatest hK h

theorem snapNum_eq (m : ℕ) (p : α) :
    snapNum (Nat.cast : ℕ → α) m p =
      if ((if snapLower m p < m then snapLower m p + 1 else snapLower m p : ℕ) : α) / (m : α) - p
          < p - (snapLower m p : α) / (m : α)
      then (if snapLower m p < m then snapLower m p + 1 else snapLower m p) else snapLower m p := by
  rw [snapLower, ← foldl_range_succ_ite_self]
  rfl

/-- `snapNum` returns `lower`, or `lower + 1` when that is on the grid and strictly nearer. -/
theorem snapNum_cases (m : ℕ) (p : α) :
    snapNum (Nat.cast : ℕ → α) m p = snapLower m p ∨
      (snapLower m p < m ∧
        ((snapLower m p + 1 : ℕ) : α) / (m : α) - p < p - (snapLower m p : α) / (m : α) ∧
        snapNum (Nat.cast : ℕ → α) m p = snapLower m p + 1) := by
  rw [snapNum_eq]
  by_cases hlm : snapLower m p < m
  · rw [if_pos hlm]
    by_cases hlt : ((snapLower m p + 1 : ℕ) : α) / (m : α) - p < p - (snapLower m p : α) / (m : α)
    · exact Or.inr ⟨hlm, hlt, if_pos hlt⟩
    · exact Or.inl (if_neg hlt)
  · rw [if_neg hlm]
    exact Or.inl (ite_self _)

theorem snapLower_le_snapNum (m : ℕ) (p : α) : snapLower m p ≤ snapNum (Nat.cast : ℕ → α) m p := by
  rcases snapNum_cases m p with h | ⟨_, _, h⟩ <;> rw [h]
  exact Nat.le_succ _

end

set_option linter.unusedSectionVars false in
theorem snapNum_le (m : ℕ) (p : α) : snapNum (Nat.cast : ℕ → α) m p ≤ m := by
  rcases snapNum_cases m p with h | ⟨hlm, _, h⟩ <;> rw [h]
  · exact snapLower_le m p
  · exact hlm

theorem snapNum_le_of_le (m : ℕ) (hm : 1 ≤ m) (p : α) (hp : 0 ≤ p) (K : ℕ)
    (hpK : p ≤ (K : α) / (m : α)) : snapNum (Nat.cast : ℕ → α) m p ≤ K := by
  have hsat := snapLower_sat m hp
  have hlK : snapLower m p ≤ K := (cast_div_le_iff m hm _ K).mp (hsat.trans hpK)
  rcases snapNum_cases m p with h | ⟨_, hlt, h⟩ <;> rw [h]
  · exact hlK
  · -- `lower + 1` is strictly nearer than `lower`, so `p` lies above `lower/m`: `lower ≠ K`
    refine Nat.succ_le_of_lt (lt_of_le_of_ne hlK ?_)
    intro e
    rw [e] at hlt
    have : ((K + 1 : ℕ) : α) / (m : α) ≤ (K : α) / (m : α) :=
      le_of_lt ((sub_neg.mp (hlt.trans_le (sub_nonpos.mpr hpK))).trans_le hpK)
    exact absurd ((cast_div_le_iff m hm _ _).mp this) (Nat.not_succ_le_self K)

omit [IsStrictOrderedRing α] in
theorem le_snapNum_of_le (m : ℕ) (p : α) (K : ℕ) (hK : K ≤ m) (hKp : (K : α) / (m : α) ≤ p) :
    K ≤ snapNum (Nat.cast : ℕ → α) m p :=
  (le_snapLower hK hKp).trans (snapLower_le_snapNum m p)

theorem snapNum_grid (m : ℕ) (hm : 1 ≤ m) (K : ℕ) (hK : K ≤ m) :
    snapNum (Nat.cast : ℕ → α) m ((K : α) / (m : α)) = K :=
  le_antisymm
    (snapNum_le_of_le m hm ((K : α) / (m : α)) (div_nonneg (Nat.cast_nonneg K) (Nat.cast_nonneg m)) K
      (le_refl _))
    (le_snapNum_of_le m ((K : α) / (m : α)) K hK (le_refl _))

/-- `xs` rescaled to total `r` (all zero once nothing is left), as `downsample` treats the
components not yet snapped. -/
def rescaleTo (r : α) (xs : List α) : List α :=
  if r ≤ 0 then xs.map (fun _ => (0 : α)) else xs.map (fun v => v * (r / xs.sum))

omit [IsStrictOrderedRing α] in
theorem rescaleTo_length (r : α) (xs : List α) : (rescaleTo r xs).length = xs.length := by
  unfold rescaleTo
  split <;> exact List.length_map _

theorem rescaleTo_nonneg (r : α) {xs : List α} (h : ∀ v ∈ xs, 0 ≤ v) :
    ∀ v ∈ rescaleTo r xs, 0 ≤ v := by
  intro v hv
  unfold rescaleTo at hv
  split at hv
  · obtain ⟨_, _, rfl⟩ := List.mem_map.mp hv
    exact le_rfl
  · rename_i hr
    obtain ⟨u, hu, rfl⟩ := List.mem_map.mp hv
    exact mul_nonneg (h u hu) (div_nonneg (le_of_not_ge hr) (List.sum_nonneg h))

omit [IsStrictOrderedRing α] in
theorem rescaleTo_sum {r : α} {xs : List α} (hr : 0 ≤ r) (hs : 0 < r → xs.sum ≠ 0) :
    (rescaleTo r xs).sum = r := by
  unfold rescaleTo
  split
  · rename_i h0
    rw [List.map_const', List.sum_replicate, smul_zero]
    exact le_antisymm hr h0
  · rename_i h0
    rw [sum_map_mul_const, mul_div_cancel₀ _ (hs (not_le.mp h0))]

section Equations
variable (c : ℕ → α) (m fuel : ℕ) (prev : α)

omit [IsStrictOrderedRing α] in
theorem downsampleGo_nil : downsampleGo c m fuel [] prev = [] := by
  cases fuel <;> rfl

omit [IsStrictOrderedRing α] in
theorem downsampleGo_singleton (p : α) : downsampleGo c m fuel [p] prev = [p] := by
  cases fuel <;> rfl

omit [IsStrictOrderedRing α] in
theorem downsampleGo_cons_cons (p q : α) (rest : List α) :
    downsampleGo c m (fuel + 1) (p :: q :: rest) prev
      = c (snapNum c m p) / c m ::
          downsampleGo c m fuel (rescaleTo (1 - (prev + c (snapNum c m p) / c m)) (q :: rest))
            (prev + c (snapNum c m p) / c m) := by
  rw [downsampleGo, lsum_eq_sum]
  · rfl
  · exact List.cons_ne_nil q rest

end Equations

omit [IsStrictOrderedRing α] in
theorem downsampleGo_length (m fuel : ℕ) (xs : List α) (prev : α) :
    (downsampleGo (Nat.cast : ℕ → α) m fuel xs prev).length = xs.length := by
  induction fuel generalizing xs prev with
  | zero => rfl
  | succ fuel ih =>
    match xs with
    | [] => rw [downsampleGo_nil]
    | [p] => rw [downsampleGo_singleton]
    | p :: q :: rest =>
      simp only [downsampleGo_cons_cons, List.length_cons, ih, rescaleTo_length]

theorem cast_sub_div {m P : ℕ} (hP : P ≤ m) (hm : 1 ≤ m) :
    ((m - P : ℕ) : α) / (m : α) = 1 - (P : α) / (m : α) := by
  rw [Nat.cast_sub hP, sub_div, div_self (Nat.cast_ne_zero.mpr (Nat.ne_of_gt hm))]

omit [LinearOrder α] [IsStrictOrderedRing α] in
theorem cast_add_div (P k m : ℕ) :
    ((P + k : ℕ) : α) / (m : α) = (P : α) / (m : α) + (k : α) / (m : α) := by
  rw [Nat.cast_add, add_div]

/-- One round of the `downsample` loop: if `p` and the non-negative `ys` complete `P/m` to 1, the
snapped `p` keeps the prefix within `m`, and `ys` rescaled completes the new prefix to 1. -/
theorem snap_step (m : ℕ) (hm : 1 ≤ m) {P k : ℕ} (hP : P ≤ m) {p : α} (hp : 0 ≤ p) {ys : List α}
    (hnn : ∀ v ∈ ys, 0 ≤ v) (hsum : (P : α) / (m : α) + (p + ys.sum) = 1)
    (hk : snapNum (Nat.cast : ℕ → α) m p = k) :
    P + k ≤ m ∧
      ((P + k : ℕ) : α) / (m : α) + (rescaleTo (1 - ((P + k : ℕ) : α) / (m : α)) ys).sum = 1 := by
  have hK : p + ys.sum = ((m - P : ℕ) : α) / (m : α) := by
    rw [cast_sub_div hP hm, ← hsum, add_sub_cancel_left]
  have hPk : P + k ≤ m :=
    Nat.add_le_of_le_sub' hP (hk.ge.trans (snapNum_le_of_le m hm p hp (m - P)
      ((le_add_of_nonneg_right (List.sum_nonneg hnn)).trans_eq hK)))
  refine ⟨hPk, ?_⟩
  have hr := cast_sub_div (α := α) hPk hm
  rw [← hr, rescaleTo_sum, hr, add_sub_cancel]
  · exact div_nonneg (Nat.cast_nonneg _) (Nat.cast_nonneg _)
  · -- if nothing were left to share out, `p` would be the grid point `(m - P)/m`, which is
    -- snapped to itself, and the prefix would already be worth 1
    intro hpos h0
    rw [h0, add_zero] at hK
    rw [hK, snapNum_grid m hm (m - P) (Nat.sub_le m P)] at hk
    rw [← hk, Nat.add_sub_cancel' hP, Nat.sub_self, Nat.cast_zero, zero_div] at hpos
    exact lt_irrefl _ hpos

/-- Invariant of the `downsample` loop: with the snapped prefix worth `P/m` and the rest a
non-negative vector completing it to 1, the output lies on the grid and completes `P/m` to 1. -/
theorem downsampleGo_spec (m : ℕ) (hm : 1 ≤ m) (fuel : ℕ) (xs : List α) (P : ℕ)
    (hfuel : xs.length ≤ fuel) (hP : P ≤ m) (hnn : ∀ v ∈ xs, 0 ≤ v)
    (hsum : (P : α) / (m : α) + xs.sum = 1) :
    (∀ v ∈ downsampleGo (Nat.cast : ℕ → α) m fuel xs ((P : α) / (m : α)),
      ∃ k : ℕ, k ≤ m ∧ v = (k : α) / (m : α)) ∧
    (P : α) / (m : α) + (downsampleGo (Nat.cast : ℕ → α) m fuel xs ((P : α) / (m : α))).sum = 1 := by
  induction fuel generalizing xs P with
  | zero =>
    obtain rfl : xs = [] := List.length_eq_zero_iff.mp (Nat.le_zero.mp hfuel)
    exact ⟨fun _ h => (List.not_mem_nil h).elim, hsum⟩
  | succ fuel ih =>
    rcases xs with _ | ⟨p, _ | ⟨q, rest⟩⟩
    · rw [downsampleGo_nil]
      exact ⟨fun _ h => (List.not_mem_nil h).elim, hsum⟩
    · rw [downsampleGo_singleton]
      refine ⟨fun v hv => ⟨m - P, Nat.sub_le m P, ?_⟩, hsum⟩
      rw [List.mem_singleton.mp hv, cast_sub_div hP hm]
      rw [List.sum_singleton] at hsum
      exact eq_sub_of_add_eq' hsum
    · rw [List.sum_cons] at hsum
      have hrnn : ∀ v ∈ q :: rest, 0 ≤ v := fun v hv => hnn v (List.mem_cons_of_mem _ hv)
      obtain ⟨hPk, hstep⟩ := snap_step m hm hP (hnn p List.mem_cons_self) hrnn hsum rfl
      rw [downsampleGo_cons_cons, ← cast_add_div]
      obtain ⟨hgrid, htot⟩ := ih _ _
        (by rw [rescaleTo_length]; exact Nat.le_of_succ_le_succ hfuel) hPk
        (rescaleTo_nonneg _ hrnn) hstep
      refine ⟨fun v hv => ?_, by rw [List.sum_cons, ← add_assoc, ← cast_add_div]; exact htot⟩
      rcases List.mem_cons.mp hv with rfl | hv
      · exact ⟨_, (Nat.le_add_left _ P).trans hPk, rfl⟩
      · exact hgrid v hv

theorem downsample_spec (m : ℕ) (hm : 1 ≤ m) (pmf : List α) (hnn : ∀ v ∈ pmf, 0 ≤ v)
    (hsum : pmf.sum = 1) :
    (∀ v ∈ downsample (Nat.cast : ℕ → α) m pmf, ∃ k : ℕ, k ≤ m ∧ v = (k : α) / (m : α)) ∧
      (downsample (Nat.cast : ℕ → α) m pmf).sum = 1 := by
  have := downsampleGo_spec m hm pmf.length pmf 0 le_rfl (Nat.zero_le m) hnn
    (by rw [Nat.cast_zero, zero_div, zero_add, hsum])
  rwa [Nat.cast_zero, zero_div, zero_add] at this

end Downsample

end Dit.Lemmas.Aitchison
