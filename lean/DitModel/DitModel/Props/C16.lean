/-
C16 — Join, meet and minimal sufficient statistic of groups of variables
(`dit.algorithms.lattice`, `dit.algorithms.minimal_sufficient_statistic`).

The variable added by `insert_join` determines, and is determined by, the joined groups (its
entropy is their joint entropy); the one added by `insert_meet` is a function of each group
separately and is the finest such function, its cells being the connected components of the
support under "agree on some group"; `mss`/`insert_mss` give a function of `X` whose cells are
exactly the classes of `x` with equal `P(Y|x)` and which keeps `I(X:Y)`. Elementary links of the
chain `K ≤ J ≤ B ≤ F ≤ M ≤ H` of common informations, and: every insertion leaves the joint
distribution of the original variables unchanged.

`rows : List (List σ)` is the list of outcomes; `labelOf classes o` is the symbol of the new
variable at `o`, coded by an injective `code : ℕ → σ`.
Entropies are `entropyOf (Real.logb 2)` of tables with real values.
-/
import DitModel.Lemmas.Meet
import DitModel.Props.C11
import Mathlib.Algebra.Field.Rat
import Mathlib.Algebra.Order.Ring.Rat

namespace Dit.Props.C16
open Dit Dit.Lemmas.Table Dit.Lemmas.Meet Dit.Lemmas.InfoAlg Dit.Lemmas.InfoReal

/-! ## (a) `classesBy` computes the partition into equivalence classes -/

section Partition
variable {σ : Type} [DecidableEq σ] {rel : List σ → List σ → Bool} {rows : List (List σ)}

theorem classes_partition (he : EquivOn rel rows) :
    (∀ o ∈ rows, ∃ c ∈ classesBy (fun o => rows.filter (rel o)) rows, o ∈ c)
    ∧ (classesBy (fun o => rows.filter (rel o)) rows).Pairwise Disj
    ∧ ∀ c ∈ classesBy (fun o => rows.filter (rel o)) rows,
        (∃ x, c.head? = some x ∧ c = rows.filter (rel x))
        ∧ ∀ x ∈ c, x ∈ rows ∧ c = rows.filter (rel x) := by
  refine ⟨fun o ho => classes_cover he ho, classes_disjoint he, fun c hc => ⟨?_, fun x hx =>
    ⟨mem_rows_of_mem_class he hc hx, he.classes.cls c hc x hx⟩⟩⟩
  cases hcc : c with
  | nil => exact absurd hcc (class_ne_nil he hc)
  | cons x l =>
    exact ⟨x, rfl, hcc ▸ he.classes.cls c hc x (by rw [hcc]; exact List.mem_cons_self)⟩

/-- The same partition with the cells described by a proposition `P` that `rel` decides. -/
theorem classes_partition_of_iff (he : EquivOn rel rows) {P : List σ → List σ → Prop}
    (hP : ∀ x y, rel x y = true ↔ P x y) :
    (∀ o ∈ rows, ∃ c ∈ classesBy (fun o => rows.filter (rel o)) rows, o ∈ c)
    ∧ (classesBy (fun o => rows.filter (rel o)) rows).Pairwise Disj
    ∧ ∀ c ∈ classesBy (fun o => rows.filter (rel o)) rows, c ≠ [] ∧ ∀ x ∈ c, x ∈ rows ∧
        ∀ y, y ∈ c ↔ y ∈ rows ∧ P x y := by
  obtain ⟨h1, h2, h3⟩ := classes_partition he
  refine ⟨h1, h2, fun c hc => ⟨class_ne_nil he hc, fun x hx => ?_⟩⟩
  obtain ⟨hxr, e⟩ := (h3 c hc).2 x hx
  exact ⟨hxr, fun y => by rw [e, List.mem_filter, hP]⟩

/-- **Labels identify classes**: two rows get the same label iff they are
related; the label of a row is the position of its class. -/
theorem label_eq_iff (he : EquivOn rel rows) {o o' : List σ} (ho : o ∈ rows) (ho' : o' ∈ rows) :
    (labelOf (classesBy (fun o => rows.filter (rel o)) rows) o
        = labelOf (classesBy (fun o => rows.filter (rel o)) rows) o'
      ↔ rel o o' = true)
    ∧ labelOf (classesBy (fun o => rows.filter (rel o)) rows) o
        < (classesBy (fun o => rows.filter (rel o)) rows).length :=
  ⟨labelOf_eq_iff he ho ho', label_lt he ho⟩

/-- Non-vacuity: the three relations used below are equivalences on any list of rows. -/
example : EquivOn (joinRel [[0], [2]]) [[0, 0, 0], [0, 0, 1], [0, 1, 0], [1, 1, 1]] :=
  joinRel_equivOn _ _
example : EquivOn (reachB (linkRel [[0], [1]]) [[0, 0], [0, 1], [1, 1], [2, 2]])
    [[0, 0], [0, 1], [1, 1], [2, 2]] := meet_equivOn _ _
example (t : Tab (List Nat) Rat) : EquivOn (mssRel t [0] [1]) (keys t) := mss_equivOn _ _ _ _

end Partition

/-! ## (b) Join -/

section Join
variable {σ : Type} [DecidableEq σ]

/-- The join relation is reflexive, symmetric and transitive (on all outcomes). -/
theorem joinRel_equivalence (groups : List (List Nat)) :
    (∀ o : List σ, joinRel groups o o = true)
    ∧ (∀ o o' : List σ, joinRel groups o o' = true → joinRel groups o' o = true)
    ∧ (∀ o o' o'' : List σ, joinRel groups o o' = true → joinRel groups o' o'' = true →
        joinRel groups o o'' = true) :=
  ⟨joinRel_refl groups, fun _ _ h => joinRel_symm groups h,
    fun _ _ _ h h' => joinRel_trans groups h h'⟩

/-- `joinClasses` is a partition of the rows whose cells are the sets of rows agreeing on all
groups. -/
theorem join_partition (groups : List (List Nat)) (rows : List (List σ)) :
    (∀ o ∈ rows, ∃ c ∈ joinClasses groups rows, o ∈ c)
    ∧ (joinClasses groups rows).Pairwise Disj
    ∧ ∀ c ∈ joinClasses groups rows, c ≠ [] ∧ ∀ x ∈ c, x ∈ rows ∧
        ∀ y, y ∈ c ↔ y ∈ rows ∧ project groups.flatten x = project groups.flatten y :=
  classes_partition_of_iff (joinRel_equivOn groups rows) (joinRel_iff_flatten groups)

theorem join_label_iff (groups : List (List Nat)) (rows : List (List σ)) {o o' : List σ}
    (ho : o ∈ rows) (ho' : o' ∈ rows) :
    labelOf (joinClasses groups rows) o = labelOf (joinClasses groups rows) o'
      ↔ project groups.flatten o = project groups.flatten o' := by
  rw [← joinRel_iff_flatten]
  exact labelOf_eq_iff (joinRel_equivOn groups rows) ho ho'

example : joinClasses [[0], [2]] [[0, 0, 0], [0, 0, 1], [0, 1, 0], [1, 1, 1]]
    = [[[0, 0, 0], [0, 1, 0]], [[0, 0, 1]], [[1, 1, 1]]] := by decide +kernel
example : [[0, 0, 0], [0, 0, 1], [0, 1, 0], [1, 1, 1]].map
    (labelOf (joinClasses [[0], [2]] [[0, 0, 0], [0, 0, 1], [0, 1, 0], [1, 1, 1]]))
    = [0, 1, 0, 2] := by decide +kernel

end Join

section JoinEntropy
variable {σ : Type} [DecidableEq σ]

/-- `H(new) = H(U ∪ {new}) = H(U)`, i.e. `H(new | U) = H(U | new) = 0`, for a label equivalent
to the values on `U`. -/
theorem equivalent_label_entropy (ℓ : List σ → σ) (U : List Nat) (n : Nat)
    (t : Tab (List σ) ℝ) (hn : ∀ k ∈ keys t, k.length = n) (hU : ∀ i ∈ U, i < n)
    (hℓ : ∀ k ∈ keys t, ∀ k' ∈ keys t, ℓ k = ℓ k' ↔ project U k = project U k') :
    entropyOf (Real.logb 2) (insertRvf (fun o => [ℓ o]) none t) [n]
        = entropyOf (Real.logb 2) t U
    ∧ entropyOf (Real.logb 2) (insertRvf (fun o => [ℓ o]) none t) (U ++ [n])
        = entropyOf (Real.logb 2) t U
    ∧ entropyOf (Real.logb 2) (insertRvf (fun o => [ℓ o]) none t) U
        = entropyOf (Real.logb 2) t U := by
  refine ⟨?_, ?_, entropyOf_old ℓ n t hn U hU⟩
  · rw [entropyOf_new ℓ n t hn, entropyOf_eq_Hmap]
    exact Hmap_equiv _ _ t hℓ
  · rw [entropyOf_old_new ℓ n t hn U hU, entropyOf_eq_Hmap]
    exact Hmap_pair _ _ t (fun k hk k' hk' e => (hℓ k hk k' hk').mpr e)

/-- **The join variable determines and is determined by the joined groups**: appending the join label (coded by an injective `code`) to a table whose
outcomes have length `n` gives a variable `n` with `H(join) = H(⋃ groups) = H(⋃ groups, join)`. -/
theorem join_determines (code : Nat → σ) (hcode : Function.Injective code)
    (groups : List (List Nat)) (n : Nat) (t : Tab (List σ) ℝ)
    (hn : ∀ k ∈ keys t, k.length = n) (hg : ∀ g ∈ groups, ∀ i ∈ g, i < n) :
    entropyOf (Real.logb 2)
        (insertRvf (fun o => [code (labelOf (joinClasses groups (keys t)) o)]) none t) [n]
        = entropyOf (Real.logb 2) t groups.flatten
    ∧ entropyOf (Real.logb 2)
        (insertRvf (fun o => [code (labelOf (joinClasses groups (keys t)) o)]) none t)
        (groups.flatten ++ [n])
        = entropyOf (Real.logb 2) t groups.flatten
    ∧ entropyOf (Real.logb 2)
        (insertRvf (fun o => [code (labelOf (joinClasses groups (keys t)) o)]) none t)
        groups.flatten
        = entropyOf (Real.logb 2) t groups.flatten := by
  apply equivalent_label_entropy (fun o => code (labelOf (joinClasses groups (keys t)) o))
    groups.flatten n t hn
  · intro i hi
    obtain ⟨g, hgm, hig⟩ := List.mem_flatten.mp hi
    exact hg g hgm i hig
  · intro k hk k' hk'
    rw [← join_label_iff groups (keys t) hk hk']
    exact hcode.eq_iff

/-- Non-vacuity: an injective coding, a table with outcomes of length 2, groups within range. -/
example : Function.Injective (fun i : Nat => i)
    ∧ (∀ k ∈ keys ([([0, 0], 1 / 2), ([0, 1], 1 / 4), ([1, 1], 1 / 4)] : Tab (List Nat) ℝ),
        k.length = 2)
    ∧ ∀ g ∈ [[0], [1]], ∀ i ∈ g, i < 2 := by
  exact ⟨fun _ _ h => h, by decide, by decide⟩

end JoinEntropy

/-! ## (c) Entropy of equivalent and of coarser maps -/

section Entropy
variable {κ κ₁ κ₂ : Type} [DecidableEq κ₁] [DecidableEq κ₂]

/-- **Equivalent maps have equal entropy**: if `f` and `g`
identify the same pairs of stored outcomes, the laws of `f` and of `g` under the table have the
same entropy. Holds for every real table. -/
theorem entropy_of_equivalent_maps (f : κ → κ₁) (g : κ → κ₂) (t : Tab κ ℝ)
    (h : ∀ k ∈ keys t, ∀ k' ∈ keys t, f k = f k' ↔ g k = g k') :
    entropyVals (Real.logb 2) (vals (pushforward f t))
      = entropyVals (Real.logb 2) (vals (pushforward g t)) :=
  Hmap_equiv f g t h

/-- **A function of a variable has at most its entropy**: if `f` is
determined by `g` on the stored outcomes, `H(f) ≤ H(g)`. Non-negative values are needed (the
inequality is the non-negativity of a conditional entropy). -/
theorem entropy_function_le (f : κ → κ₁) (g : κ → κ₂) (t : Tab κ ℝ) (hnn : ∀ r ∈ t, 0 ≤ r.2)
    (h : ∀ k ∈ keys t, ∀ k' ∈ keys t, g k = g k' → f k = f k') :
    entropyVals (Real.logb 2) (vals (pushforward f t))
      ≤ entropyVals (Real.logb 2) (vals (pushforward g t)) :=
  Hmap_le_of_function f g t hnn h

/-- Pairing a variable with a function of it does not change the entropy: `H(f, g) = H(g)`, so
`H(f | g) = 0`. With `entropy_of_equivalent_maps` (when also `g` is a function of `f`):
`H(f, g) = H(f) = H(g)`, both conditional entropies vanish. -/
theorem entropy_pair_eq (f : κ → κ₁) (g : κ → κ₂) (t : Tab κ ℝ)
    (h : ∀ k ∈ keys t, ∀ k' ∈ keys t, g k = g k' → f k = f k') :
    entropyVals (Real.logb 2) (vals (pushforward (fun k => (f k, g k)) t))
      = entropyVals (Real.logb 2) (vals (pushforward g t)) :=
  Hmap_pair f g t h

/-- Non-vacuity: parity as a number and as a Boolean are equivalent maps. -/
example : ∀ k ∈ keys ([(0, 1 / 2), (1, 1 / 4), (2, 1 / 4)] : Tab Nat ℝ),
    ∀ k' ∈ keys ([(0, 1 / 2), (1, 1 / 4), (2, 1 / 4)] : Tab Nat ℝ),
      k % 2 = k' % 2 ↔ decide (k % 2 = 0) = decide (k' % 2 = 0) := by decide +kernel

/-- Non-vacuity: `f = parity`, `g = id` on a table with non-negative values. -/
example : (∀ r ∈ ([(0, 1 / 2), (1, 1 / 4), (2, 1 / 4)] : Tab Nat ℝ), 0 ≤ r.2)
    ∧ ∀ k ∈ keys ([(0, 1 / 2), (1, 1 / 4), (2, 1 / 4)] : Tab Nat ℝ),
      ∀ k' ∈ keys ([(0, 1 / 2), (1, 1 / 4), (2, 1 / 4)] : Tab Nat ℝ), k = k' → k % 2 = k' % 2 := by
  refine ⟨?_, fun k _ k' _ e => by rw [e]⟩
  intro r hr; simp at hr; rcases hr with rfl | rfl | rfl <;> norm_num

end Entropy

/-! ## (d) Meet: connected components -/

section Meet
variable {σ : Type} [DecidableEq σ]

/-- **`component` computes the connected component**: for a row `o`, the
members of `component link rows o` are exactly the rows reachable from `o` by `link`-steps through
rows (`Reach` = reflexive–transitive closure). The closure by `rows.length` rounds is complete:
each round that changes the class makes it longer, and it is a sub-list of `rows`. No
assumption on `rows` (repetitions allowed) or on `link`. -/
theorem component_spec (link : List σ → List σ → Bool) (rows : List (List σ)) {o : List σ}
    (ho : o ∈ rows) (x : List σ) :
    x ∈ component link rows o ↔ x ∈ rows ∧ Reach link rows o x :=
  mem_component_iff ho x

set_option linter.unusedSectionVars false in
/-- For a symmetric `link` (such as `linkRel groups`), reachability is an equivalence relation on
the rows. -/
theorem reach_equivalence (link : List σ → List σ → Bool)
    (hs : ∀ a b, link a b = true → link b a = true) (rows : List (List σ)) :
    (∀ o, Reach link rows o o)
    ∧ (∀ o ∈ rows, ∀ o', Reach link rows o o' → Reach link rows o' o)
    ∧ (∀ o o' o'', Reach link rows o o' → Reach link rows o' o'' → Reach link rows o o'') :=
  ⟨Reach.refl, fun _ ho _ h => Reach.symm hs ho h, fun _ _ _ h h' => h.trans h'⟩

example (groups : List (List Nat)) (a b : List σ) (h : linkRel groups a b = true) :
    linkRel groups b a = true := linkRel_symm groups h

theorem meet_partition (groups : List (List Nat)) (rows : List (List σ)) :
    (∀ o ∈ rows, ∃ c ∈ meetClasses groups rows, o ∈ c)
    ∧ (meetClasses groups rows).Pairwise Disj
    ∧ ∀ c ∈ meetClasses groups rows, c ≠ [] ∧ ∀ x ∈ c, x ∈ rows ∧
        ∀ y, y ∈ c ↔ y ∈ rows ∧ Reach (linkRel groups) rows x y := by
  rw [meetClasses_eq]
  exact classes_partition_of_iff (meet_equivOn groups rows) (fun _ _ => reachB_iff)

theorem meet_label_iff (groups : List (List Nat)) (rows : List (List σ)) {o o' : List σ}
    (ho : o ∈ rows) (ho' : o' ∈ rows) :
    labelOf (meetClasses groups rows) o = labelOf (meetClasses groups rows) o'
      ↔ Reach (linkRel groups) rows o o' := by
  rw [meetClasses_eq, labelOf_eq_iff (meet_equivOn groups rows) ho ho', reachB_iff]

/-- **The meet is a function of each group separately**: two rows that
agree on a single group get the same meet label. -/
theorem meet_function_of_each (groups : List (List Nat)) (rows : List (List σ)) {g : List Nat}
    (hg : g ∈ groups) {o o' : List σ} (ho : o ∈ rows) (ho' : o' ∈ rows)
    (h : project g o = project g o') :
    labelOf (meetClasses groups rows) o = labelOf (meetClasses groups rows) o' :=
  (meet_label_iff groups rows ho ho').mpr
    (Reach.single ho' ((linkRel_iff groups o o').mpr ⟨g, hg, h⟩))

/-- **The meet is the finest common function**: any labelling of the rows that
is a function of each group separately is constant on every meet class, i.e. it is a function
`φ` of the meet label. -/
theorem meet_finest {β : Type} (groups : List (List Nat)) (rows : List (List σ)) (ℓ : List σ → β)
    (hℓ : ∀ g ∈ groups, ∀ o ∈ rows, ∀ o' ∈ rows, project g o = project g o' → ℓ o = ℓ o') :
    (∀ o ∈ rows, ∀ o' ∈ rows,
        labelOf (meetClasses groups rows) o = labelOf (meetClasses groups rows) o' → ℓ o = ℓ o')
    ∧ ∃ φ : Nat → β, ∀ o ∈ rows, ℓ o = φ (labelOf (meetClasses groups rows) o) := by
  have h1 : ∀ o ∈ rows, ∀ o' ∈ rows,
      labelOf (meetClasses groups rows) o = labelOf (meetClasses groups rows) o' → ℓ o = ℓ o' :=
    fun o ho o' ho' e =>
      const_of_reach groups rows ℓ hℓ ho ((meet_label_iff groups rows ho ho').mp e)
  refine ⟨h1, fun i => match (meetClasses groups rows)[i]? with
    | some (x :: _) => ℓ x
    | _ => ℓ [], fun o ho => ?_⟩
  obtain ⟨hcov, hdis, hcell⟩ := meet_partition groups rows
  obtain ⟨i, ei, hi, hoi⟩ := labelOf_spec (hcov o ho)
  beta_reduce
  rw [ei, List.getElem?_eq_getElem hi]
  have hmem := List.getElem_mem hi
  cases hc : (meetClasses groups rows)[i] with
  | nil => exact absurd hc (hcell _ hmem).1
  | cons x l =>
    simp only
    have hx : x ∈ (meetClasses groups rows)[i] := by rw [hc]; exact List.mem_cons_self
    obtain ⟨hxr, hxy⟩ := (hcell _ hmem).2 x hx
    exact (const_of_reach groups rows ℓ hℓ hxr ((hxy o).mp hoi).2).symm

/-- Non-vacuity of `meet_function_of_each` and `meet_finest`: two rows agreeing on group `[0]`;
"first symbol halved" is a function of the first symbol and of the second symbol on these rows. -/
example : [0] ∈ [[0], [1]] ∧ project [0] [0, 0] = project [0] [0, 1] := by decide +kernel
example : ∀ g ∈ [[0], [1]], ∀ o ∈ [[0, 0], [0, 1], [1, 1], [2, 2], [3, 2]],
    ∀ o' ∈ [[0, 0], [0, 1], [1, 1], [2, 2], [3, 2]],
      project g o = project g o' → (o[0]?.getD 0) / 2 = (o'[0]?.getD 0) / 2 := by decide +kernel

example : meetClasses [[0], [1]] [[0, 0], [0, 1], [1, 1], [2, 2], [3, 2]]
    = [[[0, 0], [0, 1], [1, 1]], [[2, 2], [3, 2]]] := by decide +kernel
example : [[0, 0], [0, 1], [1, 1], [2, 2], [3, 2]].map
    (labelOf (meetClasses [[0], [1]] [[0, 0], [0, 1], [1, 1], [2, 2], [3, 2]]))
    = [0, 0, 0, 1, 1] := by decide +kernel
/-- Three rounds are needed here (a path of length 3), within the `rows.length = 4` performed. -/
example : component (linkRel [[0], [1]]) [[0, 0], [3, 2], [1, 1], [0, 1], [1, 2]] [0, 0]
    = [[0, 0], [3, 2], [1, 1], [0, 1], [1, 2]] := by decide +kernel

/-- **The entropy of the meet variable (the Gács–Körner common information `K`) is at most the
entropy of every group**, for a table with non-negative values whose
outcomes have length `n`; the meet label is appended as variable `n`. -/
theorem k_le_min_entropy (code : Nat → σ) (groups : List (List Nat)) (n : Nat)
    (t : Tab (List σ) ℝ) (hnn : ∀ r ∈ t, 0 ≤ r.2) (hn : ∀ k ∈ keys t, k.length = n) :
    ∀ g ∈ groups,
      entropyOf (Real.logb 2)
          (insertRvf (fun o => [code (labelOf (meetClasses groups (keys t)) o)]) none t) [n]
        ≤ entropyOf (Real.logb 2) t g := by
  intro g hg
  rw [entropyOf_new (fun o => code (labelOf (meetClasses groups (keys t)) o)) n t hn,
    entropyOf_eq_Hmap]
  apply Hmap_le_of_function _ _ t hnn
  intro k hk k' hk' e
  rw [meet_function_of_each groups (keys t) hg hk hk' e]

/-- Non-vacuity: a table with non-negative values (one of them zero) and outcomes of length 2. -/
example : (∀ r ∈ ([([0, 0], 1 / 2), ([0, 1], 0), ([1, 1], 1 / 4), ([2, 2], 1 / 4)] :
      Tab (List Nat) ℝ), 0 ≤ r.2)
    ∧ ∀ k ∈ keys ([([0, 0], 1 / 2), ([0, 1], 0), ([1, 1], 1 / 4), ([2, 2], 1 / 4)] :
      Tab (List Nat) ℝ), k.length = 2 := by
  refine ⟨?_, by decide⟩
  intro r hr; simp at hr; rcases hr with rfl | rfl | rfl | rfl <;> norm_num

end Meet

/-! ## (e) Minimal sufficient statistic -/

section Mss
variable {σ α : Type} [DecidableEq σ] [DecidableEq α] [Field α]

set_option linter.unusedSectionVars false in
/-- The conditional-law table tabulates `P(about = y | rvs = values in o)`
(`condP t rvs about o y`, the quotient of two event weights; `0` when `P(rvs-values) = 0`), and
lists each `y` once. -/
theorem mss_cond_law (t : Tab (List σ) α) (rvs about : List Nat) (o y : List σ) :
    lookupD 0 (condLawAt t rvs about o) y
        = wtBy (fun k => project about k = y ∧ project rvs k = project rvs o) t
          / wtBy (fun k => project rvs k = project rvs o) t
    ∧ (keys (condLawAt t rvs about o)).Nodup :=
  ⟨lookupD_condLawAt t rvs about o y, condLawAt_keys_nodup t rvs about o⟩

/-- "Equal conditional laws" (`sameLaw` of the `condLawAt` tables) is an equivalence relation:
it is equality of the functions `y ↦ P(y | x)`. -/
theorem mss_rel_equivalence (t : Tab (List σ) α) (rvs about : List Nat) :
    (∀ o o', sameLaw (condLawAt t rvs about o) (condLawAt t rvs about o') = true
        ↔ ∀ y, condP t rvs about o y = condP t rvs about o' y)
    ∧ (∀ o, sameLaw (condLawAt t rvs about o) (condLawAt t rvs about o) = true)
    ∧ (∀ o o', sameLaw (condLawAt t rvs about o) (condLawAt t rvs about o') = true →
        sameLaw (condLawAt t rvs about o') (condLawAt t rvs about o) = true)
    ∧ (∀ o o' o'', sameLaw (condLawAt t rvs about o) (condLawAt t rvs about o') = true →
        sameLaw (condLawAt t rvs about o') (condLawAt t rvs about o'') = true →
        sameLaw (condLawAt t rvs about o) (condLawAt t rvs about o'') = true) :=
  ⟨mssRel_iff t rvs about, mssRel_refl t rvs about, fun _ _ h => mssRel_symm t rvs about h,
    fun _ _ _ h h' => mssRel_trans t rvs about h h'⟩

/-- **The statistic is a function of `X`**: stored outcomes with the same
`rvs`-values get the same label. -/
theorem mss_function_of_X (t : Tab (List σ) α) (rvs about : List Nat) {o o' : List σ}
    (ho : o ∈ keys t) (ho' : o' ∈ keys t) (h : project rvs o = project rvs o') :
    labelOf (mssClasses t rvs about) o = labelOf (mssClasses t rvs about) o' := by
  rw [mssClasses_eq, labelOf_eq_iff (mss_equivOn t rvs about (keys t)) ho ho']
  exact mssRel_of_project_eq t rvs about h

/-- **The cells are exactly the classes of `x` with equal `P(Y|x)`**: two stored
outcomes get the same label iff their `rvs`-values induce the same conditional law of `about`;
and `mssClasses` is a partition of the stored outcomes. -/
theorem mss_classes (t : Tab (List σ) α) (rvs about : List Nat) :
    (∀ o ∈ keys t, ∀ o' ∈ keys t,
      (labelOf (mssClasses t rvs about) o = labelOf (mssClasses t rvs about) o'
        ↔ ∀ y, condP t rvs about o y = condP t rvs about o' y))
    ∧ (∀ o ∈ keys t, ∃ c ∈ mssClasses t rvs about, o ∈ c)
    ∧ (mssClasses t rvs about).Pairwise Disj
    ∧ ∀ c ∈ mssClasses t rvs about, c ≠ [] ∧ ∀ x ∈ c, x ∈ keys t ∧
        ∀ z, z ∈ c ↔ z ∈ keys t ∧ ∀ y, condP t rvs about x y = condP t rvs about z y := by
  have he := mss_equivOn t rvs about (keys t)
  rw [mssClasses_eq]
  refine ⟨fun o ho o' ho' => ?_, classes_partition_of_iff he (mssRel_iff t rvs about)⟩
  rw [labelOf_eq_iff he ho ho', mssRel_iff]

/-- An mss example over `ℚ`: `x = 0` and `x = 1` have the uniform conditional law of `y`,
`x = 2` has a point mass. -/
example : mssClasses ([([0, 0], 1 / 8), ([0, 1], 1 / 8), ([1, 0], 1 / 4), ([1, 1], 1 / 4),
      ([2, 0], 1 / 4)] : Tab (List Nat) Rat) [0] [1]
    = [[[0, 0], [0, 1], [1, 0], [1, 1]], [[2, 0]]] := by decide +kernel
example : condLawAt ([([0, 0], 1 / 8), ([0, 1], 1 / 8), ([1, 0], 1 / 4), ([1, 1], 1 / 4),
      ([2, 0], 1 / 4)] : Tab (List Nat) Rat) [0] [1] [1, 1] = [([0], 1 / 2), ([1], 1 / 2)] := by
  decide +kernel

end Mss

section MssReal
variable {σ : Type} [DecidableEq σ]

/-- **The minimal sufficient statistic keeps the mutual information**: for
a table with non-negative values whose outcomes have length `n`, appending the mss label of
`rvs` about `about` as variable `n` gives `I(label : about) = I(rvs : about)`, both written as
`H(A) + H(B) − H(A ∪ B)`. (Sufficiency: `P(y | x) = P(y | label(x))`.) The positions in `about`
must be old variables (`< n`); `hr` is not needed (a position `≥ n` in `rvs` is dropped by
`project` on the old table, where the classes and the right-hand side are computed). -/
theorem mss_preserves_mi (code : Nat → σ) (hcode : Function.Injective code)
    (t : Tab (List σ) ℝ) (hnn : ∀ r ∈ t, 0 ≤ r.2) (n : Nat) (hn : ∀ k ∈ keys t, k.length = n)
    (rvs about : List Nat) (hr : ∀ i ∈ rvs, i < n) (ha : ∀ i ∈ about, i < n) :
    entropyOf (Real.logb 2)
        (insertRvf (fun o => [code (labelOf (mssClasses t rvs about) o)]) none t) [n]
      + entropyOf (Real.logb 2)
        (insertRvf (fun o => [code (labelOf (mssClasses t rvs about) o)]) none t) about
      - entropyOf (Real.logb 2)
        (insertRvf (fun o => [code (labelOf (mssClasses t rvs about) o)]) none t) (about ++ [n])
    = entropyOf (Real.logb 2) t rvs + entropyOf (Real.logb 2) t about
      - entropyOf (Real.logb 2) t (rvs ++ about) := by
  have _ := hr
  have hsuff := Hmap_sufficient (project rvs) (project about)
    (fun o => code (labelOf (mssClasses t rvs about) o)) t hnn
    (fun k hk k' hk' e => by rw [mss_function_of_X t rvs about hk hk' e])
    (fun k hk k' hk' e => ((mss_classes t rvs about).1 k hk k' hk').mp (hcode e))
  rw [entropyOf_new (fun o => code (labelOf (mssClasses t rvs about) o)) n t hn,
    entropyOf_old (fun o => code (labelOf (mssClasses t rvs about) o)) n t hn about ha,
    entropyOf_old_new (fun o => code (labelOf (mssClasses t rvs about) o)) n t hn about ha,
    entropyOf_append, entropyOf_eq_Hmap t rvs, entropyOf_eq_Hmap t about]
  linear_combination hsuff

/-- Non-vacuity: the hypotheses on a concrete table (`rvs = [0]`, `about = [1]`, `n = 2`). -/
example : Function.Injective (fun i : Nat => i)
    ∧ (∀ r ∈ ([([0, 0], 1 / 8), ([0, 1], 1 / 8), ([1, 0], 1 / 4), ([1, 1], 1 / 4),
        ([2, 0], 1 / 4)] : Tab (List Nat) ℝ), 0 ≤ r.2)
    ∧ (∀ k ∈ keys ([([0, 0], 1 / 8), ([0, 1], 1 / 8), ([1, 0], 1 / 4), ([1, 1], 1 / 4),
        ([2, 0], 1 / 4)] : Tab (List Nat) ℝ), k.length = 2)
    ∧ (∀ i ∈ [0], i < 2) ∧ ∀ i ∈ [1], i < 2 := by
  refine ⟨fun _ _ h => h, ?_, by decide, by decide, by decide⟩
  intro r hr; simp at hr; rcases hr with rfl | rfl | rfl | rfl | rfl <;> norm_num

end MssReal

/-! ## (f) Every insertion preserves the joint distribution of the old variables -/

section Preserve
variable {σ α : Type} [DecidableEq σ] [AddCommMonoid α]

/-- **Appending a label variable leaves the old variables' joint distribution unchanged**
: marginalising onto the first `n` positions gives back every
event probability, and (for a table listing each outcome once) every stored value. `f` is any
function producing the new symbols — the join, meet or mss label. -/
theorem insert_preserves_old_append (f : List σ → List σ) (n : Nat) (t : Tab (List σ) α)
    (hn : ∀ k ∈ keys t, k.length = n) :
    (∀ (p : List σ → Prop) [DecidablePred p],
      wtBy p (pushforward (project (List.range n)) (insertRvf f none t)) = wtBy p t)
    ∧ ((keys t).Nodup → ∀ o,
      lookupD 0 (pushforward (project (List.range n)) (insertRvf f none t)) o = lookupD 0 t o) := by
  refine ⟨fun p _ => C11.insertRvf_append_old_marginal p f n t hn, fun hnd o => ?_⟩
  rw [lookupD_eq_wtBy (keys_pushforward_nodup _ _), lookupD_eq_wtBy hnd]
  exact C11.insertRvf_append_old_marginal _ f n t hn

/-- **Inserting a label variable at position `i ≤ n`** leaves the old variables (now at positions
`0..i-1` and `i+m..n+m-1`) with their joint distribution. -/
theorem insert_preserves_old_insert (f : List σ → List σ) (i n m : Nat) (t : Tab (List σ) α)
    (hi : i ≤ n) (hn : ∀ k ∈ keys t, k.length = n) (hm : ∀ k ∈ keys t, (f k).length = m) :
    (∀ (p : List σ → Prop) [DecidablePred p],
      wtBy p (pushforward (project (List.range i ++ List.range' (i + m) (n - i)))
        (insertRvf f (some i) t)) = wtBy p t)
    ∧ ((keys t).Nodup → ∀ o,
      lookupD 0 (pushforward (project (List.range i ++ List.range' (i + m) (n - i)))
        (insertRvf f (some i) t)) o = lookupD 0 t o) := by
  refine ⟨fun p _ => C11.insertRvf_insert_old_marginal p f i n m t hi hn hm, fun hnd o => ?_⟩
  rw [lookupD_eq_wtBy (keys_pushforward_nodup _ _), lookupD_eq_wtBy hnd]
  exact C11.insertRvf_insert_old_marginal _ f i n m t hi hn hm

/-- Non-vacuity: the meet label of `[[0],[1]]` appended / inserted at 1 on a concrete table. -/
example : insertRvf (fun o => [labelOf (meetClasses [[0], [1]]
      [[0, 0], [0, 1], [1, 1], [2, 2]]) o]) none
      ([([0, 0], 1 / 4), ([0, 1], 1 / 4), ([1, 1], 1 / 4), ([2, 2], 1 / 4)] : Tab (List Nat) Rat)
    = [([0, 0, 0], 1 / 4), ([0, 1, 0], 1 / 4), ([1, 1, 0], 1 / 4), ([2, 2, 1], 1 / 4)] := by
  decide +kernel
example : pushforward (project (List.range 1 ++ List.range' (1 + 1) (2 - 1)))
      (insertRvf (fun o => [labelOf (meetClasses [[0], [1]]
        [[0, 0], [0, 1], [1, 1], [2, 2]]) o]) (some 1)
      ([([0, 0], 1 / 4), ([0, 1], 1 / 4), ([1, 1], 1 / 4), ([2, 2], 1 / 4)] : Tab (List Nat) Rat))
    = [([0, 0], 1 / 4), ([0, 1], 1 / 4), ([1, 1], 1 / 4), ([2, 2], 1 / 4)] := by decide +kernel

end Preserve

/-! ## (g) Elementary links of the chain `K ≤ J ≤ B ≤ F ≤ M ≤ H` -/

section ChainLinks
variable {σ : Type} [DecidableEq σ]

/-- **`M ≤ H`**: the entropy of any variable that is a function of the outcome — in
particular the variable built from minimal sufficient statistics, whose entropy is `M` — is at
most the joint entropy of all `n` variables. -/
theorem m_le_h (ℓ : List σ → σ) (n : Nat) (t : Tab (List σ) ℝ) (hnn : ∀ r ∈ t, 0 ≤ r.2)
    (hn : ∀ k ∈ keys t, k.length = n) :
    entropyOf (Real.logb 2) (insertRvf (fun o => [ℓ o]) none t) [n]
      ≤ entropyOf (Real.logb 2) t (List.range n) := by
  rw [entropyOf_new ℓ n t hn, entropyOf_eq_Hmap]
  apply Hmap_le_of_function _ _ t hnn
  intro k hk k' hk' e
  rw [Lemmas.Constructors.project_range, Lemmas.Constructors.project_range,
    List.take_of_length_le (by rw [hn k hk]), List.take_of_length_le (by rw [hn k' hk'])] at e
  rw [e]

/-- **`K ≤ H`**: the entropy of the meet variable is at most the joint entropy. -/
theorem k_le_h (code : Nat → σ) (groups : List (List Nat)) (n : Nat) (t : Tab (List σ) ℝ)
    (hnn : ∀ r ∈ t, 0 ≤ r.2) (hn : ∀ k ∈ keys t, k.length = n) :
    entropyOf (Real.logb 2)
        (insertRvf (fun o => [code (labelOf (meetClasses groups (keys t)) o)]) none t) [n]
      ≤ entropyOf (Real.logb 2) t (List.range n) :=
  m_le_h (fun o => code (labelOf (meetClasses groups (keys t)) o)) n t hnn hn

/-- **`B ≤ F`-type link**: if a set of variables `W` renders the groups conditionally independent
(`H(Xᵢ | X₋ᵢ ∪ W) = H(Xᵢ | W)`), the dual total correlation of the groups is at most `H(W)`
(`F` is the least such `H(W)`). The groups may be arbitrary. -/
theorem b_le_f (t : Tab (List σ) ℝ) (hnn : ∀ r ∈ t, 0 ≤ r.2) (hmass : (t.map (·.2)).sum = 1)
    (groups : List VSet) (W : VSet)
    (hCI : ∀ g ∈ groups,
      Hc (entropyOf (Real.logb 2) t) g (vunion (vdiff (vunions groups) (vnorm g)) W)
        = Hc (entropyOf (Real.logb 2) t) g W) :
    Comb.eval (Rat.castHom ℝ) (entropyOf (Real.logb 2) t) (dtcC groups [])
      ≤ entropyOf (Real.logb 2) t W := by
  rw [eval_dtcC, eval_residualC]
  exact (dtc_le_of_cond_indep (entropy_Submod t hnn) groups W hCI).trans_eq
    (Hc_entropyOf_nil t hmass W)

/-- Non-vacuity of `b_le_f`: three copies of a fair bit; the third renders the first two
conditionally independent. -/
example :
    (∀ r ∈ ([([0, 0, 0], 1 / 2), ([1, 1, 1], 1 / 2)] : Tab (List Nat) ℝ), 0 ≤ r.2)
    ∧ (([([0, 0, 0], 1 / 2), ([1, 1, 1], 1 / 2)] : Tab (List Nat) ℝ).map (·.2)).sum = 1
    ∧ ∀ g ∈ [[0], [1]],
      Hc (entropyOf (Real.logb 2) ([([0, 0, 0], 1 / 2), ([1, 1, 1], 1 / 2)] : Tab (List Nat) ℝ)) g
          (vunion (vdiff (vunions [[0], [1]]) (vnorm g)) [2])
        = Hc (entropyOf (Real.logb 2)
            ([([0, 0, 0], 1 / 2), ([1, 1, 1], 1 / 2)] : Tab (List Nat) ℝ)) g [2] := by
  -- `H(g | Z) = 0` when the values on `Z` determine those on `g ∪ Z` on the stored outcomes
  have hz : ∀ (t : Tab (List Nat) ℝ) (g Z : List Nat),
      (∀ k ∈ keys t, ∀ k' ∈ keys t, project (vunion g Z) k = project (vunion g Z) k'
        ↔ project (vnorm Z) k = project (vnorm Z) k') →
      Hc (entropyOf (Real.logb 2) t) g Z = 0 :=
    fun t g Z h => sub_eq_zero.mpr (entropy_of_equivalent_maps _ _ t h)
  refine ⟨?_, by norm_num, fun g hg => ?_⟩
  · intro r hr; simp at hr; rcases hr with rfl | rfl <;> norm_num
  · simp only [List.mem_cons, List.not_mem_nil, or_false] at hg
    rcases hg with rfl | rfl
    · rw [hz _ _ _ (by decide), hz _ _ _ (by decide)]
    · rw [hz _ _ _ (by decide), hz _ _ _ (by decide)]

end ChainLinks

end Dit.Props.C16
