/-
C12 (the inverse CDF as an equivalence; generators) — the scan is exactly the inverse CDF (`sample_iff`): the
preimage of an index is its half-open cumulative interval (so a uniform random number selects `j` with probability
`pmf[j]`); log distributions; draws with a generator.
Helper lemmas: Lemmas/Sampling.lean and Lemmas/SamplingMore.lean.
-/
import DitModel.Core.Generator
import DitModel.Props.C12
import DitModel.Lemmas.SamplingMore

namespace Dit.Props.C12More
open Dit Dit.Lemmas.Sampling

variable {α : Type} [Field α] [LinearOrder α] [IsStrictOrderedRing α]

/-- **Exact inverse CDF.** For a table of non-negative entries and `u ≥ 0`: the scan returns `j` IF AND ONLY IF `j`
is a stored position with `F(j-1) ≤ u < F(j)`. -/
theorem sample_iff (pmf : List α) (hnn : ∀ p ∈ pmf, 0 ≤ p) (u : α) (hu : 0 ≤ u) (j : Nat) :
    sampleIdx pmf u = some j ↔ j < pmf.length ∧ cum pmf j ≤ u ∧ u < cum pmf (j + 1) :=
  ⟨C12.sample_interval pmf u j hu, fun ⟨hj, hlo, hhi⟩ => sampleIdx_of_interval pmf hnn u j hj hlo hhi⟩

/-- **Preimage.** The set of random numbers `u ≥ 0` that select `j` is exactly the half-open interval
`[F(j-1), F(j))` — of length `pmf[j]`, empty for a stored zero. -/
theorem sample_preimage (pmf : List α) (hnn : ∀ p ∈ pmf, 0 ≤ p) (j : Nat) (hj : j < pmf.length) :
    {u : α | 0 ≤ u ∧ sampleIdx pmf u = some j} = Set.Ico (cum pmf j) (cum pmf (j + 1))
    ∧ cum pmf (j + 1) - cum pmf j = pmf[j] := by
  refine ⟨?_, ?_⟩
  · ext u
    simp only [Set.mem_ofPred_eq, Set.mem_Ico]
    constructor
    · rintro ⟨hu, h⟩
      exact ((sample_iff pmf hnn u hu j).mp h).2
    · rintro ⟨hlo, hhi⟩
      have hu : 0 ≤ u := le_trans (cum_nonneg pmf hnn j) hlo
      exact ⟨hu, (sample_iff pmf hnn u hu j).mpr ⟨hj, hlo, hhi⟩⟩
  · rw [cum_succ pmf j hj, add_sub_cancel_left]

/-- **Off the end.** For non-negative entries the scan returns nothing exactly when `u` is at or above the total. -/
theorem sample_none_iff (pmf : List α) (hnn : ∀ p ∈ pmf, 0 ≤ p) (u : α) (hu : 0 ≤ u) :
    sampleIdx pmf u = none ↔ pmf.sum ≤ u := by
  constructor
  · intro h
    by_contra hlt
    obtain ⟨j, hj⟩ := C12.sample_total pmf u hu (not_le.mp hlt)
    rw [h] at hj; cases hj
  · intro h
    cases hs : sampleIdx pmf u with
    | none => rfl
    | some j =>
      obtain ⟨hj, _, hhi⟩ := C12.sample_interval pmf u j hu hs
      have := cum_mono pmf hnn (j + 1) pmf.length hj
      rw [cum_length] at this
      exact absurd (lt_of_lt_of_le hhi this) (not_lt.mpr h)

/-- **Monotone.** A larger random number never selects an earlier outcome. -/
theorem sample_mono (pmf : List α) (hnn : ∀ p ∈ pmf, 0 ≤ p) (u u' : α) (hu : 0 ≤ u) (huu : u ≤ u') (j j' : Nat)
    (h : sampleIdx pmf u = some j) (h' : sampleIdx pmf u' = some j') : j ≤ j' := by
  obtain ⟨_, hlo, _⟩ := C12.sample_interval pmf u j hu h
  obtain ⟨_, _, hhi'⟩ := C12.sample_interval pmf u' j' (le_trans hu huu) h'
  by_contra hlt
  have hc := cum_mono pmf hnn (j' + 1) j (Nat.lt_of_not_le hlt)
  exact not_lt.mpr huu (lt_of_lt_of_le hhi' (hc.trans hlo))

/-- **Stored zeros are invisible.** Removing the zero entries does not change WHICH positive entry is selected: the
index selected in the filtered table is the rank of the selected index among the positive entries. -/
theorem sample_skip_zeros (pmf : List α) (hnn : ∀ p ∈ pmf, 0 ≤ p) (u : α) (hu : 0 ≤ u) (j : Nat)
    (h : sampleIdx pmf u = some j) :
    sampleIdx (pmf.filter (fun p => decide (0 < p))) u
      = some (((pmf.take j).filter (fun p => decide (0 < p))).length) := by
  obtain ⟨hj, hlo, hhi⟩ := C12.sample_interval pmf u j hu h
  obtain ⟨_, hpos⟩ := C12.sample_pos pmf u j hu h
  have hnn' : ∀ p ∈ pmf.filter (fun p => decide (0 < p)), 0 ≤ p :=
    fun p hp => hnn p (List.mem_filter.mp hp).1
  rw [sample_iff _ hnn' u hu]
  have hs := rank_succ pmf j hj hpos
  refine ⟨?_, ?_, ?_⟩
  · have := rank_le pmf (j + 1)
    rwa [hs] at this
  · rw [cum_filter_rank pmf hnn j]; exact hlo
  · rw [← hs, cum_filter_rank pmf hnn (j + 1)]; exact hhi

/-- **Fallback is only a fallback.** Below the total the selection with fallback is the plain scan. -/
theorem sample_fallback_eq (pmf : List α) (u : α) (hu : 0 ≤ u) (h : u < pmf.sum) :
    sampleIdxF pmf u = sampleIdx pmf u := by
  obtain ⟨j, hj⟩ := C12.sample_total pmf u hu h
  unfold sampleIdxF
  rw [hj]

/-- **Log distributions.** With stored logarithms and ANY exponential `exp` (for dit's: `exp x = 0` exactly for the
stored null value), the selected entry is never one whose exponential is zero: a null entry is never returned. -/
theorem sample_log_pos (exp : α → α) (logpmf : List α) (u : α) (hu : 0 ≤ u) (j : Nat)
    (h : sampleIdxLog exp logpmf u = some j) :
    ∃ hj : j < logpmf.length, exp logpmf[j] ≠ 0 := by
  obtain ⟨hj, hpos⟩ := C12.sample_pos (logpmf.map exp) u j hu h
  rw [List.getElem_map] at hpos
  exact ⟨_, ne_of_gt hpos⟩

set_option linter.unusedSectionVars false in
/-- A log distribution and its linear copy select the same outcome for the same random number. -/
theorem sample_log_linear (exp : α → α) (logpmf : List α) (u : α) :
    sampleIdxLog exp logpmf u = sampleIdx (logpmf.map exp) u := rfl

section generator
variable {S : Type}

set_option linter.unusedSectionVars false in
/-- `n` uniforms are drawn. -/
theorem drawN_length (next : S → α × S) (n : Nat) (s : S) : (drawN next n s).1.length = n := by
  induction n generalizing s with
  | zero => rfl
  | succ n ih => exact congrArg Nat.succ (ih _)

set_option linter.unusedSectionVars false in
/-- **Sequential composition.** Drawing `n` and then `m` from the state left behind is drawing `n + m` at once: the
generator is advanced by exactly the uniforms it handed out. -/
theorem drawN_add (next : S → α × S) (n m : Nat) (s : S) :
    drawN next (n + m) s
      = ((drawN next n s).1 ++ (drawN next m (drawN next n s).2).1, (drawN next m (drawN next n s).2).2) := by
  induction n generalizing s with
  | zero => simp [drawN]
  | succ n ih =>
    rw [Nat.succ_add]
    simp only [drawN]
    rw [ih]
    simp

/-- **Draws with a generator** are the scan applied to the generator's next uniforms, one sample per uniform. -/
theorem randN_spec (next : S → α × S) (pmf : List α) (n : Nat) (s : S) :
    (randN next pmf n s).1 = (drawN next n s).1.map (sampleIdx pmf) ∧ (randN next pmf n s).1.length = n
    ∧ (randN next pmf n s).2 = (drawN next n s).2 :=
  ⟨rfl, (List.length_map _).trans (drawN_length next n s), rfl⟩

/-- **Sequential draws**: `rand(n)` followed by `rand(m)` gives the samples of `rand(n + m)`. -/
theorem randN_add (next : S → α × S) (pmf : List α) (n m : Nat) (s : S) :
    (randN next pmf (n + m) s).1 = (randN next pmf n s).1 ++ (randN next pmf m (randN next pmf n s).2).1
    ∧ (randN next pmf (n + m) s).2 = (randN next pmf m (randN next pmf n s).2).2 := by
  simp [randN, sampleMany, drawN_add]

set_option linter.unusedSectionVars false in
/-- **A copy reproduces its source's future draws.** Two distributions with the same stored values and generators
in the same state draw the same samples and leave their generators in the same state — for every later draw too. -/
theorem copy_draws (next : S → α × S) (pmf pmf' : List α) (s s' : S) (hp : pmf = pmf') (hs : s = s')
    (n m : Nat) :
    randN next pmf n s = randN next pmf' n s'
    ∧ randN next pmf m (randN next pmf n s).2 = randN next pmf' m (randN next pmf' n s').2 := by
  subst hp; subst hs
  exact ⟨rfl, rfl⟩

end generator

/-- Non-vacuity / example: a linear congruential toy generator on `Nat` states, uniforms `s % 4 / 4`. -/
example : (randN (fun s : Nat => ((((s % 4 : Nat) : Rat) / 4), (5 * s + 3) % 16)) [(1 : Rat) / 2, 0, 1 / 2] 3 1).1
    = [some 0, some 0, some 2] := by
  decide +kernel

end Dit.Props.C12More
