/-
C10 — Queries and measures are pure and repeatable.

In the model a query is a function of the state, so these theorems are close to definitional:
the model *cannot* mutate. They state the frame condition the real code is tested against; the
force of the property for dit itself comes from the differential run of the harness over the
registry of public callables (snapshots before/after every call, repeated calls).
-/
import DitModel.Core.Query

namespace Dit.Props.C10
open Dit

variable {σ α β : Type} [DecidableEq σ] [Add α] [Zero α] [Mul α] [Inv α]

/-- **Frame.** A query leaves the argument distribution and the configuration unchanged. -/
theorem query_frame (cfg : NumCfg α) (w : World σ α) (q : Dist σ α → Config → β) :
    (w.call cfg (Call.query q : Call σ α β)).1 = w := rfl

/-- **Frame over interleavings.** Any sequence consisting of queries only leaves the state
unchanged. -/
theorem queries_frame (cfg : NumCfg α) (w : World σ α) (cs : List (Call σ α β))
    (h : ∀ c ∈ cs, c.isQuery = true) : (w.run cfg cs).1 = w := by
  induction cs generalizing w with
  | nil => rfl
  | cons c cs ih =>
    cases c with
    | mutate op => exact absurd (h _ List.mem_cons_self) Bool.false_ne_true
    | query q => exact ih w (fun c hc => h c (List.mem_cons_of_mem _ hc))

/-- **Repeatability.** The value of a query after any interleaving of other queries equals its
value before. -/
theorem query_repeat (cfg : NumCfg α) (w : World σ α) (cs : List (Call σ α β))
    (h : ∀ c ∈ cs, c.isQuery = true) (q : Dist σ α → Config → β) :
    (((w.run cfg cs).1).call cfg (Call.query q : Call σ α β)).2 =
      (w.call cfg (Call.query q : Call σ α β)).2 := by
  rw [queries_frame cfg w cs h]

/-- **Configuration is never written**, not even by mutations of the distribution. -/
theorem config_const (cfg : NumCfg α) (w : World σ α) (cs : List (Call σ α β)) :
    (w.run cfg cs).1.config = w.config := by
  induction cs generalizing w with
  | nil => rfl
  | cons c cs ih =>
    simp only [World.run]
    rw [ih]
    cases c <;> rfl

/-- **Results of a query depend only on the state**: two worlds with equal distribution and
configuration answer every query alike. -/
theorem query_extensional (cfg : NumCfg α) (w w' : World σ α) (q : Dist σ α → Config → β)
    (hd : w.dist = w'.dist) (hc : w.config = w'.config) :
    (w.call cfg (Call.query q : Call σ α β)).2 = (w'.call cfg (Call.query q : Call σ α β)).2 := by
  show Res.val (q w.dist w.config) = Res.val (q w'.dist w'.config)
  rw [hd, hc]

/-- Non-vacuity: a query interleaved between two other queries on a concrete world. -/
example : ∃ cs : List (Call Nat Rat Nat), cs.length = 2 ∧ ∀ c ∈ cs, c.isQuery = true :=
  ⟨[Call.query (fun d _ => d.tab.length), Call.query (fun _ c => c.length)], rfl, by
    intro c hc; simp at hc; rcases hc with rfl | rfl <;> rfl⟩

end Dit.Props.C10
