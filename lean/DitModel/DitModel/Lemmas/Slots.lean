/-
Helper lemmas for C20 (weak compositions `slots`, the simplex grid).
Property theorems are in Props/C20.lean.
-/
import DitModel.Core.Simplex
import DitModel.Lemmas.ListBasics
import DitModel.Lemmas.ListSums
import Mathlib.Data.Nat.Choose.Sum
import Mathlib.Algebra.BigOperators.Group.List.Basic

namespace Dit.Lemmas.Slots
open Dit Dit.Lemmas.ListBasics

theorem slots_zero_zero : slots 0 0 = [[]] := by rw [slots]

theorem slots_succ_zero (n : Nat) : slots (n + 1) 0 = [] := by rw [slots]

theorem slots_succ (n k : Nat) :
    slots n (k + 1) =
      (List.range (n + 1)).flatMap (fun i => (slots (n - i) k).map (i :: ·)) := by
  rw [slots]

theorem mem_slots_succ (n k : Nat) (c : List Nat) :
    c ∈ slots n (k + 1) ↔ ∃ i, i ≤ n ∧ ∃ c', c' ∈ slots (n - i) k ∧ i :: c' = c := by
  rw [slots_succ]
  simp only [List.mem_flatMap, List.mem_range, List.mem_map, Nat.lt_succ_iff]

theorem mem_slots_iff (n k : Nat) (c : List Nat) :
    c ∈ slots n k ↔ c.length = k ∧ c.sum = n := by
  induction k generalizing n c with
  | zero =>
    rw [List.length_eq_zero_iff]
    cases n with
    | zero =>
      rw [slots_zero_zero, List.mem_singleton]
      exact ⟨fun h => ⟨h, h ▸ rfl⟩, And.left⟩
    | succ n =>
      rw [slots_succ_zero]
      exact ⟨fun h => (List.not_mem_nil h).elim, fun ⟨h, hs⟩ => by subst h; cases hs⟩
  | succ k ih =>
    rw [mem_slots_succ]
    constructor
    · rintro ⟨i, hi, c', hc', rfl⟩
      obtain ⟨h1, h2⟩ := (ih _ _).mp hc'
      exact ⟨congrArg Nat.succ h1, by rw [List.sum_cons, h2, Nat.add_sub_cancel' hi]⟩
    · rintro ⟨h1, h2⟩
      cases c with
      | nil => cases h1
      | cons i c' =>
        rw [List.sum_cons] at h2
        exact ⟨i, by omega, c', (ih _ _).mpr ⟨Nat.succ.inj h1, by omega⟩, rfl⟩

theorem slots_pairwise (n k : Nat) : (slots n k).Pairwise (fun a b => lexLt a b = true) := by
  induction k generalizing n with
  | zero =>
    cases n with
    | zero => rw [slots_zero_zero]; exact List.pairwise_singleton _ _
    | succ n => rw [slots_succ_zero]; exact List.Pairwise.nil
  | succ k ih =>
    rw [slots_succ, List.pairwise_flatMap]
    constructor
    · intro i _
      rw [List.pairwise_map]
      refine (ih (n - i)).imp ?_
      intro a b hab
      exact (lexLt_iff _ _).mpr (List.cons_lt_cons_iff.mpr (Or.inr ⟨rfl, (lexLt_iff a b).mp hab⟩))
    · refine List.pairwise_lt_range.imp ?_
      intro i j hij x hx y hy
      obtain ⟨x', _, rfl⟩ := List.mem_map.mp hx
      obtain ⟨y', _, rfl⟩ := List.mem_map.mp hy
      exact (lexLt_iff _ _).mpr (List.cons_lt_cons_iff.mpr (Or.inl hij))

theorem slots_nodup (n k : Nat) : (slots n k).Nodup := by
  refine (slots_pairwise n k).imp ?_
  intro a b hab e
  subst e
  exact List.lt_irrefl a ((lexLt_iff a a).mp hab)

theorem sum_range_flip (g : Nat → Nat) (n : Nat) :
    ((List.range (n + 1)).map (fun i => g (n - i))).sum = ∑ j ∈ Finset.range (n + 1), g j :=
  (ListBasics.sum_range_map _ _).trans (Finset.sum_range_reflect g (n + 1))

theorem slots_length_zero (n : Nat) : (slots n 0).length = if n = 0 then 1 else 0 := by
  cases n with
  | zero => rw [slots_zero_zero]; rfl
  | succ n => rw [slots_succ_zero]; rfl

theorem slots_length_rec (n k : Nat) :
    (slots n (k + 1)).length = ∑ j ∈ Finset.range (n + 1), (slots j k).length := by
  rw [slots_succ, List.length_flatMap]
  simp only [List.length_map]
  exact sum_range_flip (fun j => (slots j k).length) n

/-- Stars and bars: `C(n + k, k)` weak compositions of `n` into `k + 1` parts. -/
theorem slots_length_succ (n k : Nat) : (slots n (k + 1)).length = Nat.choose (n + k) k := by
  induction k generalizing n with
  | zero =>
    rw [slots_length_rec]
    simp only [slots_length_zero]
    simp
  | succ k ih =>
    rw [slots_length_rec]
    simp only [ih]
    exact Nat.sum_range_add_choose n k

end Dit.Lemmas.Slots
