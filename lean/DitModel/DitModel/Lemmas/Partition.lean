/-
Helper lemmas for C18 (information partitions, complexity profile, entropy triangles).

The theorems hold for every number of variables and are proved by inclusion–exclusion: a recursion
for co-informations (`eval_coinfoC_cons`), the telescoping of the atoms below a set of variables
(`atoms_telescope`) and the same recursion for queries (`eval_queryC_cons`). Together they give
`eval_queryC_general`: the atoms a query covers sum to the co-information.

Canonical forms: two entropy combinations have the same canonical form if and only if they have
the same value for every set function `H` with `H ∅ = 0` that depends only on the normalised set
(`eval_eq_of_canon_eq` is soundness, `canon_eq_of_eval_eq` completeness). With
`eval_queryC_general`, completeness gives `canon_queryC`, and so every entry of the Boolean table
`queryAllOn` of all queries with `k + 1` groups over `n` variables is true (`queryAllOn_range`);
`query_lift` reads one entry of the table back as an identity of values.
Property theorems are in Props/C18.lean.
-/
import DitModel.Core.Partition
import DitModel.Lemmas.InfoAlg
import DitModel.Lemmas.Table
import Mathlib.Data.List.Sublists

namespace Dit.Lemmas.Partition
open Dit Dit.Lemmas.ListBasics Dit.Lemmas.InfoAlg

/-! ### `sublists`, subsets of `range n` -/

section Sublists
variable {β : Type}

theorem sublists_eq (l : List β) : sublists l = l.sublists' := by
  induction l with
  | nil => rfl
  | cons x t ih => simp only [sublists, List.sublists'_cons, ih]

theorem mem_sublists {s l : List β} : s ∈ sublists l ↔ s.Sublist l := by
  rw [sublists_eq]; exact List.mem_sublists'

theorem sublists_map (f : β → β) (l : List β) :
    sublists (l.map f) = (sublists l).map (List.map f) := by
  induction l with
  | nil => rfl
  | cons x t ih =>
    simp only [List.map_cons, sublists, ih, List.map_append, List.map_map]
    rfl

theorem sublist_range_of_sorted {l : List Nat} {n : Nat} (hs : l.Pairwise (· < ·))
    (hb : ∀ x ∈ l, x < n) : l.Sublist (List.range n) := by
  have h : l = (List.range n).filter (fun x => decide (x ∈ l)) := by
    refine hs.eq_of_mem_iff (List.pairwise_lt_range.filter _) ?_
    intro x
    simp only [List.mem_filter, List.mem_range, decide_eq_true_eq]
    exact ⟨fun hx => ⟨hb x hx, hx⟩, fun hx => hx.2⟩
  rw [h]
  exact List.filter_sublist

theorem vnorm_mem_sublists_range {g : List Nat} {n : Nat} (hb : ∀ x ∈ g, x < n) :
    vnorm g ∈ sublists (List.range n) :=
  mem_sublists.mpr (sublist_range_of_sorted (vnorm_sorted g)
    (fun x hx => hb x ((mem_vnorm g x).mp hx)))

/-- Lists of length exactly `k` over `l`. -/
def listsOfLen (l : List β) : Nat → List (List β)
  | 0 => [[]]
  | k + 1 => l.flatMap (fun x => (listsOfLen l k).map (x :: ·))

theorem mem_listsOfLen {l : List β} (gs : List β) (h : ∀ x ∈ gs, x ∈ l) :
    gs ∈ listsOfLen l gs.length := by
  induction gs with
  | nil => simp [listsOfLen]
  | cons x t ih =>
    simp only [List.length_cons, listsOfLen, List.mem_flatMap, List.mem_map]
    exact ⟨x, h x List.mem_cons_self, t, ih (fun y hy => h y (List.mem_cons_of_mem _ hy)), rfl⟩

/-- The non-empty sublists, in the order of `sublists`. -/
def nes : List β → List (List β)
  | [] => []
  | x :: t => nes t ++ ([x] :: (nes t).map (x :: ·))

theorem sublists_eq_nes (L : List β) : sublists L = [] :: nes L := by
  induction L with
  | nil => rfl
  | cons x t ih => simp [sublists, nes, ih]

theorem nil_not_mem_nes (L : List β) : [] ∉ nes L := by
  induction L with
  | nil => simp [nes]
  | cons x t ih => simp [nes, ih]

theorem mem_nes {L S : List β} : S ∈ nes L ↔ S.Sublist L ∧ S ≠ [] := by
  rw [← mem_sublists, sublists_eq_nes, List.mem_cons]
  constructor
  · exact fun h => ⟨Or.inr h, fun e => nil_not_mem_nes L (e ▸ h)⟩
  · rintro ⟨h | h, hne⟩
    · exact absurd h hne
    · exact h

theorem filter_sublists_eq_nes (L : List β) :
    (sublists L).filter (fun s => !s.isEmpty) = nes L := by
  rw [sublists_eq_nes, List.filter_cons_of_neg (by simp), List.filter_eq_self]
  intro S hS
  simpa using (mem_nes.mp hS).2

theorem nodup_nes {L : List β} (h : L.Nodup) : (nes L).Nodup := by
  have := List.nodup_sublists'.mpr h
  rw [← sublists_eq, sublists_eq_nes] at this
  exact (List.nodup_cons.mp this).2

theorem nes_filter (p : β → Bool) (L : List β) :
    (nes L).filter (fun S => S.all p) = nes (L.filter p) := by
  induction L with
  | nil => rfl
  | cons x t ih =>
    rw [nes, List.filter_append, ih, List.filter_cons (x := [x]), List.filter_map,
      List.filter_cons (x := x)]
    cases hp : p x
    · simp [Function.comp_def, hp]
    · simp [Function.comp_def, hp, nes, ih]

end Sublists

/-! ### The atom sets -/

theorem atomSets_eq_nes (n : Nat) : atomSets n = nes (List.range n) := by
  unfold atomSets
  rw [filter_sublists_eq_nes, List.map_congr_left (g := id), List.map_id]
  intro S hS
  exact vnorm_of_sorted (List.pairwise_lt_range.sublist (mem_nes.mp hS).1)

theorem mem_atomSets {n : Nat} {S : VSet} :
    S ∈ atomSets n ↔ S.Sublist (List.range n) ∧ S ≠ [] := by
  rw [atomSets_eq_nes]; exact mem_nes

theorem nodup_atomSets (n : Nat) : (atomSets n).Nodup := by
  rw [atomSets_eq_nes]; exact nodup_nes List.nodup_range

theorem atomSets_filter_top (n : Nat) (hn : 0 < n) :
    (atomSets n).filter (fun S => decide (n ≤ S.length)) = [List.range n] := by
  have htop : List.range n ∈ atomSets n :=
    mem_atomSets.mpr ⟨List.Sublist.refl _, fun h => by simp [List.range_eq_nil] at h; omega⟩
  have hiff : ∀ S ∈ atomSets n, decide (n ≤ S.length) = (S == List.range n) := by
    intro S hS
    rw [Bool.eq_iff_iff, decide_eq_true_eq, beq_iff_eq]
    refine ⟨fun h => (mem_atomSets.mp hS).1.eq_of_length_le (by simpa using h), fun h => ?_⟩
    rw [h, List.length_range]
  rw [List.filter_congr hiff, List.filter_beq, List.count_eq_one_of_mem (nodup_atomSets n) htop]
  rfl

/-! ### Sums over filtered lists -/

section Sums
variable {R : Type} [CommRing R]

theorem sum_filter_split {β : Type} (l : List β) (f : β → R) (p m : β → Bool) :
    ((l.filter p).map f).sum = ((l.filter fun x => m x && p x).map f).sum
      + ((l.filter fun x => !m x && p x).map f).sum := by
  rw [← List.filter_filter, ← List.filter_filter (p := fun x => !m x), ← List.sum_append,
    ← List.map_append]
  exact ((List.filter_append_perm m (l.filter p)).map f).sum_eq.symm

theorem sum_filter_eq_sum_ite {β : Type} (l : List β) (f : β → R) (p : β → Bool) :
    ((l.filter p).map f).sum = (l.map (fun x => if p x then f x else 0)).sum := by
  induction l with
  | nil => rfl
  | cons a t ih =>
    by_cases h : p a = true
    · simp [h, ih]
    · simp [h, ih]

theorem sum_sum_filter {ι β : Type} (I : List ι) (l : List β) (f : β → R) (P : ι → β → Bool) :
    (I.map (fun i => ((l.filter (P i)).map f).sum)).sum
      = (l.map (fun x => (I.countP (fun i => P i x) : R) * f x)).sum := by
  induction I with
  | nil => simp
  | cons i I ih =>
    rw [List.map_cons, List.sum_cons, ih, sum_filter_eq_sum_ite, ← List.sum_map_add]
    congr 1
    apply List.map_congr_left
    intro x _
    rw [List.countP_cons]
    by_cases h : P i x = true
    · simp [h]; ring
    · simp [h]

theorem countP_succ_le_range (m n : Nat) :
    (List.range n).countP (fun k => decide (k + 1 ≤ m)) = min m n := by
  induction n with
  | zero => simp
  | succ n ih =>
    rw [List.range_succ, List.countP_append, ih, List.countP_singleton]
    by_cases h : n + 1 ≤ m
    · rw [if_pos (decide_eq_true h), Nat.min_eq_right (Nat.le_of_succ_le h), Nat.min_eq_right h]
    · have hm : m ≤ n := Nat.le_of_lt_succ (Nat.lt_of_not_le h)
      rw [if_neg (by rw [decide_eq_false h]; exact Bool.false_ne_true), Nat.add_zero,
        Nat.min_eq_left hm, Nat.min_eq_left (Nat.le_succ_of_le hm)]

theorem countP_mem_range {S : VSet} {n : Nat} (h : S.Sublist (List.range n)) :
    (List.range n).countP (fun i => S.contains i) = S.length := by
  rw [List.countP_eq_length_filter]
  congr 1
  symm
  refine (List.pairwise_lt_range.sublist h).eq_of_mem_iff (List.pairwise_lt_range.filter _) ?_
  intro x
  simp only [List.mem_filter, List.mem_range, List.contains_eq_mem, decide_eq_true_eq]
  exact ⟨fun hx => ⟨List.mem_range.mp (h.subset hx), hx⟩, fun hx => hx.2⟩

end Sums

/-! ### Inclusion–exclusion -/

section General
variable {R : Type} [CommRing R] (cast : ℚ →+* R) (H : VSet → R)

/-- The sign `(−1)^{k+1}` attached to a sub-family of `k` groups. -/
def sgn (R : Type) [CommRing R] (k : Nat) : R := if k % 2 = 1 then 1 else -1

theorem sgn_succ (k : Nat) : sgn R (k + 1) = - sgn R k := by
  unfold sgn
  rcases Nat.mod_two_eq_zero_or_one k with h | h
  · rw [Nat.succ_mod_two_eq_one_iff.mpr h, h, if_pos rfl, if_neg (by decide), neg_neg]
  · rw [Nat.succ_mod_two_eq_zero_iff.mpr h, h, if_neg (by decide), if_pos rfl]

/-- `Σ_{Xs ⊆ G} (−1)^{|Xs|+1}`: `−1` for no groups, `0` otherwise. -/
def sgnSum (R : Type) [CommRing R] (G : List VSet) : R :=
  ((sublists G).map (fun Xs => sgn R Xs.length)).sum

theorem sgnSum_nil : sgnSum R [] = -1 := by
  simp [sgnSum, sublists, sgn]

theorem sgnSum_cons (g : VSet) (G : List VSet) : sgnSum R (g :: G) = 0 := by
  unfold sgnSum
  simp only [sublists, List.map_append, List.sum_append, List.map_map]
  have : ∀ l : List (List VSet),
      (l.map ((fun Xs => sgn R Xs.length) ∘ fun x => g :: x)).sum
        = - (l.map (fun Xs => sgn R Xs.length)).sum := by
    intro l
    induction l with
    | nil => simp
    | cons a t ih =>
      simp only [List.map_cons, List.sum_cons, Function.comp_apply, List.length_cons, sgn_succ, ih]
      ring
  rw [this]; ring

theorem eval_coinfoC_sgn (G : List VSet) (Z : VSet) :
    Comb.eval cast H (coinfoC G Z)
      = ((sublists G).map (fun Xs => sgn R Xs.length * Hc H (vunions Xs) Z)).sum :=
  eval_coinfoC cast H G Z

theorem eval_coinfoC_congr (G : List VSet) {Z Z' : VSet} (h : ∀ v, v ∈ Z ↔ v ∈ Z') :
    Comb.eval cast H (coinfoC G Z) = Comb.eval cast H (coinfoC G Z') := by
  rw [eval_coinfoC_sgn, eval_coinfoC_sgn]
  refine congrArg List.sum (List.map_congr_left fun Xs _ => ?_)
  rw [Hc_congr H (X := vunions Xs) (X' := vunions Xs) h (fun x => by rw [h x])]

/-- **Recursion for the co-information**: splitting off the first group,
`I[g : G | Z] = I[G | Z] − I[G | g ∪ Z] − (Σ_{Xs ⊆ G} ±1) · H(g | Z)`; the last term is only
present for `G = []`. -/
theorem eval_coinfoC_cons (g : VSet) (G : List VSet) (Z : VSet) :
    Comb.eval cast H (coinfoC (g :: G) Z)
      = Comb.eval cast H (coinfoC G Z) - Comb.eval cast H (coinfoC G (g ++ Z))
        - sgnSum R G * Hc H g Z := by
  rw [eval_coinfoC_sgn, eval_coinfoC_sgn, eval_coinfoC_sgn]
  unfold sgnSum
  simp only [sublists, List.map_append, List.sum_append, List.map_map]
  have : ∀ l : List (List VSet),
      (l.map ((fun Xs => sgn R Xs.length * Hc H (vunions Xs) Z) ∘ fun x => g :: x)).sum
        = - (l.map (fun Xs => sgn R Xs.length * Hc H (vunions Xs) (g ++ Z))).sum
          - (l.map (fun Xs => sgn R Xs.length)).sum * Hc H g Z := by
    intro l
    induction l with
    | nil => simp
    | cons a t ih =>
      have e : Hc H (vunions (g :: a)) Z = Hc H g Z + Hc H (vunions a) (g ++ Z) := by
        rw [vunions_cons, Hc_chain]
        exact congrArg _ (Hc_vnorm_right H _ (g ++ Z))
      simp only [List.map_cons, List.sum_cons, Function.comp_apply, List.length_cons, sgn_succ,
        ih, e]
      ring
  rw [this]; ring

theorem eval_coinfoC_single (g Z : VSet) :
    Comb.eval cast H (coinfoC [g] Z) = Hc H g Z := by
  rw [eval_coinfoC_cons, coinfoC_nil, coinfoC_nil, eval_nil, sgnSum_nil]
  ring

/-- **Telescoping**: for distinct variables `L` and any `B`,
`Σ_{∅ ≠ S ⊆ L} I[S | (L ∖ S) ∪ B] = H(L | B)`, where `I[S | Z]` is the co-information of the
variables of `S` (as singleton groups) given `Z`. -/
theorem atoms_telescope (L : List Nat) (hnd : L.Nodup) (B : VSet) :
    ((nes L).map (fun S =>
      Comb.eval cast H (coinfoC (S.map (fun i => [i])) (vdiff L S ++ B)))).sum = Hc H L B := by
  induction L generalizing B with
  | nil => simp [nes, Hc_nil]
  | cons x L ih =>
    obtain ⟨hx, hnd⟩ := List.nodup_cons.mp hnd
    -- `x` may be moved from the front of the conditioning variables to the front of `B`
    have mid : ∀ G : List VSet, ∀ S : VSet,
        Comb.eval cast H (coinfoC G (x :: (vdiff L S ++ B)))
          = Comb.eval cast H (coinfoC G (vdiff L S ++ x :: B)) :=
      fun G S => eval_coinfoC_congr cast H G fun _ => List.perm_middle.symm.mem_iff
    -- the atoms without `x` sum to `H(L | x, B)`
    have T1 : ((nes L).map (fun S => Comb.eval cast H
          (coinfoC (S.map (fun i => [i])) (vdiff (x :: L) S ++ B)))).sum = Hc H L (x :: B) := by
      rw [← ih hnd (x :: B)]
      refine congrArg List.sum (List.map_congr_left fun S hS => ?_)
      rw [vdiff_cons_of_not_mem L fun h => hx ((mem_nes.mp hS).1.subset h)]
      exact mid _ S
    -- the atom `{x}` is `H(x | L, B)`
    have T2 : Comb.eval cast H (coinfoC ([x].map (fun i => [i])) (vdiff (x :: L) [x] ++ B))
        = Hc H [x] (L ++ B) := by
      rw [vdiff_cons_cons [] hx, vdiff_nil]
      exact eval_coinfoC_single cast H [x] (L ++ B)
    -- the atom `{x} ∪ S` is the atom `S` given `B` less the atom `S` given `x, B`
    have T3 : ((nes L).map ((fun S => Comb.eval cast H
          (coinfoC (S.map (fun i => [i])) (vdiff (x :: L) S ++ B))) ∘ fun S => x :: S)).sum
        = Hc H L B - Hc H L (x :: B) := by
      rw [← ih hnd B, ← ih hnd (x :: B), ← sum_map_sub]
      refine congrArg List.sum (List.map_congr_left fun S hS => ?_)
      obtain ⟨y, S, rfl⟩ := List.exists_cons_of_ne_nil (mem_nes.mp hS).2
      rw [Function.comp_apply, vdiff_cons_cons _ hx, List.map_cons, eval_coinfoC_cons,
        List.map_cons, sgnSum_cons, zero_mul, sub_zero, List.singleton_append, mid]
    rw [nes, List.map_append, List.sum_append, List.map_cons, List.sum_cons, List.map_map,
      T1, T2, T3, show Hc H (x :: L) B = Hc H L B + Hc H [x] (L ++ B) from Hc_append H [x] L B]
    ring

/-! #### The atoms covered by a query -/

theorem covers_iff (S : VSet) (groups : List VSet) (crvs : VSet) :
    covers S groups crvs = true
      ↔ (∀ g ∈ groups, ∃ v ∈ g, v ∈ S) ∧ ∀ c ∈ crvs, c ∉ S := by
  unfold covers
  simp only [List.contains_eq_mem, Bool.and_eq_true, List.all_eq_true, List.any_eq_true,
    decide_eq_true_eq, Bool.not_eq_eq_eq_not, Bool.not_true, decide_eq_false_iff_not]

theorem covers_cons (S g : VSet) (G : List VSet) (Z : VSet) :
    covers S (g :: G) Z = (g.any (fun v => S.contains v) && covers S G Z) := by
  unfold covers
  rw [List.all_cons, Bool.and_assoc]

theorem covers_append (S : VSet) (G : List VSet) (g Z : VSet) :
    covers S G (g ++ Z) = (!g.any (fun v => S.contains v) && covers S G Z) := by
  unfold covers
  rw [List.all_append, List.not_any_eq_all_not, Bool.and_left_comm]

theorem eval_queryC (n : Nat) (G : List VSet) (Z : VSet) :
    Comb.eval cast H (queryC n G Z)
      = (((atomSets n).filter (fun S => covers S G Z)).map
          (fun S => Comb.eval cast H (atomC n S))).sum := by
  unfold queryC
  rw [eval_sum, List.map_map]
  rfl

/-- **Recursion for queries**: of the atoms covered by `G` given `Z`, those that meet `g` are
covered by `g :: G`, the others by `G` given `g ∪ Z`. -/
theorem eval_queryC_cons (n : Nat) (g : VSet) (G : List VSet) (Z : VSet) :
    Comb.eval cast H (queryC n (g :: G) Z)
      = Comb.eval cast H (queryC n G Z) - Comb.eval cast H (queryC n G (g ++ Z)) := by
  rw [eval_queryC, eval_queryC, eval_queryC, eq_sub_iff_add_eq]
  simp only [covers_cons, covers_append]
  exact (sum_filter_split _ _ _ _).symm

theorem eval_queryC_nil (n : Nat) (Z : VSet) (hZ : ∀ c ∈ Z, c < n) :
    Comb.eval cast H (queryC n [] Z) = Hc H (List.range n) Z := by
  have hcov : ∀ S : VSet, covers S [] Z = S.all (fun v => !Z.contains v) := by
    intro S
    rw [Bool.eq_iff_iff, covers_iff]
    simp only [List.not_mem_nil, false_imp_iff, implies_true, true_and, List.all_eq_true,
      Bool.not_eq_true', List.contains_eq_mem, decide_eq_false_iff_not]
    exact ⟨fun h v hv hz => h v hz hv, fun h c hc hs => h c hs hc⟩
  -- the atoms avoiding `Z` are the non-empty subsets of `W = range n ∖ Z`
  rw [eval_queryC, atomSets_eq_nes, List.filter_congr fun S _ => hcov S, nes_filter,
    show (List.range n).filter (fun v => !Z.contains v) = vdiff (List.range n) Z from rfl,
    ← Hc_congr H (X := vdiff (List.range n) Z) (Z := Z) (fun _ => Iff.rfl)
      (fun v => by rw [mem_vdiff, and_or_right, and_iff_left (Classical.em _).symm]),
    ← atoms_telescope cast H (vdiff (List.range n) Z) (List.nodup_range.filter _) Z]
  refine congrArg List.sum (List.map_congr_left fun S hS => ?_)
  -- `range n ∖ S` and `(W ∖ S) ∪ Z` are the same set: `Z` lies inside `range n` and misses `S`
  refine eval_coinfoC_congr cast H _ fun v => ?_
  have hvS : v ∈ S → v ∉ Z := fun h => ((mem_vdiff _ _ _).mp ((mem_nes.mp hS).1.subset h)).2
  simp only [mem_vdiff, List.mem_append, List.mem_range]
  constructor
  · rintro ⟨h1, h2⟩
    by_cases hz : v ∈ Z
    · exact Or.inr hz
    · exact Or.inl ⟨⟨h1, hz⟩, h2⟩
  · rintro (⟨⟨h1, _⟩, h2⟩ | hz)
    · exact ⟨h1, h2⟩
    · exact ⟨hZ v hz, fun h => hvS h hz⟩

/-- The atoms a query covers sum to the co-information; the `sgnSum` term is only present for
`G = []`. -/
theorem eval_queryC_general (n : Nat) (G : List VSet) (Z : VSet)
    (hG : ∀ g ∈ G, ∀ v ∈ g, v < n) (hZ : ∀ c ∈ Z, c < n) :
    Comb.eval cast H (queryC n G Z)
      = Comb.eval cast H (coinfoC G Z) - sgnSum R G * Hc H (List.range n) Z := by
  induction G generalizing Z with
  | nil =>
    rw [eval_queryC_nil cast H n Z hZ, sgnSum_nil, coinfoC_nil, eval_nil]
    ring
  | cons g G ih =>
    obtain ⟨hg, hG⟩ := List.forall_mem_cons.mp hG
    have hgZ : ∀ c ∈ g ++ Z, c < n := fun c hc => (List.mem_append.mp hc).elim (hg c) (hZ c)
    -- `g` lies inside `range n`
    have e : Hc H (List.range n) Z = Hc H g Z + Hc H (List.range n) (g ++ Z) := by
      rw [← Hc_append]
      exact Hc_congr H (fun _ => Iff.rfl) fun v => by
        rw [List.mem_append, or_iff_left_of_imp fun h => List.mem_range.mpr (hg v h)]
    rw [eval_queryC_cons, ih Z hG hZ, ih (g ++ Z) hG hgZ, eval_coinfoC_cons, sgnSum_cons, e]
    ring

theorem eval_queryC_single (n : Nat) (g Z : VSet) (hg : ∀ v ∈ g, v < n) (hZ : ∀ c ∈ Z, c < n) :
    Comb.eval cast H (queryC n [g] Z) = Hc H g Z := by
  rw [eval_queryC_general cast H n [g] Z (List.forall_mem_singleton.mpr hg) hZ, sgnSum_cons,
    zero_mul, sub_zero, eval_coinfoC_single]

/-! #### Totals and the complexity profile -/

theorem atomsTotalC_eq_query (n : Nat) : atomsTotalC n = queryC n [] [] := by
  unfold atomsTotalC queryC
  have : ∀ S : VSet, covers S [] [] = true := fun _ => rfl
  simp only [this, List.filter_true]

theorem eval_atomsTotalC (n : Nat) :
    Comb.eval cast H (atomsTotalC n) = H (List.range n) - H [] := by
  rw [atomsTotalC_eq_query, eval_queryC_nil cast H n [] (by simp),
    Hc_sorted_nil H List.pairwise_lt_range]

theorem profileC_one (n : Nat) : profileC n 1 = atomsTotalC n := by
  unfold profileC atomsTotalC
  rw [List.filter_eq_self.mpr]
  intro S hS
  have := (mem_atomSets.mp hS).2
  cases S with
  | nil => exact absurd rfl this
  | cons a t => simp

theorem eval_profileC (n k : Nat) :
    Comb.eval cast H (profileC n k)
      = (((atomSets n).filter (fun S => decide (k ≤ S.length))).map
          (fun S => Comb.eval cast H (atomC n S))).sum := by
  unfold profileC
  rw [eval_sum, List.map_map]
  rfl

/-- The scales of the complexity profile sum to `Σ_i (H(i) − H(∅))`, for any number of variables:
an atom shared by `m` variables is counted at `m` scales, and lies in the entropy of `m`
variables. -/
theorem profile_sum_general (n : Nat) :
    ((List.range n).map (fun k => Comb.eval cast H (profileC n (k + 1)))).sum
      = ((List.range n).map (fun i => H [i] - H [])).sum := by
  have hR : ∀ i ∈ List.range n, H [i] - H []
      = (((atomSets n).filter (fun S => S.contains i)).map
          (fun S => Comb.eval cast H (atomC n S))).sum := by
    intro i hi
    rw [← Hc_sorted_nil H (List.pairwise_singleton _ i),
      ← eval_queryC_single cast H n [i] [] (by simpa using hi) (by simp), eval_queryC]
    refine congrArg (fun l => (l.map fun S => Comb.eval cast H (atomC n S)).sum)
      (List.filter_congr fun S _ => ?_)
    rw [covers_cons]
    simp [covers]
  rw [List.map_congr_left hR, List.map_congr_left (fun k _ => eval_profileC cast H n (k + 1)),
    sum_sum_filter, sum_sum_filter]
  refine congrArg List.sum (List.map_congr_left fun S hS => ?_)
  have hsub := (mem_atomSets.mp hS).1
  rw [countP_succ_le_range, countP_mem_range hsub, Nat.min_eq_left]
  simpa using hsub.length_le

end General

/-! ### Canonical forms -/

section Device
variable {R : Type} [CommRing R] (cast : ℚ →+* R) (H : VSet → R)

theorem eval_eq_of_canon_eq (h0 : H [] = 0) (hn : ∀ s, H s = H (vnorm s)) {c₁ c₂ : Comb}
    (h : c₁.canon = c₂.canon) : Comb.eval cast H c₁ = Comb.eval cast H c₂ := by
  rw [← canon_eval cast H h0 hn c₁, h, canon_eval cast H h0 hn c₂]

end Device

/-- **Canonical forms are complete**, the converse of `eval_eq_of_canon_eq`: two combinations with
the same value for every rational set function `H` with `H ∅ = 0` that depends only on the
normalised set have the same canonical form. The coefficient of a set `s` in the merged table is
the value at the indicator function of `s`. -/
theorem canon_eq_of_eval_eq {c₁ c₂ : Comb}
    (h : ∀ H : VSet → ℚ, H [] = 0 → (∀ s, H s = H (vnorm s)) →
      Comb.eval (RingHom.id ℚ) H c₁ = Comb.eval (RingHom.id ℚ) H c₂) :
    c₁.canon = c₂.canon := by
  let m (c : Comb) : Tab VSet Rat := pushforward (fun s => s) (c.map fun r => (vnorm r.2, r.1))
  have hnd (c : Comb) : (keys (m c)).Nodup := Table.keys_pushforward_nodup _ _
  have coef (c : Comb) (s : VSet) : lookupD 0 (m c) s
      = Comb.eval (RingHom.id ℚ) (fun t => if vnorm t = s then 1 else 0) c := by
    rw [Table.lookupD_pushforward, Table.wtBy, eval_eq_sum, List.map_map]
    refine congrArg List.sum (List.map_congr_left fun r _ => ?_)
    simp
  have hm (s : VSet) (hs : s ≠ []) : lookupD 0 (m c₁) s = lookupD 0 (m c₂) s := by
    rw [coef, coef]
    exact h _ (if_neg fun e => hs e.symm) fun t => by rw [vnorm_idem]
  unfold Comb.canon
  refine congrArg (List.map _)
    (Table.isort_lexLt_perm ((hnd c₁).sublist (List.filter_sublist.map _)) ?_)
  refine (List.perm_ext_iff_of_nodup ((List.Nodup.of_map _ (hnd c₁)).filter _)
    ((List.Nodup.of_map _ (hnd c₂)).filter _)).mpr fun ⟨s, q⟩ => ?_
  rw [List.mem_filter, List.mem_filter]
  refine and_congr_left fun hp => ?_
  have hp' : q ≠ 0 ∧ s ≠ [] := by simpa using hp
  rw [Table.mem_iff_lookupD_eq (hnd c₁) hp'.1, Table.mem_iff_lookupD_eq (hnd c₂) hp'.1, hm s hp'.2]

theorem canon_queryC (n : Nat) (g : VSet) (G : List VSet) (Z : VSet)
    (hG : ∀ g' ∈ g :: G, ∀ v ∈ g', v < n) (hZ : ∀ c ∈ Z, c < n) :
    (queryC n (g :: G) Z).canon = (coinfoC (g :: G) Z).canon :=
  canon_eq_of_eval_eq fun H _ _ => by
    rw [eval_queryC_general _ H n _ Z hG hZ, sgnSum_cons, zero_mul, sub_zero]

/-- `query = co-information` on canonical forms, for one query. -/
def queryOK (n : Nat) (groups : List VSet) (crvs : VSet) : Bool :=
  decide ((queryC n groups crvs).canon = (coinfoC groups crvs).canon)

/-- All queries over `n` variables with `k + 1` groups, the first of which is in `firsts`. -/
def queryAllOn (firsts : List VSet) (n k : Nat) : Bool :=
  firsts.all (fun g => (listsOfLen (sublists (List.range n)) k).all (fun gs =>
    (sublists (List.range n)).all (fun z => queryOK n (g :: gs) z)))

theorem mem_of_mem_listsOfLen {β : Type} {l : List β} {k : Nat} {gs : List β}
    (h : gs ∈ listsOfLen l k) : ∀ x ∈ gs, x ∈ l := by
  induction k generalizing gs with
  | zero => simp_all [listsOfLen]
  | succ k ih =>
    simp only [listsOfLen, List.mem_flatMap, List.mem_map] at h
    obtain ⟨x, hx, t, ht, rfl⟩ := h
    exact List.forall_mem_cons.mpr ⟨hx, ih ht⟩

theorem queryAllOn_range (n k : Nat) : queryAllOn (sublists (List.range n)) n k = true := by
  have hlt : ∀ s ∈ sublists (List.range n), ∀ v ∈ s, v < n := fun s hs v hv =>
    List.mem_range.mp ((mem_sublists.mp hs).subset hv)
  simp only [queryAllOn, queryOK, List.all_eq_true, decide_eq_true_eq]
  intro g hg gs hgs z hz
  exact canon_queryC n g gs z (List.forall_mem_cons.mpr
    ⟨hlt g hg, fun g' hg' => hlt g' (mem_of_mem_listsOfLen hgs g' hg')⟩) (hlt z hz)

/-- The instance of `queryAllOn_range` for up to 2 groups over `n ≤ 3` variables and 1 group over
`n = 4`; the restriction on `n` and `k` plays no part. -/
theorem query_checked (n k : Nat) (h : (n ≤ 3 ∧ k ≤ 1) ∨ (n = 4 ∧ k = 0)) :
    queryAllOn (sublists (List.range n)) n k = true := by
  have _ := h  -- not needed
  exact queryAllOn_range n k

/-! #### Queries depend only on the sets -/

theorem covers_norm (S : VSet) (groups : List VSet) (crvs : VSet) :
    covers S (groups.map vnorm) (vnorm crvs) = covers S groups crvs := by
  rw [Bool.eq_iff_iff, covers_iff, covers_iff]
  simp only [List.mem_map, forall_exists_index, and_imp, forall_apply_eq_imp_iff₂, mem_vnorm]

theorem queryC_norm (n : Nat) (groups : List VSet) (crvs : VSet) :
    queryC n (groups.map vnorm) (vnorm crvs) = queryC n groups crvs := by
  unfold queryC
  simp only [covers_norm]

theorem vunions_map_vnorm (Xs : List VSet) : vunions (Xs.map vnorm) = vunions Xs := by
  unfold vunions
  refine vnorm_congr ?_
  intro x
  simp only [List.mem_flatten, List.mem_map, exists_exists_and_eq_and, mem_vnorm]

theorem eval_coinfoC_norm {R : Type} [CommRing R] (cast : ℚ →+* R) (H : VSet → R)
    (groups : List VSet) (crvs : VSet) :
    Comb.eval cast H (coinfoC (groups.map vnorm) (vnorm crvs))
      = Comb.eval cast H (coinfoC groups crvs) := by
  rw [eval_coinfoC_congr cast H _ (mem_vnorm crvs), eval_coinfoC_sgn, eval_coinfoC_sgn,
    sublists_map, List.map_map]
  refine congrArg List.sum (List.map_congr_left fun Xs _ => ?_)
  rw [Function.comp_apply, List.length_map, vunions_map_vnorm]

section Lift
variable {R : Type} [CommRing R] (cast : ℚ →+* R) (H : VSet → R)
  (h0 : H [] = 0) (hn : ∀ s, H s = H (vnorm s))
include h0 hn
set_option linter.unusedSectionVars false

theorem eval_single (s : VSet) : Comb.eval cast H [((1 : Rat), s)] = H s := by
  rw [eval_cons, eval_nil, map_one, one_mul, add_zero]

theorem atoms_sum_le4 (n : Nat) (h4 : n ≤ 4) :
    Comb.eval cast H (atomsTotalC n) = H (List.range n) := by
  have _ := h4  -- not needed
  rw [eval_atomsTotalC, h0, sub_zero]

theorem profile_one_le4 (n : Nat) (h4 : n ≤ 4) :
    Comb.eval cast H (profileC n 1) = H (List.range n) := by
  have _ := h4  -- not needed
  rw [profileC_one, eval_atomsTotalC, h0, sub_zero]

theorem profile_sum_le4 (n : Nat) (h4 : n ≤ 4) :
    ((List.range n).map (fun k => Comb.eval cast H (profileC n (k + 1)))).sum
      = ((List.range n).map (fun i => H [i])).sum := by
  have _ := h4  -- not needed
  simp only [profile_sum_general, h0, sub_zero]

/-- From the Boolean table to values: where `queryAllOn` holds, a query with `k + 1` groups of
variables below `n` has the value of the co-information, for every `H` with `H ∅ = 0` that depends
only on the normalised set. -/
theorem query_lift (n k : Nat) (hall : queryAllOn (sublists (List.range n)) n k = true)
    (groups : List VSet) (crvs : VSet) (hlen : groups.length = k + 1)
    (hg : ∀ g ∈ groups, ∀ v ∈ g, v < n) (hc : ∀ c ∈ crvs, c < n) :
    Comb.eval cast H (queryC n groups crvs) = Comb.eval cast H (coinfoC groups crvs) := by
  rw [← queryC_norm, ← eval_coinfoC_norm]
  apply eval_eq_of_canon_eq cast H h0 hn
  match groups, hlen, hg with
  | g :: gs, hlen, hg =>
    have hk : gs.length = k := by simpa using hlen
    have h1 : vnorm g ∈ sublists (List.range n) :=
      vnorm_mem_sublists_range (hg g List.mem_cons_self)
    have h2 : gs.map vnorm ∈ listsOfLen (sublists (List.range n)) k := by
      have := mem_listsOfLen (l := sublists (List.range n)) (gs.map vnorm) (by
        intro x hx
        obtain ⟨g', hg', rfl⟩ := List.mem_map.mp hx
        exact vnorm_mem_sublists_range (hg g' (List.mem_cons_of_mem _ hg')))
      simpa [hk] using this
    have h3 : vnorm crvs ∈ sublists (List.range n) := vnorm_mem_sublists_range hc
    unfold queryAllOn at hall
    have := List.all_eq_true.mp (List.all_eq_true.mp (List.all_eq_true.mp hall _ h1) _ h2) _ h3
    simpa [queryOK] using this

end Lift

/-! ### Residual entropy and the entropy triangles -/

theorem eval_marginalsC {R : Type} [CommRing R] (cast : ℚ →+* R) (H : VSet → R) (n : Nat) :
    Comb.eval cast H (marginalsC n) = ((List.range n).map (fun i => H [i])).sum := by
  unfold marginalsC
  rw [eval_eq_sum, List.map_map]
  congr 1
  apply List.map_congr_left
  intro i _
  simp

/-- The singleton groups `{0},{1},…,{n-1}` (what dit uses when no grouping is given). -/
abbrev singles (n : Nat) : List VSet := (List.range n).map (fun i => [i])

theorem mem_vunions_singles (n x : Nat) : x ∈ vunions (singles n) ↔ x < n := by
  rw [mem_vunions]
  simp only [singles, List.mem_map, List.mem_range, exists_exists_and_eq_and, List.mem_singleton,
    exists_eq_right']

section TriAlg
variable {R : Type} [CommRing R] (cast : ℚ →+* R) (H : VSet → R)

theorem eval_cmiC_nil (X Y : VSet) :
    Comb.eval cast H (cmiC X Y []) = Hc H X [] - Hc H X Y := by
  rw [eval_cmiC]
  unfold Hc vunion
  simp only [List.append_nil, vnorm_idem]
  ring

/-- `H_P − R = Σᵢ I(Xᵢ : rest)`: the middle coordinate of the first entropy triangle. -/
theorem marg_sub_residual (h0 : H [] = 0) (n : Nat) :
    Comb.eval cast H (marginalsC n) - Comb.eval cast H (residualC (singles n) [])
      = ((List.range n).map (fun i =>
          Comb.eval cast H (cmiC [i] (vdiff (List.range n) [i]) []))).sum := by
  rw [eval_marginalsC cast H, eval_residualC, List.map_map, ← sum_map_sub]
  refine congrArg List.sum (List.map_congr_left fun i _ => ?_)
  have hrest : ∀ x, x ∈ vunion (vdiff (vunions (singles n)) (vnorm [i])) []
      ↔ x ∈ vdiff (List.range n) [i] := fun x => by
    simp only [mem_vunion, mem_vdiff, mem_vnorm, mem_vunions_singles, List.mem_range,
      List.not_mem_nil, or_false]
  rw [eval_cmiC_nil, Hc_sorted_nil H (List.pairwise_singleton _ i), h0, sub_zero,
    Function.comp_apply, Hc_congr H (X := [i]) (X' := [i]) hrest fun x => by rw [hrest x]]

end TriAlg

end Dit.Lemmas.Partition
