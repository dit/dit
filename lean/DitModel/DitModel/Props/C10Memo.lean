/-
C10, queries that keep a memo.  `get_ops(base)` WRITES hidden state (`dit.math.ops.cache`), so the
frame theorems of Props/C10 do not cover it.  What makes such a query repeatable is the cache invariant "every
entry stands for what would be built for its key": under it a memoised call returns exactly what the unmemoised
function returns, whatever calls came before, the invariant is preserved by every call, entries are never
overwritten or removed, and a repeated call changes nothing.
-/
import DitModel.Core.Memo

namespace Dit.Props.C10Memo
open Dit

variable {κ ν : Type} [DecidableEq κ]

/-- The cache invariant: every stored entry is what `build` gives for its key. -/
def MemoInv (build : κ → ν) (c : List (κ × ν)) : Prop := ∀ k v, memoGet c k = some v → v = build k

/-- The empty cache satisfies the invariant (`memo_inv` keeps it through calls). -/
theorem memo_inv_nil (build : κ → ν) : MemoInv build ([] : List (κ × ν)) := by
  intro k v h; simp [memoGet] at h

theorem memoGet_append (c : List (κ × ν)) (k k' : κ) (v : ν) :
    memoGet (c ++ [(k', v)]) k = match memoGet c k with
      | some w => some w
      | none => if k' = k then some v else none := by
  induction c with
  | nil => rfl
  | cons e c ih =>
    obtain ⟨k1, v1⟩ := e
    simp only [List.cons_append, memoGet]
    split
    · rfl
    · exact ih

/-- **Transparency.** Under the invariant a memoised call returns what the plain function returns. -/
theorem memo_value (build : κ → ν) (c : List (κ × ν)) (h : MemoInv build c) (k : κ) :
    (memoCall build c k).1 = build k := by
  unfold memoCall
  split
  · rename_i v hv; exact h k v hv
  · rfl

/-- **The invariant is preserved** by every call. -/
theorem memo_inv (build : κ → ν) (c : List (κ × ν)) (h : MemoInv build c) (k : κ) :
    MemoInv build (memoCall build c k).2 := by
  unfold memoCall
  split
  · exact h
  · rename_i hnone
    intro k2 v2 hv
    rw [memoGet_append] at hv
    split at hv
    · rename_i w hw; cases hv; exact h k2 _ hw
    · split at hv
      · rename_i hk; cases hv; rw [hk]
      · cases hv

/-- **Entries are never overwritten or removed**: whatever a key stood for before a call it stands for after it. -/
theorem memo_stable (build : κ → ν) (c : List (κ × ν)) (k k2 : κ) (v : ν) (h : memoGet c k2 = some v) :
    memoGet (memoCall build c k).2 k2 = some v := by
  unfold memoCall
  split
  · exact h
  · simp only [memoGet_append, h]

theorem memo_stored (build : κ → ν) (c : List (κ × ν)) (k : κ) :
    memoGet (memoCall build c k).2 k = some (memoCall build c k).1 := by
  unfold memoCall
  split
  · rename_i v hv; exact hv
  · rename_i hnone; simp [memoGet_append, hnone]

/-- **A repeated call changes nothing** and returns the same value (no invariant needed). -/
theorem memo_repeat (build : κ → ν) (c : List (κ × ν)) (k : κ) :
    memoCall build (memoCall build c k).2 k = ((memoCall build c k).1, (memoCall build c k).2) := by
  have h := memo_stored build c k
  generalize memoCall build c k = r at h
  unfold memoCall
  rw [h]

/-- **Any history.** Under the invariant, the values returned by any sequence of calls are those of the plain
function, call by call, and the invariant holds at the end. -/
theorem memo_history (build : κ → ν) (c : List (κ × ν)) (h : MemoInv build c) (ks : List κ) :
    (memoRun build c ks).1 = ks.map build ∧ MemoInv build (memoRun build c ks).2 := by
  induction ks generalizing c with
  | nil => exact ⟨rfl, h⟩
  | cons k ks ih =>
    have := ih (memoCall build c k).2 (memo_inv build c h k)
    refine ⟨?_, this.2⟩
    simp only [memoRun, List.map_cons, this.1, memo_value build c h k]

/-- **Repeatability after any other calls**: the value returned for `k` after any history of calls equals the value
returned at the start. -/
theorem memo_repeatable (build : κ → ν) (c : List (κ × ν)) (h : MemoInv build c) (ks : List κ) (k : κ) :
    (memoCall build (memoRun build c ks).2 k).1 = (memoCall build c k).1 := by
  rw [memo_value build _ (memo_history build c h ks).2, memo_value build c h]

/-- Even WITHOUT the invariant (a cache someone tampered with): once a key has been asked, every later call for
it returns the same value — the memo makes the call repeatable, the invariant makes it right. -/
theorem memo_sticky (build : κ → ν) (c : List (κ × ν)) (k : κ) (ks : List κ) :
    (memoCall build (memoRun build (memoCall build c k).2 ks).2 k).1 = (memoCall build c k).1 := by
  have hst : ∀ (c : List (κ × ν)) (ks : List κ) (v : ν), memoGet c k = some v →
      memoGet (memoRun build c ks).2 k = some v := by
    intro c ks
    induction ks generalizing c with
    | nil => intro v hv; exact hv
    | cons k2 ks ih => intro v hv; exact ih _ v (memo_stable build c k2 k v hv)
  have := hst _ ks _ (memo_stored build c k)
  unfold memoCall at this ⊢
  simp only [this]

/-- The keys of the cache only grow, in insertion order: a call appends at most its own key. -/
theorem memo_keys (build : κ → ν) (c : List (κ × ν)) (k : κ) :
    (memoCall build c k).2 = c ∨ ((memoCall build c k).2 = c ++ [(k, build k)] ∧ memoGet c k = none) := by
  unfold memoCall
  split
  · exact Or.inl rfl
  · rename_i hn; exact Or.inr ⟨rfl, hn⟩

/-- Non-vacuity: dit's initial cache, keys standing for themselves (`ops.get_base() == key`), and a history with a
new base asked twice. -/
example : MemoInv (fun k : Nat => k) [(0, 0), (2, 2)]
    ∧ memoRun (fun k : Nat => k) [(0, 0), (2, 2)] [3, 2, 3] = ([3, 2, 3], [(0, 0), (2, 2), (3, 3)])
    ∧ memoHits (fun k : Nat => k) [(0, 0), (2, 2)] [3, 2, 3] = [false, true, true] := by
  exact ⟨(memo_history _ [] (memo_inv_nil _) [0, 2]).2, by decide, by decide⟩

/-- The invariant is NECESSARY, and this is what an in-place re-basing of a shared, memoised operations object
produces (seeded changes C01_dm2, C07_dm1, C09_dm1): a memo in which key 2 stands for base 3 answers 3 for 2 - and by
`memo_sticky` keeps doing so. The harness's memo cases check exactly `MemoInv` on the real `dit.math.ops.cache`. -/
example : (memoCall (fun k : Nat => k) [(2, 3)] 2).1 = 3 ∧ ¬ MemoInv (fun k : Nat => k) [(2, 3)] := by
  refine ⟨by decide, ?_⟩
  intro h
  have h3 : (3 : Nat) = 2 := h 2 3 (by decide)
  omega

end Dit.Props.C10Memo
