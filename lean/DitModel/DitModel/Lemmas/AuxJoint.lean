/-
Helper lemmas for C15 (auxiliary-variable optimisers): channels built from parameter blocks are
row-stochastic; `auxStep` / `constructJoint` preserve mass and the marginal on the old
coordinates; fibre sums of `auxStep` over old coordinates and over sets containing the new
coordinate with all its parents, from which Props/C15.lean derives the factorisation and the
Markov property; entropies after a deterministic or copied coordinate.
-/
import DitModel.Core.AuxJoint
import DitModel.Lemmas.Table
import DitModel.Lemmas.Bounds
import DitModel.Lemmas.InfoReal
import DitModel.Lemmas.Transform
import Mathlib.Algebra.Order.Field.Basic
import Mathlib.Algebra.Order.BigOperators.Group.List

namespace Dit.Lemmas.AuxJoint
open Dit Dit.Lemmas.Table Dit.Lemmas.ListBasics
open Dit.Lemmas.InfoReal (fibreSum fibreSum_eq_wtBy fibreSum_pos project_eq_iff)

/-! ## Channels from parameter blocks -/

section Channel
variable {α : Type} [Field α] [DecidableEq α]

/-- The row of parameters read by `channelOf` for the parent values `parents`. -/
def paramRow (shape : List Nat) (bound : Nat) (params : List α) (parents : List Nat) : List α :=
  (List.range bound).map (fun j => params.getD (flatIndex shape parents * bound + j) 0)

omit [DecidableEq α] in
theorem length_paramRow (shape : List Nat) (bound : Nat) (params : List α) (parents : List Nat) :
    (paramRow shape bound params parents).length = bound := by
  simp [paramRow]

theorem channelOf_eq (ofNat : Nat → α) (shape : List Nat) (bound : Nat) (params : List α)
    (parents : List Nat) (k : Nat) :
    channelOf ofNat shape bound params parents k
      = if (paramRow shape bound params parents).sum = 0 then 1 / ofNat bound
        else (paramRow shape bound params parents).getD k 0
              / (paramRow shape bound params parents).sum := by
  unfold channelOf paramRow
  simp only [lsum_eq_sum, beq_iff_eq]

/-- **Rows sum to one** (general cast): both branches of `channelOf`. -/
theorem channel_row_sum (ofNat : Nat → α) (shape : List Nat) (bound : Nat) (params : List α)
    (parents : List Nat) (hof : ofNat bound = (bound : α)) (hb : (bound : α) ≠ 0) :
    ((List.range bound).map (fun k => channelOf ofNat shape bound params parents k)).sum = 1 := by
  simp only [channelOf_eq]
  by_cases h : (paramRow shape bound params parents).sum = 0
  · simp only [h, if_true, hof]
    rw [List.map_const', List.sum_replicate, List.length_range, nsmul_eq_mul, mul_one_div,
      div_self hb]
  · simp only [h, if_false, div_eq_mul_inv]
    rw [List.sum_map_mul_right, sum_range_getD (length_paramRow shape bound params parents),
      mul_inv_cancel₀ h]

end Channel

section ChannelOrd
variable {α : Type} [Field α] [LinearOrder α] [IsStrictOrderedRing α]

omit [IsStrictOrderedRing α] in
theorem paramRow_nonneg (shape : List Nat) (bound : Nat) (params : List α) (parents : List Nat)
    (hp : ∀ p ∈ params, 0 ≤ p) : ∀ v ∈ paramRow shape bound params parents, 0 ≤ v := by
  intro v hv
  obtain ⟨j, _, rfl⟩ := List.mem_map.mp hv
  exact getD_of_forall le_rfl hp _

theorem channel_nonneg' (ofNat : Nat → α) (shape : List Nat) (bound : Nat) (params : List α)
    (parents : List Nat) (k : Nat) (hof : 0 ≤ ofNat bound) (hp : ∀ p ∈ params, 0 ≤ p) :
    0 ≤ channelOf ofNat shape bound params parents k := by
  rw [channelOf_eq]
  have hrow := paramRow_nonneg shape bound params parents hp
  split
  · exact div_nonneg zero_le_one hof
  · exact div_nonneg (getD_of_forall le_rfl hrow k) (List.sum_nonneg hrow)

end ChannelOrd

/-! ## One conditioning step -/

section Step
variable {α : Type} [CommSemiring α]

theorem auxStep_nil (av : AuxVar) (chan : List Nat → Nat → α) : auxStep [] av chan = [] := rfl

theorem auxStep_cons (r : List Nat × α) (joint : Tab (List Nat) α) (av : AuxVar)
    (chan : List Nat → Nat → α) :
    auxStep (r :: joint) av chan
      = (List.range av.bound).map (fun k => (r.1 ++ [k], r.2 * chan (project av.bases r.1) k))
        ++ auxStep joint av chan := by
  simp [auxStep]

theorem sum_map_auxStep {M : Type} [AddCommMonoid M] (g : List Nat × α → M)
    (joint : Tab (List Nat) α) (av : AuxVar) (chan : List Nat → Nat → α) :
    ((auxStep joint av chan).map g).sum
      = (joint.map (fun r => ((List.range av.bound).map (fun k =>
          g (r.1 ++ [k], r.2 * chan (project av.bases r.1) k))).sum)).sum := by
  induction joint with
  | nil => rfl
  | cons r joint ih =>
    rw [auxStep_cons, List.map_append, List.sum_append, ih, List.map_cons, List.sum_cons,
      List.map_map]
    rfl

theorem mem_auxStep {joint : Tab (List Nat) α} {av : AuxVar} {chan : List Nat → Nat → α}
    {s : List Nat × α} :
    s ∈ auxStep joint av chan ↔ ∃ r ∈ joint, ∃ k < av.bound,
      s = (r.1 ++ [k], r.2 * chan (project av.bases r.1) k) := by
  simp only [auxStep, List.mem_flatMap, List.mem_map, List.mem_range]
  constructor
  · rintro ⟨r, hr, k, hk, rfl⟩; exact ⟨r, hr, k, hk, rfl⟩
  · rintro ⟨r, hr, k, hk, rfl⟩; exact ⟨r, hr, k, hk, rfl⟩

theorem wtBy_auxStep (q : List Nat → Prop) [DecidablePred q] (joint : Tab (List Nat) α)
    (av : AuxVar) (chan : List Nat → Nat → α) :
    wtBy q (auxStep joint av chan)
      = (joint.map (fun r => ((List.range av.bound).map (fun k =>
          if q (r.1 ++ [k]) then r.2 * chan (project av.bases r.1) k else 0)).sum)).sum := by
  unfold wtBy
  rw [sum_map_auxStep]

/-- **Old events keep their weight**: an event that does not look at the new coordinate has the
weight it had before, if every channel row used sums to one. -/
theorem wtBy_auxStep_old (q q' : List Nat → Prop) [DecidablePred q] [DecidablePred q']
    (joint : Tab (List Nat) α) (av : AuxVar) (chan : List Nat → Nat → α)
    (hrow : ∀ o ∈ keys joint, ((List.range av.bound).map (chan (project av.bases o))).sum = 1)
    (hq : ∀ o ∈ keys joint, ∀ k < av.bound, (q (o ++ [k]) ↔ q' o)) :
    wtBy q (auxStep joint av chan) = wtBy q' joint := by
  rw [wtBy_auxStep]
  unfold wtBy
  congr 1
  apply List.map_congr_left
  intro r hr
  have hk := mem_keys_of_mem hr
  rw [List.map_congr_left fun k hk' => if_congr (hq r.1 hk k (List.mem_range.mp hk')) rfl rfl]
  by_cases h : q' r.1
  · simp only [h, if_true]
    rw [List.sum_map_mul_left, hrow r.1 hk, mul_one]
  · simp [h]

theorem sum_range_ite_eq (n k : Nat) (F : Nat → α) :
    ((List.range n).map (fun k' => if k' = k then F k' else 0)).sum
      = if k < n then F k else 0 := by
  induction n with
  | zero => rfl
  | succ n ih =>
    rw [List.range_succ, List.map_append, List.sum_append, ih, List.map_singleton,
      List.sum_singleton]
    rcases Nat.lt_trichotomy k n with h | rfl | h
    · rw [if_pos h, if_neg h.ne', if_pos (Nat.lt_succ_of_lt h), add_zero]
    · rw [if_neg (Nat.lt_irrefl _), if_pos rfl, if_pos (Nat.lt_succ_self _), zero_add]
    · rw [if_neg (Nat.lt_asymm h), if_neg h.ne, if_neg (Nat.not_lt.mpr h), add_zero]

theorem wtBy_auxStep_new (q : List Nat → Prop) [DecidablePred q] (k : Nat)
    (joint : Tab (List Nat) α) (av : AuxVar) (chan : List Nat → Nat → α) :
    wtBy (fun o' => q o'.dropLast ∧ o'.getLast? = some k) (auxStep joint av chan)
      = (joint.map (fun r => if q r.1 then
          r.2 * (if k < av.bound then chan (project av.bases r.1) k else 0) else 0)).sum := by
  rw [wtBy_auxStep]
  congr 1
  apply List.map_congr_left
  intro r _
  simp only [List.dropLast_concat, List.getLast?_concat, Option.some.injEq]
  by_cases h : q r.1
  · simp only [h, true_and, if_true]
    rw [sum_range_ite_eq av.bound k (fun k' => r.2 * chan (project av.bases r.1) k'), mul_ite,
      mul_zero]
  · simp [h]

theorem wtBy_auxStep_new_parents (q : List Nat → Prop) [DecidablePred q] (b : List Nat) (k : Nat)
    (joint : Tab (List Nat) α) (av : AuxVar) (chan : List Nat → Nat → α)
    (hq : ∀ o ∈ keys joint, q o → project av.bases o = b) :
    wtBy (fun o' => q o'.dropLast ∧ o'.getLast? = some k) (auxStep joint av chan)
      = wtBy q joint * (if k < av.bound then chan b k else 0) := by
  rw [wtBy_auxStep_new]
  unfold wtBy
  rw [← List.sum_map_mul_right]
  congr 1
  apply List.map_congr_left
  intro r hr
  by_cases h : q r.1
  · rw [if_pos h, if_pos h, hq r.1 (mem_keys_of_mem hr) h]
  · rw [if_neg h, if_neg h, zero_mul]

end Step

/-! ## Keys and values of one step -/

section StepKeys
variable {α : Type} [CommSemiring α]

theorem keys_auxStep (joint : Tab (List Nat) α) (av : AuxVar) (chan : List Nat → Nat → α) :
    keys (auxStep joint av chan)
      = (keys joint).flatMap (fun o => (List.range av.bound).map (fun k => o ++ [k])) := by
  induction joint with
  | nil => rfl
  | cons r joint ih =>
    rw [auxStep_cons, keys_append, ih, keys_cons, List.flatMap_cons]
    congr 1
    simp [keys, Function.comp_def]

theorem mem_keys_auxStep {joint : Tab (List Nat) α} {av : AuxVar} {chan : List Nat → Nat → α}
    {o' : List Nat} :
    o' ∈ keys (auxStep joint av chan) ↔ ∃ o ∈ keys joint, ∃ k < av.bound, o' = o ++ [k] := by
  rw [keys_auxStep]
  simp only [List.mem_flatMap, List.mem_map, List.mem_range]
  constructor
  · rintro ⟨o, ho, k, hk, rfl⟩; exact ⟨o, ho, k, hk, rfl⟩
  · rintro ⟨o, ho, k, hk, rfl⟩; exact ⟨o, ho, k, hk, rfl⟩

theorem nodup_keys_auxStep (joint : Tab (List Nat) α) (av : AuxVar) (chan : List Nat → Nat → α)
    (hnd : (keys joint).Nodup) : (keys (auxStep joint av chan)).Nodup := by
  rw [keys_auxStep, List.nodup_flatMap]
  refine ⟨fun o _ => ?_, ?_⟩
  · refine (List.nodup_range).map ?_
    intro k k' e
    simpa using e
  · refine hnd.imp ?_
    intro o o' hne
    simp only [Function.onFun]
    rw [List.disjoint_left]
    intro x hx hx'
    obtain ⟨k, _, rfl⟩ := List.mem_map.mp hx
    obtain ⟨k', _, e⟩ := List.mem_map.mp hx'
    exact hne (List.append_inj_left' e rfl).symm

omit [CommSemiring α] in
theorem lookup?_map_of_injective {ι κ : Type} [DecidableEq κ] {f : ι → κ}
    (hf : Function.Injective f) (g : ι → α) {l : List ι} {i : ι} (hi : i ∈ l) :
    lookup? (l.map fun j => (f j, g j)) (f i) = some (g i) := by
  induction l with
  | nil => cases hi
  | cons j l ih =>
    rw [List.map_cons, lookup?_cons]
    by_cases e : f j = f i
    · rw [if_pos e, hf e]
    · rw [if_neg e]
      exact ih ((List.mem_cons.mp hi).resolve_left fun h => e (h ▸ rfl))

theorem le_length_keys_auxStep {joint : Tab (List Nat) α} {av : AuxVar}
    {chan : List Nat → Nat → α} {n : Nat} (hlen : ∀ o ∈ keys joint, n ≤ o.length) :
    ∀ o' ∈ keys (auxStep joint av chan), n ≤ o'.length := by
  intro o' ho'
  obtain ⟨o, ho, k, _, rfl⟩ := mem_keys_auxStep.mp ho'
  exact (hlen o ho).trans (List.length_append ▸ Nat.le_add_right _ _)

/-- All keys get one symbol longer. -/
theorem length_keys_auxStep {joint : Tab (List Nat) α} {av : AuxVar} {chan : List Nat → Nat → α}
    {n : Nat} (hlen : ∀ o ∈ keys joint, o.length = n) :
    ∀ o' ∈ keys (auxStep joint av chan), o'.length = n + 1 := by
  intro o' ho'
  obtain ⟨o, ho, k, _, rfl⟩ := mem_keys_auxStep.mp ho'
  simp [hlen o ho]

end StepKeys

/-! ## `constructJoint`: induction over the auxiliary variables -/

section Construct
variable {α : Type} [Field α] [DecidableEq α]

/-- The channel `constructJoint` builds for `av` when the alphabet sizes so far are `sizes` and
the remaining parameter vector is `x`. -/
def chanAt (ofNat : Nat → α) (sizes : List Nat) (av : AuxVar) (x : List α) :
    List Nat → Nat → α :=
  channelOf ofNat (av.bases.map (fun b => sizes.getD b 0)) av.bound (x.take (blockSize sizes av))

theorem constructJoint_nil (ofNat : Nat → α) (sizes : List Nat) (t : Tab (List Nat) α)
    (x : List α) : constructJoint ofNat sizes t [] x = t := rfl

theorem constructJoint_cons (ofNat : Nat → α) (sizes : List Nat) (t : Tab (List Nat) α)
    (av : AuxVar) (rest : List AuxVar) (x : List α) :
    constructJoint ofNat sizes t (av :: rest) x
      = constructJoint ofNat (sizes ++ [av.bound]) (auxStep t av (chanAt ofNat sizes av x)) rest
          (x.drop (blockSize sizes av)) := rfl

/-- The cast used for the uniform fallback row is the genuine one and does not vanish on the
alphabet sizes of the auxiliary variables. -/
def GoodCast (ofNat : Nat → α) (avs : List AuxVar) : Prop :=
  ∀ av ∈ avs, ofNat av.bound = (av.bound : α) ∧ (av.bound : α) ≠ 0

omit [DecidableEq α] in
theorem goodCast_natCast [CharZero α] (avs : List AuxVar) (h : ∀ av ∈ avs, 1 ≤ av.bound) :
    GoodCast (fun n : Nat => (n : α)) avs :=
  fun av hav => ⟨rfl, Nat.cast_ne_zero.mpr (Nat.pos_iff_ne_zero.mp (h av hav))⟩

theorem chanAt_row_sum (ofNat : Nat → α) (sizes : List Nat) (av : AuxVar) (x : List α)
    (hof : ofNat av.bound = (av.bound : α) ∧ (av.bound : α) ≠ 0) (parents : List Nat) :
    ((List.range av.bound).map (chanAt ofNat sizes av x parents)).sum = 1 :=
  channel_row_sum ofNat _ av.bound _ parents hof.1 hof.2

theorem chanAt_row_sum_natCast [CharZero α] (sizes : List Nat) (av : AuxVar) (x : List α)
    (hb : 1 ≤ av.bound) (parents : List Nat) :
    ((List.range av.bound).map (chanAt (fun n : Nat => (n : α)) sizes av x parents)).sum = 1 :=
  chanAt_row_sum _ sizes av x ⟨rfl, Nat.cast_ne_zero.mpr (Nat.pos_iff_ne_zero.mp hb)⟩ parents

theorem constructJoint_wtBy_take (ofNat : Nat → α) (n₀ : Nat) (p : List Nat → Prop)
    [DecidablePred p] (avs : List AuxVar) (sizes : List Nat) (t : Tab (List Nat) α) (x : List α)
    (hof : GoodCast ofNat avs) (hlen : ∀ o ∈ keys t, n₀ ≤ o.length) :
    wtBy (fun o => p (o.take n₀)) (constructJoint ofNat sizes t avs x)
      = wtBy (fun o => p (o.take n₀)) t := by
  induction avs generalizing sizes t x with
  | nil => rfl
  | cons av rest ih =>
    rw [constructJoint_cons, ih _ _ _ (fun a ha => hof a (List.mem_cons_of_mem _ ha))]
    · apply wtBy_auxStep_old
      · intro o _
        exact chanAt_row_sum ofNat sizes av x (hof av (by simp)) _
      · intro o ho k _
        rw [List.take_append_of_le_length (hlen o ho)]
    · exact le_length_keys_auxStep hlen

theorem constructJoint_mass (ofNat : Nat → α) (avs : List AuxVar) (sizes : List Nat)
    (t : Tab (List Nat) α) (x : List α) (hof : GoodCast ofNat avs) :
    mass (constructJoint ofNat sizes t avs x) = mass t := by
  rw [← wtBy_true, ← wtBy_true]
  exact constructJoint_wtBy_take ofNat 0 (fun _ => True) avs sizes t x hof (fun _ _ => Nat.zero_le _)

/-- Keys of the result: old key followed by one in-range symbol per auxiliary variable. -/
theorem mem_keys_constructJoint (ofNat : Nat → α) (avs : List AuxVar) (sizes : List Nat)
    (t : Tab (List Nat) α) (x : List α) (o' : List Nat) :
    o' ∈ keys (constructJoint ofNat sizes t avs x)
      ↔ ∃ o ∈ keys t, ∃ ks, List.Forall₂ (fun k (av : AuxVar) => k < av.bound) ks avs
          ∧ o' = o ++ ks := by
  induction avs generalizing sizes t x with
  | nil =>
    rw [constructJoint_nil]
    constructor
    · intro h; exact ⟨o', h, [], List.Forall₂.nil, by simp⟩
    · rintro ⟨o, ho, ks, hks, rfl⟩
      cases hks; simpa using ho
  | cons av rest ih =>
    rw [constructJoint_cons, ih]
    constructor
    · rintro ⟨o1, ho1, ks, hks, rfl⟩
      obtain ⟨o, ho, k, hk, rfl⟩ := mem_keys_auxStep.mp ho1
      exact ⟨o, ho, k :: ks, List.Forall₂.cons hk hks, by simp⟩
    · rintro ⟨o, ho, ks, hks, rfl⟩
      cases hks with
      | cons hk hks' =>
        rename_i k ks'
        exact ⟨o ++ [k], mem_keys_auxStep.mpr ⟨o, ho, k, hk, rfl⟩, ks', hks', by simp⟩

theorem nodup_keys_constructJoint (ofNat : Nat → α) (avs : List AuxVar) (sizes : List Nat)
    (t : Tab (List Nat) α) (x : List α) (hnd : (keys t).Nodup) :
    (keys (constructJoint ofNat sizes t avs x)).Nodup := by
  induction avs generalizing sizes t x with
  | nil => exact hnd
  | cons av rest ih =>
    rw [constructJoint_cons]
    exact ih _ _ _ (nodup_keys_auxStep t av _ hnd)

theorem length_keys_constructJoint (ofNat : Nat → α) (avs : List AuxVar) (sizes : List Nat)
    (t : Tab (List Nat) α) (x : List α) (n₀ : Nat) (hlen : ∀ o ∈ keys t, o.length = n₀) :
    ∀ o' ∈ keys (constructJoint ofNat sizes t avs x), o'.length = n₀ + avs.length := by
  intro o' ho'
  obtain ⟨o, ho, ks, hks, rfl⟩ := (mem_keys_constructJoint ofNat avs sizes t x o').mp ho'
  rw [List.length_append, hlen o ho, hks.length_eq]

/-- The product of channel entries along the auxiliary variables: the `i`-th factor is the
channel of variable `i` at the values of its parents in `o ++ ks[:i]` and at `ks[i]`. -/
def chanProd (ofNat : Nat → α) : List Nat → List AuxVar → List α → List Nat → List Nat → α
  | _, [], _, _, _ => 1
  | _, _ :: _, _, _, [] => 1
  | sizes, av :: rest, x, o, k :: ks =>
    chanAt ofNat sizes av x (project av.bases o) k
      * chanProd ofNat (sizes ++ [av.bound]) rest (x.drop (blockSize sizes av)) (o ++ [k]) ks

end Construct

/-! ## The marginal on the original variables -/

section Marginal
variable {α : Type} [Field α] [DecidableEq α]

/-- `wtBy` form of "the restriction to the original variables is the input". -/
theorem constructJoint_wtBy_old (ofNat : Nat → α) (n₀ : Nat) (p : List Nat → Prop)
    [DecidablePred p] (avs : List AuxVar) (sizes : List Nat) (t : Tab (List Nat) α) (x : List α)
    (hof : GoodCast ofNat avs) (hlen : ∀ o ∈ keys t, o.length = n₀) :
    wtBy (fun o => p (o.take n₀)) (constructJoint ofNat sizes t avs x) = wtBy p t := by
  rw [constructJoint_wtBy_take ofNat n₀ p avs sizes t x hof (fun o ho => (hlen o ho).ge)]
  apply wtBy_congr
  intro o ho
  rw [List.take_of_length_le (hlen o ho).le]

end Marginal

/-! ## Entropy: coordinates that are functions of others -/

section EntropyFun
variable {α : Type} [Ring α] [DecidableEq α] {σ : Type} [DecidableEq σ]
open Dit.Lemmas.Transform (entropyOf_def entropyOf_trim vals_pushforward_of_equiv
  entropyOf_of_fibre)
open Dit.Lemmas.InfoAlg (mem_vunion)

/-- **A coordinate that is a function of `S` on the support adds nothing to `H(S)`.** -/
theorem entropyOf_add_function (log : α → α) (t : Tab (List σ) α) (S : List Nat) (w : Nat)
    (h : ∀ r ∈ t, ∀ r' ∈ t, r.2 ≠ 0 → r'.2 ≠ 0 → project S r.1 = project S r'.1 →
      r.1[w]? = r'.1[w]?) :
    entropyOf log t (vunion S [w]) = entropyOf log t S := by
  rw [← entropyOf_trim log t (vunion S [w]), ← entropyOf_trim log t S, entropyOf_def,
    entropyOf_def]
  refine congrArg (entropyVals log) (vals_pushforward_of_equiv _ _ _ fun r hr r' hr' => ?_)
  obtain ⟨hr1, hr2⟩ := List.mem_filter.mp hr
  obtain ⟨hr1', hr2'⟩ := List.mem_filter.mp hr'
  have hw := h r hr1 r' hr1' (by simpa using hr2) (by simpa using hr2')
  simp only [project_eq_iff, mem_vunion, List.mem_singleton] at hw ⊢
  exact ⟨fun e i hi => e i (Or.inl hi), fun e i hi => hi.elim (e i) fun hi => hi ▸ hw e⟩

theorem entropy_add_deterministic (log : α → α) (t : Tab (List σ) α) (S : List Nat) (w : Nat)
    (c : Option σ) (h : ∀ r ∈ t, r.2 ≠ 0 → r.1[w]? = c) :
    entropyOf log t (vunion S [w]) = entropyOf log t S :=
  entropyOf_add_function log t S w
    (fun r hr r' hr' hne hne' _ => (h r hr hne).trans (h r' hr' hne').symm)

theorem entropy_add_copy (log : α → α) (t : Tab (List σ) α) (S : List Nat) (w z : Nat)
    (hz : z ∈ S) (h : ∀ r ∈ t, r.2 ≠ 0 → r.1[w]? = r.1[z]?) :
    entropyOf log t (vunion S [w]) = entropyOf log t S := by
  apply entropyOf_add_function
  intro r hr r' hr' hne hne' e
  rw [h r hr hne, h r' hr' hne']
  exact (project_eq_iff S r.1 r'.1).mp e z hz

end EntropyFun

/-! ## Entropy of the extended table on old coordinates -/

section EntropyOld
variable {σ : Type}

theorem project_append_of_lt (S : List Nat) (o e : List σ) (h : ∀ i ∈ S, i < o.length) :
    project S (o ++ e) = project S o := by
  unfold project
  apply List.filterMap_congr
  intro i hi
  exact List.getElem?_append_left (h i hi)

theorem project_singleton {o : List σ} {z : Nat} (hz : z < o.length) : project [z] o = [o[z]] := by
  rw [project_cons, List.getElem?_eq_getElem hz]
  rfl

variable {α : Type} [CommRing α] [DecidableEq α]

omit [DecidableEq α] in
theorem fibreSum_auxStep_old (joint : Tab (List Nat) α) (av : AuxVar) (chan : List Nat → Nat → α)
    (n : Nat) (S : List Nat)
    (hrow : ∀ o ∈ keys joint, ((List.range av.bound).map (chan (project av.bases o))).sum = 1)
    (hlen : ∀ o ∈ keys joint, o.length = n) (hS : ∀ i ∈ S, i < n) (x : List Nat) :
    fibreSum (project S) (auxStep joint av chan) x = fibreSum (project S) joint x := by
  rw [fibreSum_eq_wtBy, fibreSum_eq_wtBy]
  apply wtBy_auxStep_old _ _ joint av chan hrow
  intro o ho k _
  rw [project_append_of_lt S o [k] (fun i hi => by rw [hlen o ho]; exact hS i hi)]

theorem entropyOf_auxStep_old (log : α → α) (joint : Tab (List Nat) α) (av : AuxVar)
    (chan : List Nat → Nat → α) (n : Nat) (S : List Nat)
    (hrow : ∀ o ∈ keys joint, ((List.range av.bound).map (chan (project av.bases o))).sum = 1)
    (hlen : ∀ o ∈ keys joint, o.length = n) (hS : ∀ i ∈ S, i < n) :
    entropyOf log (auxStep joint av chan) S = entropyOf log joint S :=
  Transform.entropyOf_of_fibre log _ _ S (fibreSum_auxStep_old joint av chan n S hrow hlen hS)

end EntropyOld

/-! ## The constant and the copy channel -/

section SpecialChannels
variable {α : Type} [CommRing α] [DecidableEq α]

/-- The constant channel: the auxiliary variable is always `0`. -/
def constChan : List Nat → Nat → α := fun _ k => if k = 0 then 1 else 0

/-- The copy channel: the auxiliary variable repeats its single parent. -/
def copyChan : List Nat → Nat → α := fun b k => if b = [k] then 1 else 0

omit [DecidableEq α] in
theorem constChan_row_sum (bound : Nat) (hb : 1 ≤ bound) (b : List Nat) :
    ((List.range bound).map (constChan (α := α) b)).sum = 1 := by
  have := sum_range_ite_eq (α := α) bound 0 (fun _ => 1)
  unfold constChan
  rw [this, if_pos (by omega)]

omit [DecidableEq α] in
theorem copyChan_row_sum (bound j : Nat) (hj : j < bound) :
    ((List.range bound).map (copyChan (α := α) [j])).sum = 1 := by
  have e : copyChan (α := α) [j] = fun k => if k = j then 1 else 0 :=
    funext fun k => if_congr (List.singleton_inj.trans eq_comm) rfl rfl
  rw [e, sum_range_ite_eq bound j fun _ => 1, if_pos hj]

omit [DecidableEq α] in
theorem copyChan_row_of_fit (t : Tab (List Nat) α) (av : AuxVar) (n z : Nat)
    (hbases : av.bases = [z]) (hz : z < n)
    (hfit : ∀ o ∈ keys t, ∀ j, o[z]? = some j → j < av.bound)
    (hlen : ∀ o ∈ keys t, o.length = n) :
    ∀ o ∈ keys t, ((List.range av.bound).map (copyChan (α := α) (project av.bases o))).sum = 1 := by
  intro o ho
  have hzl : z < o.length := (hlen o ho).symm ▸ hz
  rw [hbases, project_singleton hzl]
  exact copyChan_row_sum _ _ (hfit o ho _ (List.getElem?_eq_getElem hzl))

omit [DecidableEq α] in
theorem auxStep_const_support (joint : Tab (List Nat) α) (av : AuxVar) (n : Nat)
    (hlen : ∀ o ∈ keys joint, o.length = n) :
    ∀ s ∈ auxStep joint av constChan, s.2 ≠ 0 → s.1[n]? = some 0 := by
  intro s hs hne
  obtain ⟨r, hr, k, _, rfl⟩ := mem_auxStep.mp hs
  have hk : k = 0 := of_not_not fun hk => right_ne_zero_of_mul hne (if_neg hk)
  subst hk
  rw [← hlen r.1 (mem_keys_of_mem hr)]
  exact List.getElem?_concat_length

omit [DecidableEq α] in
theorem auxStep_copy_support (joint : Tab (List Nat) α) (av : AuxVar) (n z : Nat)
    (hbases : av.bases = [z]) (hz : z < n) (hlen : ∀ o ∈ keys joint, o.length = n) :
    ∀ s ∈ auxStep joint av copyChan, s.2 ≠ 0 → s.1[n]? = s.1[z]? := by
  intro s hs hne
  obtain ⟨r, hr, k, _, rfl⟩ := mem_auxStep.mp hs
  have hl := hlen r.1 (mem_keys_of_mem hr)
  have hzl : z < r.1.length := hl.symm ▸ hz
  have hk : project av.bases r.1 = [k] :=
    of_not_not fun hk => right_ne_zero_of_mul hne (if_neg hk)
  rw [hbases, project_singleton hzl, List.singleton_inj] at hk
  show (r.1 ++ [k])[n]? = (r.1 ++ [k])[z]?
  rw [List.getElem?_append_left hzl, List.getElem?_eq_getElem hzl, hk, ← hl,
    List.getElem?_concat_length]

end SpecialChannels

/-! ## Entropies given the new variable at the constant and the copy channel -/

section ConstCopy
open Dit.Lemmas.InfoAlg

variable {σ : Type} [DecidableEq σ]

/-- At the constant channel, conditioning on the auxiliary variable is not conditioning:
`H_T(S ∪ {n}) = H_t(S)`. -/
theorem entropyOf_const (joint : Tab (List Nat) ℝ) (av : AuxVar) (n : Nat) (hb : 1 ≤ av.bound)
    (hlen : ∀ o ∈ keys joint, o.length = n) (S : List Nat) (hS : ∀ v ∈ S, v < n) :
    entropyOf (Real.logb 2) (auxStep joint av constChan) (vunion S [n])
      = entropyOf (Real.logb 2) joint (vunion S []) := by
  rw [entropy_add_deterministic _ _ S n (some 0) (auxStep_const_support joint av n hlen),
    entropyOf_auxStep_old _ joint av constChan n S
      (fun o _ => constChan_row_sum av.bound hb _) hlen hS]
  exact InfoReal.entropyOf_congr joint (by intro v; simp [mem_vunion])

/-- At the copy channel, conditioning on the auxiliary variable is conditioning on its parent:
`H_T(S ∪ {n}) = H_t(S ∪ {z})`. -/
theorem entropyOf_copy (joint : Tab (List Nat) ℝ) (av : AuxVar) (n z : Nat)
    (hbases : av.bases = [z]) (hz : z < n) (hfit : ∀ o ∈ keys joint, ∀ j, o[z]? = some j →
      j < av.bound)
    (hlen : ∀ o ∈ keys joint, o.length = n) (S : List Nat) (hS : ∀ v ∈ S, v < n) :
    entropyOf (Real.logb 2) (auxStep joint av copyChan) (vunion S [n])
      = entropyOf (Real.logb 2) joint (vunion S [z]) := by
  have hsup := auxStep_copy_support joint av n z hbases hz hlen
  -- add `z` (a copy of `n`), swap, remove `n` (a copy of `z`)
  rw [← entropy_add_copy (Real.logb 2) _ (vunion S [n]) z n
      ((mem_vunion _ _ _).mpr (Or.inr (List.mem_singleton_self n)))
      (fun s hs hne => (hsup s hs hne).symm),
    InfoReal.entropyOf_congr _ (X := vunion (vunion S [n]) [z]) (X' := vunion (vunion S [z]) [n])
      (fun v => by simp only [mem_vunion, or_right_comm]),
    entropy_add_copy (Real.logb 2) _ (vunion S [z]) n z
      ((mem_vunion _ _ _).mpr (Or.inr (List.mem_singleton_self z))) hsup,
    entropyOf_auxStep_old _ joint av copyChan n (vunion S [z])
      (copyChan_row_of_fit joint av n z hbases hz hfit hlen) hlen
      (InfoAlg.forall_mem_vunion hS (by simpa using hz))]

end ConstCopy

/-! ## The Markov chain `rest – parents – W` at the level of entropies -/

section CmiZero
open Dit.Lemmas.InfoAlg

theorem project_snoc_eq_iff (S S' : List Nat) (n : Nat) (o o' : List Nat) (k k' : Nat)
    (ho : o.length = n) (ho' : o'.length = n) (hS' : ∀ i ∈ S', i < n)
    (hS : ∀ i, i ∈ S ↔ i = n ∨ i ∈ S') :
    project S (o' ++ [k']) = project S (o ++ [k]) ↔ project S' o' = project S' o ∧ k' = k := by
  have e1 : (o' ++ [k'])[n]? = some k' := by rw [← ho']; exact List.getElem?_concat_length
  have e2 : (o ++ [k])[n]? = some k := by rw [← ho]; exact List.getElem?_concat_length
  have e3 : ∀ i ∈ S', (o' ++ [k'])[i]? = (o ++ [k])[i]? ↔ o'[i]? = o[i]? := fun i hi => by
    rw [List.getElem?_append_left (ho' ▸ hS' i hi), List.getElem?_append_left (ho ▸ hS' i hi)]
  rw [project_eq_iff, project_eq_iff, and_comm]
  simp only [hS, forall_eq_or_imp, e1, e2, Option.some.injEq]
  exact and_congr_right' (forall₂_congr e3)

/-- Fibre sums over a set containing the new coordinate and all the parents: old fibre sum times
the channel entry. -/
theorem fibreSum_auxStep_new {α : Type} [CommSemiring α] (joint : Tab (List Nat) α) (av : AuxVar)
    (chan : List Nat → Nat → α) (n : Nat) (S S' : List Nat)
    (hlen : ∀ o ∈ keys joint, o.length = n) (hS' : ∀ i ∈ S', i < n)
    (hS : ∀ i, i ∈ S ↔ i = n ∨ i ∈ S') (hb : ∀ i ∈ av.bases, i ∈ S')
    (o : List Nat) (ho : o.length = n) (k : Nat) (hk : k < av.bound) :
    fibreSum (project S) (auxStep joint av chan) (project S (o ++ [k]))
      = fibreSum (project S') joint (project S' o) * chan (project av.bases o) k := by
  have := wtBy_auxStep_new_parents (fun o' => project S' o' = project S' o) (project av.bases o) k
    joint av chan fun r _ h => (project_eq_iff _ _ _).mpr fun i hi =>
      (project_eq_iff _ _ _).mp h i (hb i hi)
  rw [if_pos hk] at this
  rw [fibreSum_eq_wtBy, fibreSum_eq_wtBy, ← this]
  apply wtBy_congr
  intro o' ho'
  obtain ⟨r, hr, k', _, rfl⟩ := mem_keys_auxStep.mp ho'
  rw [List.dropLast_concat, List.getLast?_concat, Option.some.injEq]
  exact project_snoc_eq_iff S S' n o r k k' ho (hlen r hr) hS' hS

theorem fibreSum_auxStep_old_snoc {α : Type} [CommRing α] [DecidableEq α]
    (joint : Tab (List Nat) α) (av : AuxVar) (chan : List Nat → Nat → α) (n : Nat) (S : List Nat)
    (hrow : ∀ o ∈ keys joint, ((List.range av.bound).map (chan (project av.bases o))).sum = 1)
    (hlen : ∀ o ∈ keys joint, o.length = n) (hS : ∀ i ∈ S, i < n)
    (o : List Nat) (ho : o.length = n) (k : Nat) :
    fibreSum (project S) (auxStep joint av chan) (project S (o ++ [k]))
      = fibreSum (project S) joint (project S o) := by
  rw [project_append_of_lt S o [k] (ho ▸ hS), fibreSum_auxStep_old joint av chan n S hrow hlen hS]

theorem four_sums_zero {β : Type} (l : List β) (a b c d : β → ℝ)
    (h : ∀ r ∈ l, a r + b r - c r - d r = 0) :
    -(l.map a).sum + -(l.map b).sum - -(l.map c).sum - -(l.map d).sum = 0 := by
  induction l with
  | nil => simp
  | cons x l ih =>
    simp only [List.map_cons, List.sum_cons]
    linear_combination ih (fun r hr => h r (List.mem_cons_of_mem _ hr)) - h x List.mem_cons_self

/-- **`I(W : R | parents) = 0`** in the table extended by one auxiliary variable `W`
(coordinate `n`), for any set `R` of old coordinates: explicit entropy form. Row by row, the
classes of `(o, k)` on `{n} ∪ parents` and on `{n} ∪ R ∪ parents` weigh `chan (parents o) k` times
the classes of `o` on `parents` and on `R ∪ parents`, so the four logarithms cancel. -/
theorem auxStep_cmi_zero_explicit (joint : Tab (List Nat) ℝ) (av : AuxVar)
    (chan : List Nat → Nat → ℝ) (n : Nat) (R : List Nat)
    (hrow : ∀ o ∈ keys joint, ((List.range av.bound).map (chan (project av.bases o))).sum = 1)
    (hlen : ∀ o ∈ keys joint, o.length = n) (hnn : ∀ r ∈ joint, 0 ≤ r.2)
    (hb : ∀ i ∈ av.bases, i < n) (hR : ∀ i ∈ R, i < n) :
    entropyOf (Real.logb 2) (auxStep joint av chan) (vunion [n] av.bases)
      + entropyOf (Real.logb 2) (auxStep joint av chan) (vunion R av.bases)
      - entropyOf (Real.logb 2) (auxStep joint av chan) (vunion (vunion [n] R) av.bases)
      - entropyOf (Real.logb 2) (auxStep joint av chan) (vnorm av.bases) = 0 := by
  simp only [InfoReal.entropyOf_rows]
  apply four_sums_zero
  intro s hs
  obtain ⟨r, hr, k, hk, rfl⟩ := mem_auxStep.mp hs
  have hrl := hlen r.1 (mem_keys_of_mem hr)
  have hZ : ∀ i ∈ vnorm av.bases, i < n := fun i hi => hb i ((mem_vnorm _ _).mp hi)
  have hRZ : ∀ i ∈ vunion R av.bases, i < n := InfoAlg.forall_mem_vunion hR hb
  dsimp only
  rw [fibreSum_auxStep_new joint av chan n (vunion [n] av.bases) (vnorm av.bases) hlen hZ
      (fun i => by rw [mem_vunion, mem_vnorm, List.mem_singleton])
      (fun i hi => (mem_vnorm _ _).mpr hi) r.1 hrl k hk,
    fibreSum_auxStep_new joint av chan n (vunion (vunion [n] R) av.bases) (vunion R av.bases) hlen
      hRZ (fun i => by rw [mem_vunion, mem_vunion, mem_vunion, List.mem_singleton, or_assoc])
      (fun i hi => (mem_vunion _ _ _).mpr (Or.inr hi)) r.1 hrl k hk,
    fibreSum_auxStep_old_snoc joint av chan n _ hrow hlen hRZ r.1 hrl k,
    fibreSum_auxStep_old_snoc joint av chan n _ hrow hlen hZ r.1 hrl k]
  by_cases h0 : r.2 * chan (project av.bases r.1) k = 0
  · rw [h0]
    ring
  · have hpos : 0 < r.2 := (hnn r hr).lt_of_ne' (left_ne_zero_of_mul h0)
    rw [Real.logb_mul (fibreSum_pos (project (vnorm av.bases)) joint hnn hr hpos).ne'
        (right_ne_zero_of_mul h0),
      Real.logb_mul (fibreSum_pos (project (vunion R av.bases)) joint hnn hr hpos).ne'
        (right_ne_zero_of_mul h0)]
    ring

end CmiZero

/-! ## Non-negativity of the constructed joint -/

section Nonneg
variable {α : Type} [Field α] [LinearOrder α] [IsStrictOrderedRing α]

theorem auxStep_nonneg (joint : Tab (List Nat) α) (av : AuxVar) (chan : List Nat → Nat → α)
    (hnn : ∀ r ∈ joint, 0 ≤ r.2)
    (hc : ∀ o ∈ keys joint, ∀ k < av.bound, 0 ≤ chan (project av.bases o) k) :
    ∀ s ∈ auxStep joint av chan, 0 ≤ s.2 := by
  intro s hs
  obtain ⟨r, hr, k, hk, rfl⟩ := mem_auxStep.mp hs
  exact mul_nonneg (hnn r hr) (hc r.1 (mem_keys_of_mem hr) k hk)

theorem constChan_nonneg (b : List Nat) (k : Nat) : (0 : α) ≤ constChan b k := by
  unfold constChan
  split
  exacts [zero_le_one, le_rfl]

theorem copyChan_nonneg (b : List Nat) (k : Nat) : (0 : α) ≤ copyChan b k := by
  unfold copyChan
  split
  exacts [zero_le_one, le_rfl]

theorem chanAt_nonneg (ofNat : Nat → α) (sizes : List Nat) (av : AuxVar) (x : List α)
    (hof : 0 ≤ ofNat av.bound) (hx : ∀ p ∈ x, 0 ≤ p) (parents : List Nat) (k : Nat) :
    0 ≤ chanAt ofNat sizes av x parents k :=
  channel_nonneg' ofNat _ av.bound _ parents k hof fun p hp => hx p (List.mem_of_mem_take hp)

theorem constructJoint_nonneg (ofNat : Nat → α) (avs : List AuxVar) (sizes : List Nat)
    (t : Tab (List Nat) α) (x : List α) (hof : ∀ av ∈ avs, 0 ≤ ofNat av.bound)
    (hx : ∀ p ∈ x, 0 ≤ p) (hnn : ∀ r ∈ t, 0 ≤ r.2) :
    ∀ s ∈ constructJoint ofNat sizes t avs x, 0 ≤ s.2 := by
  induction avs generalizing sizes t x with
  | nil => exact hnn
  | cons av rest ih =>
    rw [constructJoint_cons]
    apply ih _ _ _ (fun a ha => hof a (List.mem_cons_of_mem _ ha))
      (fun p hp => hx p (List.mem_of_mem_drop hp))
    exact auxStep_nonneg _ _ _ hnn fun o _ k _ =>
      chanAt_nonneg ofNat sizes av x (hof av List.mem_cons_self) hx _ k

end Nonneg

/-! ## Summing out the auxiliary coordinates returns the input table itself -/

section Exact
variable {κ : Type} [DecidableEq κ]

theorem filter_ne_idem (l : List κ) (x : κ) :
    ((l.filter (· ≠ x)).filter (· ≠ x)) = l.filter (· ≠ x) := by
  rw [List.filter_filter]
  apply List.filter_congr
  intro a _
  simp

theorem dedup_replicate_append (m : Nat) (x : κ) (rest : List κ) :
    dedup (List.replicate (m + 1) x ++ rest) = dedup (x :: rest) := by
  induction m with
  | zero => rfl
  | succ m ih =>
    have e : List.replicate (m + 1 + 1) x ++ rest = x :: (List.replicate (m + 1) x ++ rest) := rfl
    rw [e]
    show x :: (dedup (List.replicate (m + 1) x ++ rest)).filter (· ≠ x) = _
    rw [ih]
    show x :: (x :: (dedup rest).filter (· ≠ x)).filter (· ≠ x) = x :: (dedup rest).filter (· ≠ x)
    rw [List.filter_cons]
    simp only [ne_eq, not_true_eq_false, decide_false, Bool.false_eq_true, if_false]
    rw [filter_ne_idem]

theorem dedup_flatMap_replicate {ι : Type} (l : List ι) (b : Nat) (hb : 1 ≤ b) (g : ι → κ) :
    dedup (l.flatMap (fun o => List.replicate b (g o))) = dedup (l.map g) := by
  obtain ⟨m, rfl⟩ : ∃ m, b = m + 1 := ⟨b - 1, by omega⟩
  induction l with
  | nil => rfl
  | cons o l ih =>
    rw [List.flatMap_cons, dedup_replicate_append, List.map_cons]
    show g o :: (dedup _).filter (· ≠ g o) = g o :: (dedup _).filter (· ≠ g o)
    rw [ih]

variable {α : Type}

theorem map_take_keys_auxStep [CommSemiring α] (joint : Tab (List Nat) α) (av : AuxVar)
    (chan : List Nat → Nat → α) (n₀ : Nat) (hlen : ∀ o ∈ keys joint, n₀ ≤ o.length) :
    (keys (auxStep joint av chan)).map (List.take n₀)
      = (keys joint).flatMap (fun o => List.replicate av.bound (o.take n₀)) := by
  induction joint with
  | nil => rfl
  | cons r joint ih =>
    rw [auxStep_cons, keys_append, List.map_append,
      ih (fun o ho => hlen o (by rw [keys_cons]; exact List.mem_cons_of_mem _ ho)), keys_cons,
      List.flatMap_cons]
    congr 1
    have hr := hlen r.1 (by simp)
    simp only [keys, List.map_map]
    have e : List.replicate av.bound (List.take n₀ r.1)
        = (List.range av.bound).map (fun _ => List.take n₀ r.1) := by
      rw [List.map_const', List.length_range]
    rw [e]
    apply List.map_congr_left
    intro k _
    simp [List.take_append_of_le_length hr]

variable [Field α] [DecidableEq α]

theorem dedup_map_take_constructJoint (ofNat : Nat → α) (n₀ : Nat) (avs : List AuxVar)
    (sizes : List Nat) (t : Tab (List Nat) α) (x : List α) (hb : ∀ av ∈ avs, 1 ≤ av.bound)
    (hlen : ∀ o ∈ keys t, n₀ ≤ o.length) :
    dedup ((keys (constructJoint ofNat sizes t avs x)).map (List.take n₀))
      = dedup ((keys t).map (List.take n₀)) := by
  induction avs generalizing sizes t x with
  | nil => rfl
  | cons av rest ih =>
    rw [constructJoint_cons, ih _ _ _ (fun a ha => hb a (List.mem_cons_of_mem _ ha)),
      map_take_keys_auxStep t av _ n₀ hlen, dedup_flatMap_replicate _ _ (hb av (by simp))]
    exact le_length_keys_auxStep hlen

/-- **Summing out the auxiliary coordinates returns the input table**, row for row and in the
same order (keys of the input of equal length `n₀` and pairwise distinct; the alphabets of the
auxiliary variables are non-empty by `GoodCast`). -/
theorem dropLastVars_constructJoint (ofNat : Nat → α) (n₀ : Nat) (avs : List AuxVar)
    (sizes : List Nat) (t : Tab (List Nat) α) (x : List α) (hof : GoodCast ofNat avs)
    (hlen : ∀ o ∈ keys t, o.length = n₀) (hnd : (keys t).Nodup) :
    dropLastVars avs.length (constructJoint ofNat sizes t avs x) = t := by
  have hb : ∀ av ∈ avs, 1 ≤ av.bound := fun av hav =>
    Nat.pos_of_ne_zero fun h => (hof av hav).2 (by rw [h, Nat.cast_zero])
  have hT := length_keys_constructJoint ofNat avs sizes t x n₀ hlen
  unfold dropLastVars
  rw [Transform.pushforward_congr _ (List.take n₀) _ (fun r hr => by
      rw [hT r.1 (mem_keys_of_mem hr), Nat.add_sub_cancel]),
    InfoReal.pushforward_eq]
  have e1 : (constructJoint ofNat sizes t avs x).map (fun r => List.take n₀ r.1)
      = (keys (constructJoint ofNat sizes t avs x)).map (List.take n₀) := by
    simp [keys, List.map_map, Function.comp_def]
  have e2 : (keys t).map (List.take n₀) = keys t := by
    conv_rhs => rw [← List.map_id (keys t)]
    apply List.map_congr_left
    intro o ho
    simp [List.take_of_length_le (hlen o ho).le]
  rw [e1, dedup_map_take_constructJoint ofNat n₀ avs sizes t x hb (fun o ho => (hlen o ho).ge),
    e2, dedup_eq_self.mpr hnd]
  conv_rhs => rw [eq_graph rfl hnd 0]
  apply List.map_congr_left
  intro o _
  rw [fibreSum_eq_wtBy, lookupD_eq_wtBy hnd,
    ← constructJoint_wtBy_old ofNat n₀ (fun o' => o' = o) avs sizes t x hof hlen]

end Exact

/-! ## Example data for the non-vacuity examples of Props/C15.lean -/

/-- A 2×2 input distribution. -/
def exT : Tab (List Nat) Rat := [([0, 0], 1 / 4), ([0, 1], 1 / 4), ([1, 0], 1 / 8), ([1, 1], 3 / 8)]

end Dit.Lemmas.AuxJoint
