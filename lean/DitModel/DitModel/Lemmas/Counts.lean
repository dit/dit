/-
Helper lemmas for C19 (sliding-window word counts). Property theorems are in Props/C19.lean.
What `pushforward` computes (event weights `wtBy`, keys, mass) comes from Lemmas/Table.lean.
-/
import DitModel.Core.Counts
import DitModel.Lemmas.Table
import Mathlib.Algebra.BigOperators.Ring.List
import Mathlib.Algebra.BigOperators.Ring.Finset
import Mathlib.Algebra.Field.Basic
import Mathlib.Algebra.CharZero.Defs

namespace Dit.Lemmas.Counts
open Dit Dit.Lemmas.Table

section Accum
variable {κ κ' α : Type} [DecidableEq κ] [DecidableEq κ'] [AddCommMonoid α]

/-- The fold underlying `pushforward`, started from an arbitrary accumulator. -/
def pushFrom (f : κ → κ') (acc : Tab κ' α) (t : Tab κ α) : Tab κ' α :=
  t.foldl (fun acc r => accum acc (f r.1) r.2) acc

omit [DecidableEq κ] in
theorem pushforward_eq (f : κ → κ') (t : Tab κ α) : pushforward f t = pushFrom f [] t := rfl

set_option linter.unusedSectionVars false in
theorem pushFrom_nil (f : κ → κ') (acc : Tab κ' α) : pushFrom f acc ([] : Tab κ α) = acc := rfl

omit [DecidableEq κ] in
theorem pushFrom_cons (f : κ → κ') (acc : Tab κ' α) (r : κ × α) (t : Tab κ α) :
    pushFrom f acc (r :: t) = pushFrom f (accum acc (f r.1) r.2) t := rfl

end Accum

section Windows
variable {σ : Type}

theorem windows_nil (L : Nat) : windows L ([] : List σ) = [] := rfl

theorem windows_cons (L : Nat) (x : σ) (xs : List σ) :
    windows L (x :: xs) =
      if L ≤ xs.length + 1 then (x :: xs).take L :: windows L xs else [] := rfl

theorem windows_length (L : Nat) (data : List σ) (hL : 1 ≤ L) :
    (windows L data).length = data.length + 1 - L := by
  induction data with
  | nil => exact (Nat.sub_eq_zero_of_le hL).symm
  | cons x xs ih =>
    rw [windows_cons]
    split
    · next h => rw [List.length_cons, ih, List.length_cons, Nat.succ_sub h]
    · next h => exact (Nat.sub_eq_zero_of_le (Nat.lt_of_not_le h)).symm

theorem windows_getElem (L : Nat) (data : List σ) (i : Nat) (hi : i < (windows L data).length) :
    (windows L data)[i] = (data.drop i).take L := by
  induction data generalizing i with
  | nil => exact absurd hi (Nat.not_lt_zero i)
  | cons x xs ih =>
    revert hi
    rw [windows_cons]
    split
    · intro hi
      cases i with
      | zero => rfl
      | succ i => exact ih i (Nat.lt_of_succ_lt_succ hi)
    · intro hi
      exact absurd hi (Nat.not_lt_zero i)

/-- A word is a window iff it is `L` consecutive symbols starting at some position. -/
theorem mem_windows_iff (L : Nat) (data : List σ) (w : List σ) :
    w ∈ windows L data ↔ ∃ i, i < (windows L data).length ∧ w = (data.drop i).take L := by
  rw [List.mem_iff_getElem]
  constructor
  · rintro ⟨i, hi, rfl⟩
    exact ⟨i, hi, windows_getElem L data i hi⟩
  · rintro ⟨i, hi, rfl⟩
    exact ⟨i, hi, windows_getElem L data i hi⟩

theorem map_take_windows (h f : Nat) (data : List σ) :
    (windows (h + f) data).map (List.take h) =
      (windows h data).take (windows (h + f) data).length := by
  induction data with
  | nil => rfl
  | cons x xs ih =>
    rw [windows_cons (h + f)]
    split
    · next hle =>
      rw [windows_cons h, if_pos (Nat.le_trans (Nat.le_add_right h f) hle), List.map_cons,
        List.length_cons, List.take_succ_cons, ih, List.take_take,
        Nat.min_eq_left (Nat.le_add_right h f)]
    · rfl

end Windows

section Words
variable {σ : Type} [DecidableEq σ]

theorem wtBy_countWords (p : List σ → Prop) [DecidablePred p] (ws : List (List σ)) :
    wtBy p (countWords ws) = ws.countP p := by
  unfold countWords
  rw [wtBy_pushforward]
  induction ws with
  | nil => rfl
  | cons a ws ih =>
    rw [List.map_cons, wtBy_cons, ih, List.countP_cons, Nat.add_comm]
    simp only [decide_eq_true_eq]

theorem nodup_keys_countWords (ws : List (List σ)) : (keys (countWords ws)).Nodup :=
  keys_pushforward_nodup _ _

theorem lookupD_countWords (ws : List (List σ)) (w : List σ) :
    lookupD 0 (countWords ws) w = ws.count w := by
  rw [lookupD_eq_wtBy (nodup_keys_countWords ws), wtBy_countWords, List.count_eq_countP]
  simp only [beq_eq_decide]

theorem mem_keys_countWords (ws : List (List σ)) (w : List σ) :
    w ∈ keys (countWords ws) ↔ w ∈ ws := by
  unfold countWords
  rw [mem_keys_pushforward, keys_map_graph]
  exact ⟨fun ⟨_, h, e⟩ => e ▸ h, fun h => ⟨w, h, rfl⟩⟩

theorem sum_vals_countWords (ws : List (List σ)) : (vals (countWords ws)).sum = ws.length := by
  rw [← mass_eq_sum, ← wtBy_true, wtBy_countWords, List.countP_eq_length]
  exact fun _ _ => rfl

theorem count_map_take (h : Nat) (ws : List (List σ)) (h' : List σ) :
    (ws.map (List.take h)).count h' = ws.countP (fun w => w.take h = h') := by
  rw [List.count_eq_countP, List.countP_map]
  simp only [Function.comp_def, beq_eq_decide]

end Words

section Freq
variable {α : Type} [Field α] [CharZero α]

theorem sum_map_cast_div (l : List Nat) (N : Nat) (hN : N ≠ 0) (hs : l.sum = N) :
    (l.map (fun c : Nat => (c : α) / (N : α))).sum = 1 := by
  have hN' : (N : α) ≠ 0 := Nat.cast_ne_zero.mpr hN
  simp only [div_eq_mul_inv]
  rw [List.sum_map_mul_right l (fun c : Nat => (c : α)) ((N : α)⁻¹), ← Nat.cast_list_sum, hs,
    mul_inv_cancel₀ hN']

end Freq

end Dit.Lemmas.Counts
