/-
Helper lemmas for the capacity iteration `Core/CapLoop.lean`
(`dit.algorithms.channelcapacity.channel_capacity`) over `ℝ` with `log2 := Real.logb 2`,
`exp2 := fun x => 2 ^ x`, `ofNat := Nat.cast`.

The iteration alternately maximises Arimoto's functional
`J(r, q) = Σ_{x,y} r_x P(y|x) log₂ (q(x|y) / r_x)` in `q` (`next_q`) and in `r` (`next_r`); both
half-steps are proved for sums over arbitrary `Finset`s and then read back on lists.
-/
import DitModel.Core.CapLoop
import DitModel.Lemmas.Channel

namespace Dit.Lemmas.CapLoop
open Dit Dit.Lemmas.ListBasics Dit.Lemmas.Table Dit.Lemmas.Channel Finset

/-! ### Positive laws -/

/-- `r` is a probability vector of length `n` all of whose entries are strictly positive
(the uniform start of the iteration is one, and every pass preserves it). -/
structure PosLaw (r : List ℝ) (n : ℕ) : Prop where
  law : IsLaw r n
  pos : ∀ x < n, 0 < vec r x

/-! ### List access -/

theorem zipWith_eq_range_map {β γ δ : Type} (f : β → γ → δ) (d1 : β) (d2 : γ) {l1 : List β}
    {l2 : List γ} {n : ℕ} (h1 : l1.length = n) (h2 : l2.length = n) :
    List.zipWith f l1 l2 = (List.range n).map (fun i => f (l1.getD i d1) (l2.getD i d2)) := by
  apply List.ext_getElem
  · rw [List.length_zipWith, h1, h2, min_self, List.length_map, List.length_range]
  · intro i hi _
    rw [List.length_zipWith, lt_min_iff] at hi
    rw [List.getElem_zipWith, List.getElem_map, List.getElem_range,
      List.getD_eq_getElem _ _ hi.1, List.getD_eq_getElem _ _ hi.2]

theorem list_ext_vec {l1 l2 : List ℝ} {n : ℕ} (h1 : l1.length = n) (h2 : l2.length = n)
    (h : ∀ x < n, vec l1 x = vec l2 x) : l1 = l2 := by
  apply List.ext_getElem (h1.trans h2.symm)
  intro i hi1 hi2
  have := h i (h1 ▸ hi1)
  rwa [vec, vec, List.getD_eq_getElem _ _ hi1, List.getD_eq_getElem _ _ hi2] at this

theorem map_div_lsum {n : ℕ} {F G : ℕ → ℝ} (h : ∀ x < n, F x = G x) :
    ((List.range n).map F).map (· / lsum ((List.range n).map F))
      = (List.range n).map fun x => G x / ∑ x' ∈ range n, G x' := by
  rw [List.map_congr_left (fun x hx => h x (List.mem_range.mp hx)), lsum_eq_sum, sum_range_map,
    List.map_map]
  rfl

/-! ### Unfolding the Core definitions into range sums -/

/-- The (unnormalised) weight of input letter `x` in `next_r`:
`w_x = 2 ^ Σ_y P(y|x) log₂ q(x|y) = Π_y q(x|y)^{P(y|x)}`. -/
noncomputable def capW (P q : List (List ℝ)) (m x : ℕ) : ℝ :=
  (2 : ℝ) ^ (∑ y ∈ range m, ent P x y * Real.logb 2 (ent q y x))

theorem capW_pos (P q : List (List ℝ)) (m x : ℕ) : 0 < capW P q m x :=
  Real.rpow_pos_of_pos (by norm_num) _

section Unfold
variable {r : List ℝ} {P : List (List ℝ)} {n m : ℕ}

theorem capNextR_eq (q : List (List ℝ)) (hP : IsMat P n m) :
    capNextR (Real.logb 2) (fun x => (2 : ℝ) ^ x) P q
      = (List.range n).map (fun x => capW P q m x / ∑ x' ∈ range n, capW P q m x') := by
  unfold capNextR
  rw [hP.len]
  refine map_div_lsum fun x hx => ?_
  simp only [lsum_eq_sum, sum_range_map, hP.row_len hx]
  exact congrArg ((2 : ℝ) ^ ·) (sum_congr rfl (fun y _ => ite_beq_zero_mul _ _))

theorem vec_capNextR (q : List (List ℝ)) (hP : IsMat P n m) {x : ℕ} (hx : x < n) :
    vec (capNextR (Real.logb 2) (fun x => (2 : ℝ) ^ x) P q) x
      = capW P q m x / ∑ x' ∈ range n, capW P q m x' := by
  rw [capNextR_eq q hP, vec_range_map n _ x hx]

/-- `calc_cc` as a double sum (the `nansum` guard agrees with `0 · log₂ _ = 0`). -/
theorem capCC_eq (q : List (List ℝ)) (r : List ℝ) (hP : IsMat P n m) :
    capCC (Real.logb 2) P q r = ∑ x ∈ range n, ∑ y ∈ range m,
      vec r x * ent P x y * Real.logb 2 (ent q y x / vec r x) := by
  unfold capCC
  simp only [lsum_eq_sum, sum_range_map]
  rw [hP.len]
  refine sum_congr rfl fun x hx => ?_
  rw [hP.row_len (mem_range.mp hx)]
  exact sum_congr rfl fun y _ => ite_beq_zero_mul _ _

/-- `next_q` tabulated: row `y` lists `q(x|y) = r_x P(y|x) / (rP)_y` over `x`. -/
theorem capNextQ_eq (hr : r.length = n) (hP : IsMat P n m) (hn : 0 < n) :
    capNextQ r P = (List.range m).map fun y => (List.range n).map fun x =>
      vec r x * ent P x y / vec (outputLaw r P) y := by
  simp only [capNextQ, outputLaw_length r P n m hP hn]
  exact List.map_congr_left fun y _ => zipWith_eq_range_map _ 0 [] hr hP.len

theorem capNextQ_isMat (hr : r.length = n) (hP : IsMat P n m) (hn : 0 < n) :
    IsMat (capNextQ r P) m n := by
  rw [capNextQ_eq hr hP hn]
  exact isMat_range_map m n _

theorem ent_capNextQ (hr : r.length = n) (hP : IsMat P n m) {y x : ℕ} (hy : y < m) (hx : x < n) :
    ent (capNextQ r P) y x = vec r x * ent P x y / vec (outputLaw r P) y := by
  show vec ((capNextQ r P).getD y []) x = _
  rw [capNextQ_eq hr hP (Nat.zero_lt_of_lt hx), getD_range_map _ [] hy, vec_range_map n _ x hx]

end Unfold

/-! ### The finitary core: Arimoto's functional `J(r, q) = Σ_{x,y} r_x P_xy log₂ (q_yx / r_x)` -/

section Core
variable {ι κ : Type}

/-- `J(r, q_r)` term: with the posterior `q_yx = r_x P_xy / R_y` the summand is the mutual
information summand. -/
theorem post_term (r P R : ℝ) :
    r * P * Real.logb 2 (r * P / R / r) = r * (P * Real.logb 2 (P / R)) := by
  rcases eq_or_ne r 0 with rfl | h
  · rw [zero_mul, zero_mul, zero_mul]
  · rw [mul_div_assoc, mul_div_cancel_left₀ _ h, mul_assoc]

/-- The summand of `I(r; P) − J(r, q)` is a Kullback–Leibler summand of `r_x P_xy` against
`R_y q_yx`. -/
theorem gap_term (r P R q : ℝ) (h : R * q = 0 → r * P = 0) :
    r * P * Real.logb 2 (r * P / (R * q))
      = r * (P * Real.logb 2 (P / R)) - r * P * Real.logb 2 (q / r) := by
  rcases eq_or_ne r 0 with rfl | h1
  · ring
  rcases eq_or_ne P 0 with rfl | h2
  · ring
  obtain ⟨hR, hq⟩ := mul_ne_zero_iff.mp (mt h (mul_ne_zero h1 h2))
  rw [Real.logb_div (mul_ne_zero h1 h2) (mul_ne_zero hR hq), Real.logb_mul h1 h2,
    Real.logb_mul hR hq, Real.logb_div h2 hR, Real.logb_div hq h1]
  ring

/-- Maximisation in `q`: for fixed `r`, every family `q` of sub-probability vectors over `x` that
is non-zero where `r_x P_xy` is has `J(r, q) ≤ I(r; P)`. -/
theorem J_le_mi (s : Finset ι) (t : Finset κ) (r : ι → ℝ) (P : ι → κ → ℝ) (q : κ → ι → ℝ)
    (hr : ∀ x ∈ s, 0 ≤ r x) (hP : ∀ x ∈ s, ∀ y ∈ t, 0 ≤ P x y)
    (hq : ∀ y ∈ t, ∀ x ∈ s, 0 ≤ q y x) (hqs : ∀ y ∈ t, ∑ x ∈ s, q y x ≤ 1)
    (hdom : ∀ x ∈ s, ∀ y ∈ t, q y x = 0 → r x * P x y = 0) :
    ∑ x ∈ s, ∑ y ∈ t, r x * P x y * Real.logb 2 (q y x / r x)
      ≤ ∑ x ∈ s, r x * ∑ y ∈ t, P x y * Real.logb 2 (P x y / ∑ x' ∈ s, r x' * P x' y) := by
  have hnn : ∀ y ∈ t, ∀ x ∈ s, 0 ≤ r x * P x y := fun y hy x hx =>
    mul_nonneg (hr x hx) (hP x hx y hy)
  have hac : ∀ y ∈ t, ∀ x ∈ s, (∑ x' ∈ s, r x' * P x' y) * q y x = 0 → r x * P x y = 0 := by
    intro y hy x hx h0
    rcases mul_eq_zero.mp h0 with h | h
    · exact (sum_eq_zero_iff_of_nonneg (hnn y hy)).mp h x hx
    · exact hdom x hx y hy h
  -- column by column, `I − J` is a divergence of `x ↦ r_x P_xy` against `x ↦ R_y q_yx`
  simp only [mul_sum]
  rw [sum_comm, sum_comm (s := s)]
  refine sum_le_sum fun y hy => sub_nonneg.mp ?_
  rw [← sum_sub_distrib, ← sum_congr rfl fun x hx => gap_term _ _ _ _ (hac y hy x hx)]
  refine Lemmas.InfoReal.gibbs s (fun x => r x * P x y)
    (fun x => (∑ x' ∈ s, r x' * P x' y) * q y x) (hnn y hy)
    (fun x hx => mul_nonneg (sum_nonneg (hnn y hy)) (hq y hy x hx)) ?_ (hac y hy)
  rw [← mul_sum]
  exact mul_le_of_le_one_right (sum_nonneg (hnn y hy)) (hqs y hy)

/-- The weight form of `J`: summing a row, `Σ_y r P_xy log₂ (q_yx / r) = r log₂ (w_x / r)` with
`w_x = 2 ^ Σ_y P_xy log₂ q_yx`, for a row of `P` summing to one and `q` non-zero where `P` is. -/
theorem row_weight (t : Finset κ) (r : ℝ) (P q : κ → ℝ) (hrow : ∑ y ∈ t, P y = 1)
    (hq : ∀ y ∈ t, P y ≠ 0 → q y ≠ 0) :
    ∑ y ∈ t, r * P y * Real.logb 2 (q y / r)
      = r * Real.logb 2 ((2 : ℝ) ^ (∑ y ∈ t, P y * Real.logb 2 (q y)) / r) := by
  rcases eq_or_ne r 0 with rfl | h
  · simp only [zero_mul, sum_const_zero]
  have e : ∀ y ∈ t, r * P y * Real.logb 2 (q y / r)
      = r * (P y * Real.logb 2 (q y)) - r * Real.logb 2 r * P y := by
    intro y hy
    by_cases h2 : P y = 0
    · rw [h2]; ring
    · rw [Real.logb_div (hq y hy h2) h]; ring
  rw [sum_congr rfl e, sum_sub_distrib, ← mul_sum, ← mul_sum, hrow,
    Real.logb_div (Real.rpow_pos_of_pos (by norm_num) _).ne' h,
    Real.logb_rpow (by norm_num) (by norm_num)]
  ring

theorem weight_term (r w W : ℝ) (hw : 0 < w) (hW : 0 < W) :
    r * Real.logb 2 (r / (w / W)) = r * Real.logb 2 W - r * Real.logb 2 (w / r) := by
  rcases eq_or_ne r 0 with rfl | h
  · ring
  rw [Real.logb_div h (div_pos hw hW).ne', Real.logb_div hw.ne' hW.ne', Real.logb_div hw.ne' h]
  ring

/-- Maximisation in `r`, weight form: `Σ_x r_x log₂ (w_x / r_x) ≤ log₂ Σ_x w_x` for a law `r`
and positive weights `w`. -/
theorem weight_le (s : Finset ι) (r w : ι → ℝ) (hr : ∀ x ∈ s, 0 ≤ r x) (hrs : ∑ x ∈ s, r x = 1)
    (hw : ∀ x ∈ s, 0 < w x) :
    ∑ x ∈ s, r x * Real.logb 2 (w x / r x) ≤ Real.logb 2 (∑ x ∈ s, w x) := by
  have hW : 0 < ∑ x ∈ s, w x :=
    sum_pos hw (nonempty_of_sum_ne_zero (hrs.trans_ne one_ne_zero))
  have hg := Lemmas.InfoReal.gibbs s r (fun x => w x / ∑ x' ∈ s, w x') hr
    (fun x hx => (div_pos (hw x hx) hW).le)
    (by rw [← sum_div, div_self hW.ne', hrs])
    (fun x hx h0 => absurd h0 (div_pos (hw x hx) hW).ne')
  rw [sum_congr rfl (fun x hx => weight_term (r x) (w x) _ (hw x hx) hW), sum_sub_distrib,
    ← sum_mul, hrs, one_mul] at hg
  exact sub_nonneg.mp hg

/-- `weight_le` holds with equality at `r_x = w_x / Σ w`. -/
theorem weight_eq (s : Finset ι) (w : ι → ℝ) (hw : ∀ x ∈ s, 0 < w x) (hne : s.Nonempty) :
    ∑ x ∈ s, (w x / ∑ x' ∈ s, w x') * Real.logb 2 (w x / (w x / ∑ x' ∈ s, w x'))
      = Real.logb 2 (∑ x ∈ s, w x) := by
  rw [sum_congr rfl fun x hx => by rw [div_div_cancel₀ (hw x hx).ne'], ← sum_mul, ← sum_div,
    div_self (sum_pos hw hne).ne', one_mul]

end Core

/-! ### List-level consequences -/

section ListLevel
variable {r : List ℝ} {P : List (List ℝ)} {n m : ℕ}

theorem out_pos (hr : PosLaw r n) (hP : IsChannel P n m) {x y : ℕ} (hx : x < n)
    (hxy : ent P x y ≠ 0) : 0 < vec (outputLaw r P) y :=
  ((outputLaw_isLaw r P n m hr.law hP).vec_nonneg y).lt_of_ne' fun h0 =>
    hxy (ent_eq_zero_of_outputLaw_eq_zero r P n m hr.law hP hx (hr.pos x hx).ne' h0)

theorem capNextQ_nonneg (hr : IsLaw r n) (hP : IsChannel P n m) {y x : ℕ} (hy : y < m)
    (hx : x < n) : 0 ≤ ent (capNextQ r P) y x := by
  rw [ent_capNextQ hr.len hP.isMat hy hx]
  exact div_nonneg (mul_nonneg (hr.vec_nonneg x) (hP.ent_nonneg x y))
    ((outputLaw_isLaw r P n m hr hP).vec_nonneg y)

theorem capNextQ_sum (hr : IsLaw r n) (hP : IsChannel P n m) {y : ℕ} (hy : y < m) :
    ∑ x ∈ range n, ent (capNextQ r P) y x
      = vec (outputLaw r P) y / vec (outputLaw r P) y := by
  rw [sum_congr rfl (fun x hx => ent_capNextQ hr.len hP.isMat hy (mem_range.mp hx)),
    ← sum_div, ← vec_outputLaw r P n m hr.len hP.isMat]

theorem capNextQ_sum_le (hr : IsLaw r n) (hP : IsChannel P n m) {y : ℕ} (hy : y < m) :
    ∑ x ∈ range n, ent (capNextQ r P) y x ≤ 1 := by
  rw [capNextQ_sum hr hP hy]
  exact div_self_le_one _

theorem capNextQ_ne_zero (hr : PosLaw r n) (hP : IsChannel P n m) :
    ∀ x < n, ∀ y < m, ent P x y ≠ 0 → ent (capNextQ r P) y x ≠ 0 := by
  intro x hx y hy hxy
  rw [ent_capNextQ hr.law.len hP.isMat hy hx]
  exact (div_pos (mul_pos (hr.pos x hx) ((hP.ent_nonneg x y).lt_of_ne' hxy))
    (out_pos hr hP hx hxy)).ne'

theorem capCC_le_channelMI (hP : IsChannel P n m) (hr : IsLaw r n) {q : List (List ℝ)}
    (hq : ∀ y < m, ∀ x < n, 0 ≤ ent q y x) (hqs : ∀ y < m, ∑ x ∈ range n, ent q y x ≤ 1)
    (hdom : ∀ x < n, ∀ y < m, ent q y x = 0 → vec r x * ent P x y = 0) :
    capCC (Real.logb 2) P q r ≤ channelMI (Real.logb 2) r P := by
  rw [capCC_eq q r hP.isMat, channelMI_eq r P n m hr.len hP.isMat]
  simp only [vec_outputLaw r P n m hr.len hP.isMat]
  exact J_le_mi (range n) (range m) (vec r) (ent P) (fun y x => ent q y x)
    (fun x _ => hr.vec_nonneg x) (fun x _ y _ => hP.ent_nonneg x y)
    (fun y hy x hx => hq y (mem_range.mp hy) x (mem_range.mp hx))
    (fun y hy => hqs y (mem_range.mp hy))
    (fun x hx y hy => hdom x (mem_range.mp hx) y (mem_range.mp hy))

/-- The maximum in `q` is attained at the posterior: `J(r, next_q r) = I(r; P)` (shapes only). -/
theorem capCC_posterior (hr : r.length = n) (hP : IsMat P n m) :
    capCC (Real.logb 2) P (capNextQ r P) r = channelMI (Real.logb 2) r P := by
  rw [capCC_eq _ r hP, channelMI_eq r P n m hr hP]
  refine sum_congr rfl fun x hx => ?_
  rw [mul_sum]
  refine sum_congr rfl fun y hy => ?_
  rw [ent_capNextQ hr hP (mem_range.mp hy) (mem_range.mp hx)]
  exact post_term _ _ _

theorem capCC_eq_weight (hP : IsChannel P n m) {q : List (List ℝ)}
    (hq : ∀ x < n, ∀ y < m, ent P x y ≠ 0 → ent q y x ≠ 0) (r : List ℝ) :
    capCC (Real.logb 2) P q r
      = ∑ x ∈ range n, vec r x * Real.logb 2 (capW P q m x / vec r x) := by
  rw [capCC_eq q r hP.isMat]
  refine sum_congr rfl fun x hx => ?_
  exact row_weight (range m) (vec r x) (ent P x) (fun y => ent q y x)
    (hP.sum_ent (mem_range.mp hx)) (fun y hy => hq x (mem_range.mp hx) y (mem_range.mp hy))

theorem capCC_le_log (hP : IsChannel P n m) {q : List (List ℝ)}
    (hq : ∀ x < n, ∀ y < m, ent P x y ≠ 0 → ent q y x ≠ 0) (hr : IsLaw r n) :
    capCC (Real.logb 2) P q r ≤ Real.logb 2 (∑ x ∈ range n, capW P q m x) := by
  rw [capCC_eq_weight hP hq r]
  exact weight_le (range n) (vec r) (capW P q m) (fun x _ => hr.vec_nonneg x)
    hr.sum_vec (fun x _ => capW_pos P q m x)

/-- The maximum in `r` is attained at `next_r q`: `J(next_r q, q) = log₂ Σ_x w_x`. -/
theorem capCC_capNextR (hP : IsChannel P n m) (hn : 0 < n) {q : List (List ℝ)}
    (hq : ∀ x < n, ∀ y < m, ent P x y ≠ 0 → ent q y x ≠ 0) :
    capCC (Real.logb 2) P q (capNextR (Real.logb 2) (fun x => (2 : ℝ) ^ x) P q)
      = Real.logb 2 (∑ x ∈ range n, capW P q m x) := by
  rw [capCC_eq_weight hP hq,
    sum_congr rfl (fun x hx => by rw [vec_capNextR q hP.isMat (mem_range.mp hx)])]
  exact weight_eq (range n) (capW P q m) (fun x _ => capW_pos P q m x) ⟨0, mem_range.mpr hn⟩

theorem capNextR_posLaw (q : List (List ℝ)) (hP : IsMat P n m) (hn : 0 < n) :
    PosLaw (capNextR (Real.logb 2) (fun x => (2 : ℝ) ^ x) P q) n := by
  have hW : 0 < ∑ x' ∈ range n, capW P q m x' :=
    sum_pos (fun x _ => capW_pos P q m x) ⟨0, mem_range.mpr hn⟩
  have hpos : ∀ x < n, 0 < vec (capNextR (Real.logb 2) (fun x => (2 : ℝ) ^ x) P q) x := by
    intro x hx
    rw [vec_capNextR q hP hx]
    exact div_pos (capW_pos P q m x) hW
  refine ⟨isLaw_of_vec _ n ?_ (fun x hx => (hpos x hx).le) ?_, hpos⟩
  · rw [capNextR_eq q hP, List.length_map, List.length_range]
  · rw [sum_congr rfl (fun x hx => vec_capNextR q hP (mem_range.mp hx)), ← sum_div,
      div_self hW.ne']

/-! ### One pass -/

theorem capStep_fst (P : List (List ℝ)) (r : List ℝ) :
    (capStep (Real.logb 2) (fun x => (2 : ℝ) ^ x) P r).1
      = capCC (Real.logb 2) P (capNextQ r P)
          (capNextR (Real.logb 2) (fun x => (2 : ℝ) ^ x) P (capNextQ r P)) := rfl

theorem capStep_snd (P : List (List ℝ)) (r : List ℝ) :
    (capStep (Real.logb 2) (fun x => (2 : ℝ) ^ x) P r).2
      = capNextR (Real.logb 2) (fun x => (2 : ℝ) ^ x) P (capNextQ r P) := rfl

theorem capStep_posLaw (hP : IsMat P n m) (hn : 0 < n) (r : List ℝ) :
    PosLaw (capStep (Real.logb 2) (fun x => (2 : ℝ) ^ x) P r).2 n :=
  capNextR_posLaw _ hP hn

theorem capStep_sandwich (hP : IsChannel P n m) (hr : PosLaw r n) :
    channelMI (Real.logb 2) r P ≤ (capStep (Real.logb 2) (fun x => (2 : ℝ) ^ x) P r).1
    ∧ (capStep (Real.logb 2) (fun x => (2 : ℝ) ^ x) P r).1
        ≤ channelMI (Real.logb 2) (capStep (Real.logb 2) (fun x => (2 : ℝ) ^ x) P r).2 P := by
  have hn : 0 < n := hr.law.pos_len
  have hqne := capNextQ_ne_zero hr hP
  rw [capStep_fst, capStep_snd]
  constructor
  · rw [← capCC_posterior hr.law.len hP.isMat, capCC_capNextR hP hn hqne]
    exact capCC_le_log hP hqne hr.law
  · apply capCC_le_channelMI hP (capNextR_posLaw _ hP.isMat hn).law
      (fun y hy x hx => capNextQ_nonneg hr.law hP hy hx) (fun y hy => capNextQ_sum_le hr.law hP hy)
    intro x hx y hy h0
    rw [of_not_not fun hxy => hqne x hx y hy hxy h0, mul_zero]

/-! ### The loop -/

theorem capLoop_succ (P : List (List ℝ)) (close : ℝ → ℝ → Bool) (fuel : ℕ) (old cc : ℝ)
    (r : List ℝ) (it : ℕ) :
    capLoop (Real.logb 2) (fun x => (2 : ℝ) ^ x) P close (fuel + 1) old cc r it
      = if close cc old then (cc, r, it)
        else capLoop (Real.logb 2) (fun x => (2 : ℝ) ^ x) P close fuel cc
          (capStep (Real.logb 2) (fun x => (2 : ℝ) ^ x) P r).1
          (capStep (Real.logb 2) (fun x => (2 : ℝ) ^ x) P r).2 (it + 1) := rfl

/-- Any invariant of `(cc, r)` preserved by one pass holds for the result of the loop, and the
pass counter grows by at most the fuel. -/
theorem capLoop_spec (close : ℝ → ℝ → Bool) (Inv : ℝ → List ℝ → Prop)
    (hstep : ∀ cc r, Inv cc r → Inv (capStep (Real.logb 2) (fun x => (2 : ℝ) ^ x) P r).1
      (capStep (Real.logb 2) (fun x => (2 : ℝ) ^ x) P r).2) :
    ∀ (fuel : ℕ) (old cc : ℝ) (r : List ℝ) (it : ℕ), Inv cc r →
      Inv (capLoop (Real.logb 2) (fun x => (2 : ℝ) ^ x) P close fuel old cc r it).1
        (capLoop (Real.logb 2) (fun x => (2 : ℝ) ^ x) P close fuel old cc r it).2.1
      ∧ it ≤ (capLoop (Real.logb 2) (fun x => (2 : ℝ) ^ x) P close fuel old cc r it).2.2
      ∧ (capLoop (Real.logb 2) (fun x => (2 : ℝ) ^ x) P close fuel old cc r it).2.2
          ≤ it + fuel := by
  intro fuel
  induction fuel with
  | zero => intro old cc r it h; exact ⟨h, le_refl _, le_refl _⟩
  | succ fuel ih =>
    intro old cc r it h
    rw [capLoop_succ]
    by_cases hc : close cc old = true
    · rw [if_pos hc]; exact ⟨h, le_refl _, Nat.le_add_right it (fuel + 1)⟩
    · rw [if_neg hc]
      obtain ⟨h1, h2, h3⟩ := ih cc _ _ (it + 1) (hstep cc r h)
      exact ⟨h1, by omega, by omega⟩

theorem uniform_posLaw (hn : 0 < n) : PosLaw (uniformLaw n) n :=
  ⟨uniformLaw_isLaw n hn, fun x hx => by rw [vec_uniformLaw n x hx]; positivity⟩

theorem capRun_eq (P : List (List ℝ)) (close : ℝ → ℝ → Bool) (fuel : ℕ) :
    capRun (Real.logb 2) (fun x => (2 : ℝ) ^ x) (fun k => (k : ℝ)) P close fuel
      = capLoop (Real.logb 2) (fun x => (2 : ℝ) ^ x) P close fuel 0
          (capStep (Real.logb 2) (fun x => (2 : ℝ) ^ x) P (uniformLaw P.length)).1
          (capStep (Real.logb 2) (fun x => (2 : ℝ) ^ x) P (uniformLaw P.length)).2 1 := rfl

/-! ### Closed form of one pass, the fixed point, and `baCapacityStep` -/

/-- With the posterior of a positive law the weights are `w_x = r_x 2^{D(P_x‖rP)}`. -/
theorem capW_posterior (hr : PosLaw r n) (hP : IsChannel P n m) {x : ℕ} (hx : x < n) :
    capW P (capNextQ r P) m x
      = vec r x * (2 : ℝ) ^ klRow (Real.logb 2) (P.getD x []) (outputLaw r P) := by
  have hrx := hr.pos x hx
  have e : ∀ y ∈ range m, ent P x y * Real.logb 2 (ent (capNextQ r P) y x)
      = Real.logb 2 (vec r x) * ent P x y
        + ent P x y * Real.logb 2 (ent P x y / vec (outputLaw r P) y) := by
    intro y hy
    rw [ent_capNextQ hr.law.len hP.isMat (mem_range.mp hy) hx]
    by_cases hxy : ent P x y = 0
    · rw [hxy]; ring
    · rw [mul_div_assoc, Real.logb_mul hrx.ne' (div_ne_zero hxy (out_pos hr hP hx hxy).ne')]
      ring
  rw [klRow_eq _ _ m (hP.isMat.row_len hx) (outputLaw_length r P n m hP.isMat hr.law.pos_len),
    capW, sum_congr rfl e, sum_add_distrib, ← mul_sum, hP.sum_ent hx, mul_one,
    Real.rpow_add (by norm_num), Real.rpow_logb (by norm_num) (by norm_num) hrx]
  rfl

theorem vec_capStep_snd (hr : PosLaw r n) (hP : IsChannel P n m) {x : ℕ} (hx : x < n) :
    vec (capStep (Real.logb 2) (fun x => (2 : ℝ) ^ x) P r).2 x
      = vec r x * (2 : ℝ) ^ klRow (Real.logb 2) (P.getD x []) (outputLaw r P)
        / ∑ x' ∈ range n, vec r x' *
            (2 : ℝ) ^ klRow (Real.logb 2) (P.getD x' []) (outputLaw r P) := by
  rw [capStep_snd, vec_capNextR _ hP.isMat hx, capW_posterior hr hP hx,
    sum_congr rfl (fun x' hx' => capW_posterior hr hP (mem_range.mp hx'))]

theorem capStep_fst_closed (hr : PosLaw r n) (hP : IsChannel P n m) :
    (capStep (Real.logb 2) (fun x => (2 : ℝ) ^ x) P r).1
      = Real.logb 2 (∑ x ∈ range n, vec r x *
          (2 : ℝ) ^ klRow (Real.logb 2) (P.getD x []) (outputLaw r P)) := by
  rw [capStep_fst, capCC_capNextR hP hr.law.pos_len (capNextQ_ne_zero hr hP),
    sum_congr rfl (fun x' hx' => capW_posterior hr hP (mem_range.mp hx'))]

theorem fixed_rows (hr : PosLaw r n) (hP : IsChannel P n m)
    (hfix : (capStep (Real.logb 2) (fun x => (2 : ℝ) ^ x) P r).2 = r) :
    ∀ px ∈ P, klRow (Real.logb 2) px (outputLaw r P)
      = Real.logb 2 (∑ x' ∈ range n, vec r x' *
          (2 : ℝ) ^ klRow (Real.logb 2) (P.getD x' []) (outputLaw r P)) := by
  intro px hpx
  obtain ⟨x, hx', rfl⟩ := List.mem_iff_getElem.mp hpx
  have hx : x < n := hx'.trans_eq hP.len
  have h := vec_capStep_snd hr hP hx
  have hZ : 0 < ∑ x' ∈ range n, vec r x' *
      (2 : ℝ) ^ klRow (Real.logb 2) (P.getD x' []) (outputLaw r P) :=
    sum_pos (fun x' hx' => mul_pos (hr.pos x' (mem_range.mp hx'))
      (Real.rpow_pos_of_pos (by norm_num) _)) ⟨0, mem_range.mpr hr.law.pos_len⟩
  rw [hfix, eq_div_iff hZ.ne'] at h
  rw [← List.getD_eq_getElem _ [] hx', mul_left_cancel₀ (hr.pos x hx).ne' h,
    Real.logb_rpow (by norm_num) (by norm_num)]

/-- `next_r ∘ next_q` is the model's one-step `baCapacityStep` (shapes only). -/
theorem capStep_snd_eq_baCapacityStep (hr : r.length = n) (hP : IsMat P n m) (hn : 0 < n) :
    (capStep (Real.logb 2) (fun x => (2 : ℝ) ^ x) P r).2
      = baCapacityStep (Real.logb 2) (fun x => (2 : ℝ) ^ x) r P := by
  rw [capStep_snd, capNextR_eq _ hP]
  simp only [baCapacityStep, zipWith_eq_range_map _ 0 [] hr hP.len]
  refine (map_div_lsum fun x hx => ?_).symm
  rw [lsum_eq_sum, sum_zipWith_range _ 0 0 _ _ m (hP.row_len hx) (outputLaw_length r P n m hP hn)]
  refine congrArg ((2 : ℝ) ^ ·) (sum_congr rfl fun y hy => ?_)
  rw [ite_beq_zero_mul, ent_capNextQ hr hP (mem_range.mp hy) hx]
  rfl

end ListLevel

/-! ### Test data: the constant family `q(x|y) = 1/2` -/

theorem halves_isChannel : IsChannel [[(1 : ℝ) / 2, 1 / 2], [1 / 2, 1 / 2]] 2 2 :=
  isChannel_pair _ _ 2 half_law half_law

theorem halves_pos : ∀ y < 2, ∀ x < 2, 0 < ent [[(1 : ℝ) / 2, 1 / 2], [1 / 2, 1 / 2]] y x :=
  fun y hy x hx => by interval_cases y <;> exact half_pos x hx

end Dit.Lemmas.CapLoop
