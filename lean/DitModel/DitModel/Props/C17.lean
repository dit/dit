/-
C17 — For every redundancy measure the decomposition lives on the redundancy lattice of
antichains of source sets: it is consistent exactly when each node's redundancy equals the sum of
the PI atoms (pieces of information) at or below it (Möbius inversion) and each single source's
redundancy equals its mutual information with the target; whenever consistent and complete the
atoms sum to I(all sources : target), which is also the top node's redundancy. Relabelling or
permuting the sources permutes the lattice values accordingly. I_min, I_mmi equal their
closed-form definitions and their atoms are never negative. (2 or 3 sources.)

`rle` is reflexive and transitive on arbitrary lists of source sets. For `n ∈ {2, 3}` evaluation
(`decide +kernel`) checks antisymmetry on `rnodes n`, the bounds, and that every family of source
sets is equivalent to a node; greatest lower bounds follow from the last, least upper bounds from
those and the greatest node. The Möbius theorems are proved for any duplicate-free list of nodes on which the
strict order is transitive (`TransOn`), over any additive commutative group, and instantiated at
`rnodes n`. The model has one predicate, `consistentP`; "complete" (the atoms sum to
`I(all sources : target)`) is here a conclusion drawn from consistency alone. The closed forms are
at `ℝ` with `log := Real.logb 2`.
-/
import DitModel.Lemmas.Lattice

namespace Dit.Props.C17
open Dit Dit.Lemmas.InfoAlg Dit.Lemmas.InfoReal Dit.Lemmas.Lattice

/-! ## The redundancy lattice for 2 and 3 sources -/

/-- **Size**: 4 nodes for two sources, 18 for three. -/
theorem rnodes_card : (rnodes 2).length = 4 ∧ (rnodes 3).length = 18 := by
  decide +kernel

/-- `nodup_rnodes` of Lemmas/Lattice.lean (a `decide +kernel` fact). -/
theorem rnodes_nodup (n : Nat) (hn : n = 2 ∨ n = 3) : (rnodes n).Nodup := nodup_rnodes hn

/-- **Order**: the Williams–Beer relation `rle` is reflexive, antisymmetric and
transitive on the nodes. -/
theorem rle_order (n : Nat) (hn : n = 2 ∨ n = 3) :
    (∀ a ∈ rnodes n, rle a a = true)
    ∧ (∀ a ∈ rnodes n, ∀ b ∈ rnodes n, rle a b = true → rle b a = true → a = b)
    ∧ (∀ a ∈ rnodes n, ∀ b ∈ rnodes n, ∀ c ∈ rnodes n,
        rle a b = true → rle b c = true → rle a c = true) :=
  ⟨fun a _ => rle_refl a, rle_antisymm hn, fun _ _ _ _ _ _ => rle_trans⟩

/-- **Bounds**: `{0..n-1}` is the greatest node and `{0}{1}…{n-1}` the least. -/
theorem rtop_greatest_rbottom_least (n : Nat) (hn : n = 2 ∨ n = 3) :
    rtop n ∈ rnodes n ∧ rbottom n ∈ rnodes n
    ∧ ∀ a ∈ rnodes n, rle a (rtop n) = true ∧ rle (rbottom n) a = true := by
  rcases hn with rfl | rfl <;> decide +kernel

/-- **Lattice**: every two nodes have a least upper bound and a greatest lower bound among the
nodes. -/
theorem redundancy_lattice (n : Nat) (hn : n = 2 ∨ n = 3) :
    ∀ a ∈ rnodes n, ∀ b ∈ rnodes n,
      (∃ j ∈ rnodes n, rle a j = true ∧ rle b j = true
        ∧ ∀ c ∈ rnodes n, rle a c = true → rle b c = true → rle j c = true)
      ∧ (∃ m ∈ rnodes n, rle m a = true ∧ rle m b = true
        ∧ ∀ c ∈ rnodes n, rle c a = true → rle c b = true → rle c m = true) := by
  obtain ⟨htop, -, hle⟩ := rtop_greatest_rbottom_least n hn
  exact fun a ha b hb => ⟨exists_lub_of_glb htop (fun c hc => (hle c hc).1)
    (fun a ha b hb => exists_glb hn ha hb) ha hb, exists_glb hn ha hb⟩

/-- `redundancy_lattice` at `n = 2`. -/
theorem lattice_n2 : ∀ a ∈ rnodes 2, ∀ b ∈ rnodes 2,
      (∃ j ∈ rnodes 2, rle a j = true ∧ rle b j = true
        ∧ ∀ c ∈ rnodes 2, rle a c = true → rle b c = true → rle j c = true)
      ∧ (∃ m ∈ rnodes 2, rle m a = true ∧ rle m b = true
        ∧ ∀ c ∈ rnodes 2, rle c a = true → rle c b = true → rle c m = true) :=
  redundancy_lattice 2 (Or.inl rfl)

/-- `redundancy_lattice` at `n = 3`. -/
theorem lattice_n3 : ∀ a ∈ rnodes 3, ∀ b ∈ rnodes 3,
      (∃ j ∈ rnodes 3, rle a j = true ∧ rle b j = true
        ∧ ∀ c ∈ rnodes 3, rle a c = true → rle b c = true → rle j c = true)
      ∧ (∃ m ∈ rnodes 3, rle m a = true ∧ rle m b = true
        ∧ ∀ c ∈ rnodes 3, rle c a = true → rle c b = true → rle c m = true) :=
  redundancy_lattice 3 (Or.inr rfl)

/-- The hypothesis `TransOn` of the Möbius theorems holds on the nodes (`transOn_rnodes`). -/
theorem rlt_transOn (n : Nat) (hn : n = 2 ∨ n = 3) : TransOn (rnodes n) := transOn_rnodes hn

example : rnodes 2 = [[[0, 1]], [[0]], [[1]], [[0], [1]]] := rnodes_two
example : rle [[0], [1, 2]] [[0, 1], [1, 2]] = true
    ∧ rle [[0, 1], [1, 2]] [[0], [1, 2]] = false := by
  decide +kernel

section Moebius
variable {α : Type} [AddCommGroup α]

/-- **Möbius inversion**: for any duplicate-free list of nodes on which the strict order `rlt` is
transitive (irreflexivity holds by definition), the table computed by `moebius` satisfies, for
every node `x`, `red x = π(x) + Σ_{m < x} π(m)`. Transitivity is what makes every node below
`x` come before `x` in the processing order (strictly fewer nodes below); duplicate-freeness
makes the lookups unambiguous. -/
theorem moebius_sum (nodes : List RNode) (red : RNode → α) (hnd : nodes.Nodup)
    (htr : TransOn nodes) (x : RNode) (hx : x ∈ nodes) :
    red x = lookupD 0 (moebius nodes red) x
      + ((rbelow nodes x).map (fun m => lookupD 0 (moebius nodes red) m)).sum :=
  Lemmas.Lattice.moebius_sum nodes red hnd htr hx

/-- `moebius_sum` at `rnodes n`. -/
theorem moebius_sum_rnodes (n : Nat) (hn : n = 2 ∨ n = 3) (red : RNode → α) (x : RNode)
    (hx : x ∈ rnodes n) :
    red x = lookupD 0 (moebius (rnodes n) red) x
      + ((rbelow (rnodes n) x).map (fun m => lookupD 0 (moebius (rnodes n) red) m)).sum :=
  Lemmas.Lattice.moebius_sum _ red (nodup_rnodes hn) (transOn_rnodes hn) hx

/-- The keys of the Möbius table are exactly the nodes (in processing order). -/
theorem moebius_keys (nodes : List RNode) (red : RNode → α) :
    (keys (moebius nodes red)).Perm nodes := by
  rw [keys_moebius]; exact mord_perm nodes

/-- **Uniqueness**: any assignment `π'` with `red x = π'(x) + Σ_{m < x} π'(m)` on all nodes is
the Möbius table — consistency determines the atoms. -/
theorem moebius_unique (nodes : List RNode) (red : RNode → α) (hnd : nodes.Nodup)
    (htr : TransOn nodes) (π' : RNode → α)
    (h : ∀ x ∈ nodes, red x = π' x + ((rbelow nodes x).map π').sum) :
    ∀ x ∈ nodes, π' x = lookupD 0 (moebius nodes red) x :=
  Lemmas.Lattice.moebius_unique nodes red hnd htr π' h

/-- **The atoms sum to the top node's redundancy**: if `top` is a greatest node, the sum of all
atoms is `red top`. -/
theorem moebius_top (nodes : List RNode) (red : RNode → α) (hnd : nodes.Nodup)
    (htr : TransOn nodes) (top : RNode) (htop : top ∈ nodes)
    (hle : ∀ a ∈ nodes, rle a top = true) :
    (nodes.map (fun x => lookupD 0 (moebius nodes red) x)).sum = red top := by
  rw [← sum_at_or_below_top nodes _ hnd htop hle]
  exact (Lemmas.Lattice.moebius_sum nodes red hnd htr htop).symm

/-- `moebius_top` at `rnodes n`, whose greatest node is `rtop n = {0..n-1}`. -/
theorem moebius_top_rnodes (n : Nat) (hn : n = 2 ∨ n = 3) (red : RNode → α) :
    ((rnodes n).map (fun x => lookupD 0 (moebius (rnodes n) red) x)).sum = red (rtop n) :=
  moebius_top _ red (nodup_rnodes hn) (transOn_rnodes hn) _ (rtop_greatest_rbottom_least n hn).1
    fun a ha => ((rtop_greatest_rbottom_least n hn).2.2 a ha).1

/-- Two sources: the four atoms in closed form. -/
theorem moebius_two_sources (red : RNode → α) :
    lookupD 0 (moebius (rnodes 2) red) [[0], [1]] = red [[0], [1]]
    ∧ lookupD 0 (moebius (rnodes 2) red) [[0]] = red [[0]] - red [[0], [1]]
    ∧ lookupD 0 (moebius (rnodes 2) red) [[1]] = red [[1]] - red [[0], [1]]
    ∧ lookupD 0 (moebius (rnodes 2) red) [[0, 1]]
        = red [[0, 1]] - red [[0]] - red [[1]] + red [[0], [1]] := by
  have e := moebius_sum_rnodes 2 (Or.inl rfl) red
  generalize moebius (rnodes 2) red = M at e ⊢
  rw [rnodes_two] at e
  have e0 := e [[0], [1]] (by decide +kernel)
  have e1 := e [[0]] (by decide +kernel)
  have e2 := e [[1]] (by decide +kernel)
  have e3 := e [[0, 1]] (by decide +kernel)
  rw [show rbelow [[[0, 1]], [[0]], [[1]], [[0], [1]]] [[0], [1]] = [] by decide +kernel] at e0
  rw [show rbelow [[[0, 1]], [[0]], [[1]], [[0], [1]]] [[0]] = [[[0], [1]]] by decide +kernel] at e1
  rw [show rbelow [[[0, 1]], [[0]], [[1]], [[0], [1]]] [[1]] = [[[0], [1]]] by decide +kernel] at e2
  rw [show rbelow [[[0, 1]], [[0]], [[1]], [[0], [1]]] [[0, 1]] = [[[0]], [[1]], [[0], [1]]]
    by decide +kernel] at e3
  simp only [List.map_cons, List.map_nil, List.sum_cons, List.sum_nil, add_zero] at e0 e1 e2 e3
  rw [e0, e1, e2, e3]
  refine ⟨rfl, (add_sub_cancel_right _ _).symm, (add_sub_cancel_right _ _).symm, ?_⟩
  abel

example : (rnodes 2).Nodup ∧ TransOn (rnodes 2) ∧ rtop 2 ∈ rnodes 2 :=
  ⟨nodup_rnodes (Or.inl rfl), transOn_rnodes (Or.inl rfl),
    (rtop_greatest_rbottom_least 2 (Or.inl rfl)).1⟩

end Moebius

section Consistent
variable {α : Type} [AddCommGroup α] [LinearOrder α]

/-- **Consistency** (with the exact tolerance test `a = b`) holds exactly when every node's
redundancy is the sum of the atoms at or below it and every single-source-set node `{s}` has
redundancy `I(s : target)`. -/
theorem consistent_iff (nodes : List RNode) (red : RNode → α) (pis : Tab RNode α)
    (mi : VSet → α) :
    consistentP (fun a b => decide (a = b)) nodes red pis mi = true
      ↔ (∀ x ∈ nodes, red x = lookupD 0 pis x
            + ((rbelow nodes x).map (fun m => lookupD 0 pis m)).sum)
        ∧ ∀ s, [s] ∈ nodes → red [s] = mi s := by
  unfold consistentP
  simp only [Bool.and_eq_true, List.all_eq_true, decide_eq_true_eq, Lemmas.ListBasics.lsum_eq_sum]
  refine and_congr Iff.rfl ⟨fun h s hs => of_decide_eq_true (h [s] hs), fun h x hx => ?_⟩
  split
  · rename_i s; exact decide_eq_true (h s hx)
  · rfl

/-- A consistent decomposition has the Möbius atoms: the stored atoms are those computed by
`moebius` from the redundancies. -/
theorem consistent_atoms (nodes : List RNode) (red : RNode → α) (pis : Tab RNode α)
    (mi : VSet → α) (hnd : nodes.Nodup) (htr : TransOn nodes)
    (h : consistentP (fun a b => decide (a = b)) nodes red pis mi = true) :
    ∀ x ∈ nodes, lookupD 0 pis x = lookupD 0 (moebius nodes red) x :=
  Lemmas.Lattice.moebius_unique nodes red hnd htr (fun m => lookupD 0 pis m)
    ((consistent_iff nodes red pis mi).mp h).1

/-- **The atoms of a consistent decomposition sum to `I(all sources : target)`** (what dit calls
complete; consistency is the only hypothesis): on the redundancy lattice of 2 or 3 sources they
sum to the top node's redundancy, which is `I(all sources : target)` (the top node `{0..n-1}` is
a single-set node, so the second clause of consistency applies to it). -/
theorem consistent_complete_sum (n : Nat) (hn : n = 2 ∨ n = 3) (red : RNode → α)
    (pis : Tab RNode α) (mi : VSet → α)
    (h : consistentP (fun a b => decide (a = b)) (rnodes n) red pis mi = true) :
    ((rnodes n).map (fun x => lookupD 0 pis x)).sum = red (rtop n)
      ∧ red (rtop n) = mi (List.range n) := by
  obtain ⟨h1, h2⟩ := (consistent_iff _ red pis mi).mp h
  obtain ⟨htop, -, hle⟩ := rtop_greatest_rbottom_least n hn
  refine ⟨?_, h2 (List.range n) htop⟩
  rw [← sum_at_or_below_top (rnodes n) (fun x => lookupD 0 pis x) (nodup_rnodes hn) htop
    (fun a ha => (hle a ha).1)]
  exact (h1 _ htop).symm

/-- Non-vacuity: a consistent decomposition over `ℚ` for two sources. -/
example :
    let red : RNode → ℚ := fun x =>
      if x = [[0], [1]] then 1 / 2 else if x = [[0]] then 1 / 2 else if x = [[1]] then 1
      else 3 / 2
    let mi : VSet → ℚ := fun s => if s = [0] then 1 / 2 else if s = [1] then 1 else 3 / 2
    consistentP (fun a b => decide (a = b)) (rnodes 2) red (moebius (rnodes 2) red) mi = true := by
  decide +kernel

end Consistent

/-! ## Relabelling the sources -/

/-- **Relabelling is an order automorphism**: a permutation `σ` of the source indices
`{0..n-1}` induces (`nodeMap σ = nodeNorm ∘ map (map σ)`) a bijection of the nodes that
preserves the order both ways. -/
theorem relabel_automorphism (n : Nat) (hn : n = 2 ∨ n = 3) (σ : Nat → Nat)
    (hσ : ((List.range n).map σ).Perm (List.range n)) :
    ((rnodes n).map (nodeMap σ)).Perm (rnodes n)
      ∧ ∀ a ∈ rnodes n, ∀ b ∈ rnodes n, rle (nodeMap σ a) (nodeMap σ b) = rle a b :=
  ⟨map_nodeMap_perm hn σ hσ, rle_nodeMap_rnodes hn σ hσ⟩

/-- **Möbius inversion commutes with relabelling**: the atoms of the relabelled redundancy
`x ↦ red (σ x)` are the atoms of `red` at the relabelled nodes, `π'(x) = π(σ x)`. -/
theorem perm_equivariant {α : Type} [AddCommGroup α] (n : Nat) (hn : n = 2 ∨ n = 3)
    (σ : Nat → Nat) (hσ : ((List.range n).map σ).Perm (List.range n)) (red : RNode → α)
    (x : RNode) (hx : x ∈ rnodes n) :
    lookupD 0 (moebius (rnodes n) (fun y => red (nodeMap σ y))) x
      = lookupD 0 (moebius (rnodes n) red) (nodeMap σ x) :=
  moebius_equivariant (rnodes n) (nodup_rnodes hn) (transOn_rnodes hn) (nodeMap σ)
    (map_nodeMap_perm hn σ hσ) (rlt_nodeMap_rnodes hn σ hσ) red x hx

example : ((List.range 3).map (fun i => (i + 1) % 3)).Perm (List.range 3) := by decide
example : nodeMap (fun i => (i + 1) % 3) [[0], [1, 2]] = [[1], [0, 2]] := by decide +kernel

/-! ## Closed forms: `I_mmi` and `I_min` -/

/-- `lminOf` of a non-empty list is its minimum: a member and a lower bound. -/
theorem lminOf_spec {α : Type} [Zero α] [LinearOrder α] (l : List α) (hl : l ≠ []) :
    lminOf l ∈ l ∧ ∀ y ∈ l, lminOf l ≤ y :=
  Lemmas.Lattice.lminOf_spec hl

section Closed
variable {σ : Type} [DecidableEq σ] (t : Tab (List σ) ℝ)

/-- **`I_mmi` closed form**: the minimum over the node's sets of `I(s : T)`. -/
theorem immi_def (T : VSet) (node : RNode) (hne : node ≠ []) :
    immi (Real.logb 2) t T node = lminOf (node.map (fun s => miOf (Real.logb 2) t s T))
    ∧ (∃ s ∈ node, immi (Real.logb 2) t T node = miOf (Real.logb 2) t s T)
    ∧ ∀ s ∈ node, immi (Real.logb 2) t T node ≤ miOf (Real.logb 2) t s T := by
  have hne' : node.map (fun s => miOf (Real.logb 2) t s T) ≠ [] := by simpa using hne
  obtain ⟨h1, h2⟩ := Lemmas.Lattice.lminOf_spec hne'
  refine ⟨rfl, ?_, fun s hs => h2 _ (List.mem_map_of_mem hs)⟩
  obtain ⟨s, hs, e⟩ := List.mem_map.mp h1
  exact ⟨s, hs, e.symm⟩

/-- Self-redundancy of `I_mmi`: on a single-set node it is `I(s : T)`. -/
theorem immi_self (T s : VSet) : immi (Real.logb 2) t T [s] = miOf (Real.logb 2) t s T := rfl

/-- **`I_min` closed form**: the expected (over the target values `τ`, zero-probability values
skipped) minimum over the node's sets of the specific information `I(s ; T = τ)`. -/
theorem imin_def (T : VSet) (node : RNode) :
    imin (Real.logb 2) t T node
      = ((pushforward (project T) t).map (fun τ =>
          if τ.2 = 0 then 0
          else τ.2 * lminOf (node.map (fun s => specificInfo (Real.logb 2) t s T τ.1)))).sum :=
  imin_eq_sum t T node

variable (hnn : ∀ r ∈ t, 0 ≤ r.2)
include hnn

/-- **Specific information averages to the mutual information**:
`Σ_τ p(τ) I(S ; T = τ) = I(S : T)` for a table with non-negative values (non-negativity gives
`p(a,τ) ≠ 0 ⇒ p(a), p(τ) ≠ 0`, which makes the skipped terms vanish consistently). -/
theorem specificInfo_avg (S T : VSet) :
    ((pushforward (project T) t).map (fun τ =>
        if τ.2 = 0 then 0 else τ.2 * specificInfo (Real.logb 2) t S T τ.1)).sum
      = miOf (Real.logb 2) t S T := by
  rw [← specific_avg t hnn S T, Lemmas.ListBasics.lsum_eq_sum]
  exact congrArg List.sum (List.map_congr_left fun τ _ => if_congr beq_iff_eq.symm rfl rfl)

/-- Self-redundancy of `I_min`: on a single-set node it is `I(s : T)`. -/
theorem imin_self (T s : VSet) : imin (Real.logb 2) t T [s] = miOf (Real.logb 2) t s T := by
  rw [← specific_avg t hnn s T]
  rfl

/-- `I(s : T)` as the value of the combination `cmiC s T ∅` (C05), for a table of mass 1
(`hnn` is not needed). -/
theorem miOf_eq_cmi (hmass : (t.map (·.2)).sum = 1) (S T : VSet) :
    miOf (Real.logb 2) t S T
      = Comb.eval (Rat.castHom ℝ) (entropyOf (Real.logb 2) t) (cmiC S T []) := by
  have _ := hnn
  exact Lemmas.Lattice.miOf_eq_cmi t hmass S T

/-- Mutual information with the target grows with the source set. -/
theorem mi_monotone (T : VSet) (a b : VSet) (h : ∀ x ∈ a, x ∈ b) :
    miOf (Real.logb 2) t a T ≤ miOf (Real.logb 2) t b T :=
  miOf_mono t hnn T h

/-- **`I_mmi` is monotone on the lattice**: `a ≤ b` (every set of `b` contains a set of `a`)
implies `I_mmi(a) ≤ I_mmi(b)`; `b` must be non-empty (nodes are). -/
theorem immi_monotone (T : VSet) (a b : RNode) (hb : b ≠ []) (h : rle a b = true) :
    immi (Real.logb 2) t T a ≤ immi (Real.logb 2) t T b :=
  lminOf_map_le_of_rle (fun _ _ hs => miOf_mono t hnn T hs) hb h

/-- **Specific information is monotone in the source set**: for `S ⊆ S'` and every stored
target value `τ` of non-zero probability, `I(S ; T = τ) ≤ I(S' ; T = τ)`. -/
theorem specificInfo_monotone (S S' T : VSet) (hsub : ∀ v ∈ S, v ∈ S') (τ : List σ × ℝ)
    (hτ : τ ∈ pushforward (project T) t) (h0 : τ.2 ≠ 0) :
    specificInfo (Real.logb 2) t S T τ.1 ≤ specificInfo (Real.logb 2) t S' T τ.1 :=
  specific_mono t hnn S S' T hsub hτ h0

/-- **Specific information is non-negative** (table of total mass 1): it is `0` for the empty
source set and monotone in the source set. -/
theorem specificInfo_nonneg (hmass : (t.map (·.2)).sum = 1) (S T : VSet) (τ : List σ × ℝ)
    (hτ : τ ∈ pushforward (project T) t) (h0 : τ.2 ≠ 0) :
    0 ≤ specificInfo (Real.logb 2) t S T τ.1 :=
  specific_nonneg t hnn hmass S T hτ h0

/-- **`I_min` is monotone on the lattice**: `a ≤ b` implies `I_min(a) ≤ I_min(b)`. -/
theorem imin_monotone (T : VSet) (a b : RNode) (hb : b ≠ []) (h : rle a b = true) :
    imin (Real.logb 2) t T a ≤ imin (Real.logb 2) t T b := by
  rw [imin_eq_sum, imin_eq_sum]
  refine List.sum_le_sum fun τ hτ => ?_
  by_cases h0 : τ.2 = 0
  · simp [h0]
  · rw [if_neg h0, if_neg h0]
    exact mul_le_mul_of_nonneg_left
      (lminOf_map_le_of_rle (fun s s' hs => specific_mono t hnn s s' T hs hτ h0) hb h)
      (target_pos t hnn T hτ h0).le

/-- **All `I_mmi` atoms are non-negative**, for 2 or 3 sources (table of non-negative values
with total mass 1): `I_mmi` is of minimum type, `red x = min_{α ∈ x} I(α : T)`, with `I(· : T)`
non-negative and monotone. -/
theorem immi_nonneg (n : Nat) (hn : n = 2 ∨ n = 3) (hmass : (t.map (·.2)).sum = 1) (T : VSet) :
    ∀ x ∈ rnodes n, 0 ≤ lookupD 0 (moebius (rnodes n) (immi (Real.logb 2) t T)) x :=
  min_type_atoms_nonneg hn (fun s => miOf (Real.logb 2) t s T)
    (fun _ _ _ _ hs => miOf_mono t hnn T ((vsubset_iff _ _).mp hs))
    (fun α _ => miOf_nonneg t hnn hmass α T)

/-- **All `I_min` atoms are non-negative**, for 2 or 3 sources (Williams–Beer): `I_min` is a
non-negative combination over the target values of redundancies of minimum type. -/
theorem imin_nonneg (n : Nat) (hn : n = 2 ∨ n = 3) (hmass : (t.map (·.2)).sum = 1) (T : VSet) :
    ∀ x ∈ rnodes n, 0 ≤ lookupD 0 (moebius (rnodes n) (imin (Real.logb 2) t T)) x := by
  intro x hx
  have hnd := nodup_rnodes hn
  have htr := transOn_rnodes hn
  have hred : ∀ z ∈ rnodes n, imin (Real.logb 2) t T z
      = ((pushforward (project T) t).map fun τ =>
          τ.2 * lminOf (z.map fun s => specificInfo (Real.logb 2) t s T τ.1)).sum := by
    intro z _
    rw [imin_eq_sum]
    refine congrArg List.sum (List.map_congr_left fun τ _ => ?_)
    split
    · rename_i h0; rw [h0, zero_mul]
    · rfl
  rw [moebius_congr (rnodes n) hnd htr hred x hx,
    moebius_list_sum (rnodes n) hnd htr (pushforward (project T) t) (fun τ => τ.2)
      (fun τ z => lminOf (z.map fun s => specificInfo (Real.logb 2) t s T τ.1)) x hx]
  refine List.sum_nonneg fun v hv => ?_
  obtain ⟨τ, hτ, rfl⟩ := List.mem_map.mp hv
  by_cases h0 : τ.2 = 0
  · rw [h0, zero_mul]
  · exact mul_nonneg (target_pos t hnn T hτ h0).le (min_type_atoms_nonneg hn _
      (fun α _ β _ hs => specific_mono t hnn α β T ((vsubset_iff _ _).mp hs) hτ h0)
      (fun α _ => specific_nonneg t hnn hmass α T hτ h0) x hx)

/-- **`I_mmi` atoms are non-negative for two sources**: `immi_nonneg` at `n = 2`. -/
theorem immi_nonneg_n2 (hmass : (t.map (·.2)).sum = 1) (T : VSet) :
    ∀ x ∈ rnodes 2, 0 ≤ lookupD 0 (moebius (rnodes 2) (immi (Real.logb 2) t T)) x :=
  immi_nonneg t hnn 2 (Or.inl rfl) hmass T

/-- **`I_min` atoms are non-negative for two sources**: `imin_nonneg` at `n = 2`. -/
theorem imin_nonneg_n2 (hmass : (t.map (·.2)).sum = 1) (T : VSet) :
    ∀ x ∈ rnodes 2, 0 ≤ lookupD 0 (moebius (rnodes 2) (imin (Real.logb 2) t T)) x :=
  imin_nonneg t hnn 2 (Or.inl rfl) hmass T

end Closed

/-- **Redundancies of minimum type have non-negative atoms** (2 or 3 sources): if
`red x = min_{α ∈ x} f α` for a function `f` of the source sets that is non-negative and monotone
under inclusion, then every atom of the decomposition is non-negative. -/
theorem min_type_nonneg (n : Nat) (hn : n = 2 ∨ n = 3) (f : VSet → ℝ)
    (hmono : ∀ α ∈ atomSets n, ∀ β ∈ atomSets n, vsubset α β = true → f α ≤ f β)
    (hnn : ∀ α ∈ atomSets n, 0 ≤ f α) :
    ∀ x ∈ rnodes n, 0 ≤ lookupD 0 (moebius (rnodes n) (fun x => lminOf (x.map f))) x :=
  min_type_atoms_nonneg hn f hmono hnn

example : (∀ α ∈ atomSets 3, ∀ β ∈ atomSets 3, vsubset α β = true →
      (fun s : VSet => (s.length : ℝ)) α ≤ (fun s : VSet => (s.length : ℝ)) β)
    ∧ ∀ α ∈ atomSets 3, (0 : ℝ) ≤ (fun s : VSet => (s.length : ℝ)) α := by
  have h : ∀ α ∈ atomSets 3, ∀ β ∈ atomSets 3, vsubset α β = true → α.length ≤ β.length := by
    decide +kernel
  exact ⟨fun α hα β hβ hs => Nat.cast_le.mpr (h α hα β hβ hs), fun α _ => Nat.cast_nonneg _⟩

/-- Non-vacuity: a table (with a stored zero) of non-negative values and total mass 1. -/
example : (∀ r ∈ ([(["0", "0", "0"], 1 / 2), (["0", "1", "1"], 0), (["1", "1", "0"], 1 / 2)] :
    Tab (List String) ℝ), 0 ≤ r.2)
    ∧ (([(["0", "0", "0"], 1 / 2), (["0", "1", "1"], 0), (["1", "1", "0"], 1 / 2)] :
      Tab (List String) ℝ).map (·.2)).sum = 1 := by
  refine ⟨fun r hr => ?_, by norm_num⟩
  have h : (0 : ℝ) ≤ 1 / 2 := by norm_num
  simp only [List.mem_cons, List.not_mem_nil, or_false] at hr
  rcases hr with rfl | rfl | rfl
  exacts [h, le_rfl, h]
example : ([[0], [1]] : RNode) ≠ [] ∧ rle [[0], [1]] [[0]] = true := by decide

end Dit.Props.C17
