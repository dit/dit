/-
Helper lemmas for the sigma-algebra model (`Core/SigAlg.lean`).
-/
import DitModel.Core.SigAlg
import DitModel.Lemmas.Meet
import Mathlib.Data.List.Nodup
import Mathlib.Data.List.Pairwise
import Mathlib.Data.List.Perm.Subperm

namespace Dit.Lemmas.SigAlg
open Dit Dit.Lemmas.GroupsBy Dit.Lemmas.Meet

/-! ## Canonical subsets: sub-lists of a duplicate-free list -/

section Canon
variable {ε : Type}

theorem eq_of_sublist_of_mem_iff {X s t : List ε} (hX : X.Nodup) (hs : s.Sublist X)
    (ht : t.Sublist X) (h : ∀ x, x ∈ s ↔ x ∈ t) : s = t :=
  (hX.perm_iff_eq_of_sublist hs ht).mp
    ((List.perm_ext_iff_of_nodup (hs.nodup hX) (ht.nodup hX)).mpr h)

theorem eq_of_subset_of_length {X s t : List ε} (hX : X.Nodup) (hs : s.Sublist X)
    (ht : t.Sublist X) (hst : ∀ x ∈ s, x ∈ t) (hlen : t.length ≤ s.length) : s = t :=
  (hX.perm_iff_eq_of_sublist hs ht).mp (((hs.nodup hX).subperm hst).perm_of_length_le hlen)

variable [DecidableEq ε]

theorem sublist_eq_filter {X s : List ε} (hX : X.Nodup) (hs : s.Sublist X) :
    s = X.filter (fun x => s.contains x) := by
  have h : s.Sublist (X.filter (fun x => s.contains x)) := by
    have := hs.filter (fun x => s.contains x)
    rwa [List.filter_eq_self.mpr fun x hx => List.contains_iff_mem.mpr hx] at this
  exact h.eq_of_length_le ((hX.filter _).subperm fun x hx =>
    List.contains_iff_mem.mp (List.mem_filter.mp hx).2).length_le

theorem contains_filter {X : List ε} (p : ε → Bool) {x : ε} (hx : x ∈ X) :
    (X.filter p).contains x = p x := by
  rw [Bool.eq_iff_iff, List.contains_iff_mem, List.mem_filter]
  exact and_iff_right hx

end Canon

section Classes
variable {ε : Type} [DecidableEq ε]

/-- The relation whose classes `colGroups` computes. -/
def colRel (C : List (List ε)) (x y : ε) : Bool := colOf C y == colOf C x

theorem colGroups_eq (C : List (List ε)) (X : List ε) :
    colGroups C X = groupsBy (fun x => X.filter (colRel C x)) X := rfl

theorem colRel_iff (C : List (List ε)) (x y : ε) :
    colRel C x y = true ↔ colOf C x = colOf C y :=
  beq_iff_eq.trans eq_comm

theorem colRel_eqvOn (C : List (List ε)) (X : List ε) : EqvOn (colRel C) X :=
  eqvOn_of_iff (colOf C) (colRel_iff C) X

def Sat (rel : ε → ε → Bool) (X s : List ε) : Prop :=
  ∀ x ∈ X, ∀ y ∈ X, rel x y = true → (x ∈ s ↔ y ∈ s)

variable {rel : ε → ε → Bool} {X : List ε} {gs : List (List ε)}

theorem sat_iff_contains {s : List ε} :
    Sat rel X s ↔ ∀ x ∈ X, ∀ y ∈ X, rel x y = true → s.contains x = s.contains y :=
  forall₂_congr fun x _ => forall₂_congr fun y _ => imp_congr_right fun _ => by
    rw [Bool.eq_iff_iff, List.contains_iff_mem, List.contains_iff_mem]

omit [DecidableEq ε] in
theorem sat_filter {p : ε → Bool} (h : ∀ x ∈ X, ∀ y ∈ X, rel x y = true → p x = p y) :
    Sat rel X (X.filter p) := fun x hx y hy hxy => by
  simp only [List.mem_filter, hx, hy, true_and, h x hx y hy hxy]

theorem colGroups_classes (C : List (List ε)) (X : List ε) :
    Classes (colRel C) X (colGroups C X) :=
  groupsBy_classes (colRel_eqvOn C X)

omit [DecidableEq ε] in
theorem sat_of_classes (hc : Classes rel X gs) {g : List ε} (hg : g ∈ gs) : Sat rel X g :=
  fun x hx y hy hxy => ⟨fun hxg => (hc.mem_iff hg hxg hy).mpr hxy,
    fun hyg => (hc.mem_iff hg hyg hx).mpr (hc.eqvOn.symm x hx y hy hxy)⟩

end Classes

theorem mem_boolWords {k : Nat} {w : List Bool} : w ∈ boolWords k ↔ w.length = k := by
  induction k generalizing w with
  | zero => exact List.mem_singleton.trans List.length_eq_zero_iff.symm
  | succ k ih =>
    rw [boolWords, List.mem_append, List.mem_map, List.mem_map]
    constructor
    · rintro (⟨v, hv, rfl⟩ | ⟨v, hv, rfl⟩) <;> exact congrArg Nat.succ (ih.mp hv)
    · intro h
      cases w with
      | nil => cases h
      | cons b v =>
        have hv : v ∈ boolWords k := ih.mpr (Nat.succ.inj h)
        cases b
        · exact Or.inl ⟨v, hv, rfl⟩
        · exact Or.inr ⟨v, hv, rfl⟩

theorem boolWords_length (k : Nat) : (boolWords k).length = 2 ^ k := by
  induction k with
  | zero => rfl
  | succ k ih =>
    rw [boolWords, List.length_append, List.length_map, List.length_map, ih, Nat.pow_succ,
      Nat.mul_two]

theorem boolWords_nodup (k : Nat) : (boolWords k).Nodup := by
  induction k with
  | zero => exact List.nodup_singleton _
  | succ k ih =>
    rw [boolWords, List.nodup_append]
    refine ⟨ih.map List.cons_injective, ih.map List.cons_injective, fun a ha b hb => ?_⟩
    obtain ⟨v, _, rfl⟩ := List.mem_map.mp ha
    obtain ⟨v', _, rfl⟩ := List.mem_map.mp hb
    exact fun h => Bool.noConfusion (List.cons.inj h).1

section Sigma
variable {ε : Type} [DecidableEq ε]

variable {rel : ε → ε → Bool} {X : List ε} {gs : List (List ε)}

theorem groupIdx_eq_some (hd : gs.Pairwise List.Disjoint) {i : Nat}
    (hi : i < gs.length) {x : ε} (hx : x ∈ gs[i]) : groupIdx gs x = some i :=
  List.findIdx?_eq_some_iff_getElem.mpr ⟨hi, List.contains_iff_mem.mpr hx, fun j hji hj =>
    List.pairwise_iff_getElem.mp hd j i (hji.trans hi) hi hji (List.contains_iff_mem.mp hj) hx⟩

theorem mem_pick_of_mem_group (hd : gs.Pairwise List.Disjoint) {i : Nat} (hi : i < gs.length)
    {x : ε} (hxX : x ∈ X) (hx : x ∈ gs[i]) (w : List Bool) :
    x ∈ pick gs X w ↔ w.getD i false = true := by
  unfold pick
  rw [List.mem_filter, groupIdx_eq_some hd hi hx]
  exact and_iff_right hxX

theorem pick_sublist (gs : List (List ε)) (X : List ε) (w : List Bool) :
    (pick gs X w).Sublist X := List.filter_sublist

theorem mem_map_pick_iff (hX : X.Nodup) (hc : Classes rel X gs) (s : List ε) :
    s ∈ (boolWords gs.length).map (pick gs X) ↔ s.Sublist X ∧ Sat rel X s := by
  constructor
  · intro hs
    obtain ⟨w, _, rfl⟩ := List.mem_map.mp hs
    refine ⟨pick_sublist _ _ _, fun x hx y hy hxy => ?_⟩
    obtain ⟨g, hg, hxg⟩ := hc.cover x hx
    have hyg := (hc.mem_iff hg hxg hy).mpr hxy
    obtain ⟨i, hi, rfl⟩ := List.getElem_of_mem hg
    rw [mem_pick_of_mem_group hc.disj hi hx hxg, mem_pick_of_mem_group hc.disj hi hy hyg]
  · rintro ⟨hs, hsat⟩
    refine List.mem_map.mpr ⟨gs.map (fun g => g.any (fun x => s.contains x)),
      mem_boolWords.mpr (List.length_map _), ?_⟩
    refine eq_of_sublist_of_mem_iff hX (pick_sublist _ _ _) hs fun x => ?_
    by_cases hx : x ∈ X
    · obtain ⟨g, hg, hxg⟩ := hc.cover x hx
      obtain ⟨i, hi, rfl⟩ := List.getElem_of_mem hg
      rw [mem_pick_of_mem_group hc.disj hi hx hxg, List.getD_eq_getElem?_getD, List.getElem?_map,
        List.getElem?_eq_getElem hi, Option.map_some, Option.getD_some, List.any_eq_true]
      constructor
      · rintro ⟨y, hy, hys⟩
        have hyX := hc.mem_X hg hy
        exact (hsat x hx y hyX ((hc.mem_iff hg hxg hyX).mp hy)).mpr (List.contains_iff_mem.mp hys)
      · exact fun hxs => ⟨x, hxg, List.contains_iff_mem.mpr hxs⟩
    · exact ⟨fun h => absurd ((pick_sublist _ _ _).subset h) hx, fun h => absurd (hs.subset h) hx⟩

theorem pick_inj (hc : Classes rel X gs) {w w' : List Bool} (hw : w.length = gs.length)
    (hw' : w'.length = gs.length) (h : pick gs X w = pick gs X w') : w = w' := by
  apply List.ext_getElem (hw.trans hw'.symm)
  intro i h1 h2
  have hi : i < gs.length := hw ▸ h1
  obtain ⟨x, hx⟩ := List.exists_mem_of_ne_nil _ (hc.ne _ (List.getElem_mem hi))
  have hxX : x ∈ X := hc.mem_X (List.getElem_mem hi) hx
  have a := mem_pick_of_mem_group hc.disj hi hxX hx w
  rw [h, mem_pick_of_mem_group hc.disj hi hxX hx w', List.getD_eq_getElem?_getD,
    List.getD_eq_getElem?_getD, List.getElem?_eq_getElem h1, List.getElem?_eq_getElem h2,
    Option.getD_some, Option.getD_some] at a
  exact Bool.eq_iff_iff.mpr a.symm

theorem map_pick_nodup (hc : Classes rel X gs) :
    ((boolWords gs.length).map (pick gs X)).Nodup := by
  apply List.Nodup.map_on _ (boolWords_nodup _)
  intro w hw w' hw' h
  exact pick_inj hc (mem_boolWords.mp hw) (mem_boolWords.mp hw') h

variable {F : List (List ε)}

theorem mem_atomSet {a : List ε} :
    a ∈ atomSet F ↔ a ∈ F ∧ a ≠ [] ∧
      ∀ o ∈ F, o ≠ [] → (∀ x ∈ o, x ∈ a) → o.length = a.length := by
  simp only [atomSet, List.mem_filter, Bool.and_eq_true, Bool.not_eq_true',
    List.isEmpty_eq_false_iff, List.any_eq_false, List.all_eq_true, bne_iff_ne, ne_eq,
    List.contains_iff_mem, not_and, and_imp, not_imp_not]

theorem mem_atomSet_iff (hX : X.Nodup) (hc : Classes rel X gs)
    (hF : ∀ s, s ∈ F ↔ s.Sublist X ∧ Sat rel X s) (a : List ε) :
    a ∈ atomSet F ↔ a ∈ gs := by
  have hcl : ∀ g ∈ gs, g ∈ F := fun g hg => (hF g).mpr ⟨hc.sublist hg, sat_of_classes hc hg⟩
  -- a member that meets a class contains it
  have hin : ∀ o ∈ F, ∀ g ∈ gs, ∀ x ∈ g, x ∈ o → ∀ y ∈ g, y ∈ o :=
    fun o ho g hg x hxg hxo y hy =>
    have hyX := hc.mem_X hg hy
    (((hF o).mp ho).2 x (hc.mem_X hg hxg) y hyX ((hc.mem_iff hg hxg hyX).mp hy)).mp hxo
  rw [mem_atomSet]
  constructor
  · rintro ⟨haF, hane, hmin⟩
    obtain ⟨x, hxa⟩ := List.exists_mem_of_ne_nil _ hane
    have hsub := ((hF a).mp haF).1
    obtain ⟨g, hg, hxg⟩ := hc.cover x (hsub.subset hxa)
    have hga := hin a haF g hg x hxg hxa
    rw [← eq_of_subset_of_length hX (hc.sublist hg) hsub hga
      (hmin g (hcl g hg) (hc.ne g hg) hga).ge]
    exact hg
  · intro hg
    refine ⟨hcl a hg, hc.ne a hg, fun o hoF hone hoa => ?_⟩
    obtain ⟨y, hyo⟩ := List.exists_mem_of_ne_nil _ hone
    rw [eq_of_sublist_of_mem_iff hX ((hF o).mp hoF).1 (hc.sublist hg) fun z =>
      ⟨hoa z, hin o hoF a hg y (hoa y hyo) hyo z⟩]

structure Closed (X : List ε) (F : List (List ε)) : Prop where
  compl : ∀ s ∈ F, complIn X s ∈ F
  union : ∀ s ∈ F, ∀ t ∈ F, unionIn X s t ∈ F

theorem isSigmaAlgebra_iff : isSigmaAlgebra F X = true ↔
    ([] ∈ F ∧ X ∈ F) ∧ F.length = 2 ^ (colGroups F X).length := by
  simp only [isSigmaAlgebra, Bool.and_eq_true, List.contains_iff_mem, beq_iff_eq]

theorem isSigmaAlgebraBrute_iff : isSigmaAlgebraBrute F X = true ↔ Closed X F := by
  unfold isSigmaAlgebraBrute
  simp only [List.all_eq_true, Bool.and_eq_true, List.contains_eq_mem, decide_eq_true_eq]
  exact ⟨fun h => ⟨fun s hs => (h s hs).1, fun s hs => (h s hs).2⟩,
    fun h s hs => ⟨h.compl s hs, h.union s hs⟩⟩

theorem closed_of_sat (hF : ∀ s, s ∈ F ↔ s.Sublist X ∧ Sat rel X s) : Closed X F where
  compl s hs := (hF _).mpr ⟨List.filter_sublist, sat_filter fun x hx y hy hxy =>
    congrArg not (sat_iff_contains.mp ((hF s).mp hs).2 x hx y hy hxy)⟩
  union s hs t ht := (hF _).mpr ⟨List.filter_sublist, sat_filter fun x hx y hy hxy =>
    congrArg₂ or (sat_iff_contains.mp ((hF s).mp hs).2 x hx y hy hxy)
      (sat_iff_contains.mp ((hF t).mp ht).2 x hx y hy hxy)⟩

end Sigma

section Generated
variable {ε : Type} [DecidableEq ε]

theorem colOf_eq_iff (C : List (List ε)) (x y : ε) :
    colOf C x = colOf C y ↔ ∀ c ∈ C, c.contains x = c.contains y := by
  unfold colOf
  exact List.map_inj_left

theorem mem_sigmaAlgebra_sat (C : List (List ε)) {X : List ε} (hX : X.Nodup) (s : List ε) :
    s ∈ sigmaAlgebra C X ↔ s.Sublist X ∧ Sat (colRel C) X s :=
  mem_map_pick_iff hX (colGroups_classes C X) s

theorem contains_eq_of_colRel {C : List (List ε)} {x y : ε} (h : colRel C x y = true)
    {c : List ε} (hc : c ∈ C) : c.contains x = c.contains y :=
  (colOf_eq_iff C x y).mp ((colRel_iff C x y).mp h) c hc

theorem gen_mem_sigmaAlgebra (C : List (List ε)) {X : List ε} (hX : X.Nodup) {c : List ε}
    (hc : c ∈ C) : X.filter (fun x => c.contains x) ∈ sigmaAlgebra C X :=
  (mem_sigmaAlgebra_sat C hX _).mpr
    ⟨List.filter_sublist, sat_filter fun _ _ _ _ h => contains_eq_of_colRel h hc⟩

theorem colOf_sigma_iff (C : List (List ε)) {X : List ε} (hX : X.Nodup) {x y : ε} (hx : x ∈ X)
    (hy : y ∈ X) :
    colOf (sigmaAlgebra C X) x = colOf (sigmaAlgebra C X) y ↔ colOf C x = colOf C y := by
  rw [colOf_eq_iff, colOf_eq_iff]
  constructor
  · intro h c hc
    have := h _ (gen_mem_sigmaAlgebra C hX hc)
    rwa [contains_filter _ hx, contains_filter _ hy] at this
  · intro h s hs
    exact sat_iff_contains.mp ((mem_sigmaAlgebra_sat C hX s).mp hs).2 x hx y hy
      ((colRel_iff C x y).mpr ((colOf_eq_iff C x y).mpr h))

theorem colGroups_congr {C C' : List (List ε)} {X : List ε}
    (h : ∀ x ∈ X, ∀ y ∈ X, colOf C x = colOf C y ↔ colOf C' x = colOf C' y) :
    colGroups C X = colGroups C' X := by
  rw [colGroups_eq, colGroups_eq]
  refine groupsBy_congr fun x hx => List.filter_congr fun y hy => Bool.eq_iff_iff.mpr ?_
  rw [colRel_iff, colRel_iff]
  exact h x hx y hy

theorem subset_sigmaAlgebra {F : List (List ε)} {X : List ε} (hX : X.Nodup)
    (hsub : ∀ s ∈ F, s.Sublist X) : ∀ s ∈ F, s ∈ sigmaAlgebra F X := fun s hs =>
  (mem_sigmaAlgebra_sat F hX s).mpr
    ⟨hsub s hs, sat_iff_contains.mpr fun _ _ _ _ h => contains_eq_of_colRel h hs⟩

/-! ### Leastness

A closed family is closed under the Boolean operations on the predicates `p` of its members
`X.filter p`; the class of `r` is the intersection, over the generators `c`, of `c` or its
complement, and a saturated set is the union of the classes of its members. -/

variable {X : List ε} {F : List (List ε)}

theorem Closed.univ_mem (h : Closed X F) (hne : F ≠ []) : X ∈ F := by
  obtain ⟨s, hs⟩ := List.exists_mem_of_ne_nil _ hne
  have e : unionIn X s (complIn X s) = X :=
    List.filter_eq_self.mpr fun x hx => by rw [complIn, contains_filter _ hx, Bool.or_not_self]
  exact e ▸ h.union s hs _ (h.compl s hs)

theorem Closed.nil_mem (h : Closed X F) (hne : F ≠ []) : [] ∈ F := by
  have e : complIn X X = [] :=
    List.filter_eq_nil_iff.mpr fun x hx => by
      rw [List.contains_iff_mem.mpr hx]; exact Bool.noConfusion
  exact e ▸ h.compl X (h.univ_mem hne)

theorem Closed.filter_not (h : Closed X F) {p : ε → Bool} (hp : X.filter p ∈ F) :
    X.filter (fun x => !p x) ∈ F := by
  have e : complIn X (X.filter p) = X.filter (fun x => !p x) :=
    List.filter_congr fun x hx => by rw [contains_filter p hx]
  exact e ▸ h.compl _ hp

theorem Closed.filter_or (h : Closed X F) {p q : ε → Bool} (hp : X.filter p ∈ F)
    (hq : X.filter q ∈ F) : X.filter (fun x => p x || q x) ∈ F := by
  have e : unionIn X (X.filter p) (X.filter q) = X.filter (fun x => p x || q x) :=
    List.filter_congr fun x hx => by rw [contains_filter p hx, contains_filter q hx]
  exact e ▸ h.union _ hp _ hq

theorem Closed.filter_and (h : Closed X F) {p q : ε → Bool} (hp : X.filter p ∈ F)
    (hq : X.filter q ∈ F) : X.filter (fun x => p x && q x) ∈ F := by
  have := h.filter_not (h.filter_or (h.filter_not hp) (h.filter_not hq))
  simpa only [Bool.not_or, Bool.not_not] using this

theorem Closed.filter_any (h : Closed X F) (hne : F ≠ []) {ι : Type} (q : ι → ε → Bool)
    (R : List ι) (hq : ∀ r ∈ R, X.filter (q r) ∈ F) :
    X.filter (fun x => R.any (fun r => q r x)) ∈ F := by
  induction R with
  | nil =>
    have e : X.filter (fun x => ([] : List ι).any fun r => q r x) = [] :=
      List.filter_eq_nil_iff.mpr fun _ _ => Bool.noConfusion
    exact e ▸ h.nil_mem hne
  | cons r R ih =>
    simp only [List.any_cons]
    exact h.filter_or (hq r List.mem_cons_self) (ih fun r' hr' => hq r' (List.mem_cons_of_mem _ hr'))

theorem colRel_cons (c : List ε) (D : List (List ε)) (x y : ε) :
    colRel (c :: D) x y = ((c.contains y == c.contains x) && colRel D x y) := rfl

theorem Closed.class_mem (h : Closed X F) (hne : F ≠ []) (D : List (List ε))
    (hgen : ∀ c ∈ D, X.filter (fun x => c.contains x) ∈ F) (r : ε) :
    X.filter (colRel D r) ∈ F := by
  induction D with
  | nil =>
    rw [List.filter_eq_self.mpr fun _ _ => (rfl : colRel [] r _ = true)]
    exact h.univ_mem hne
  | cons c D ih =>
    have hc := hgen c List.mem_cons_self
    have hD := ih fun c' hc' => hgen c' (List.mem_cons_of_mem _ hc')
    rw [funext (colRel_cons c D r)]
    refine h.filter_and ?_ hD
    cases c.contains r
    · simpa only [beq_false] using h.filter_not hc
    · simpa only [beq_true] using hc

end Generated

section Partition
variable {ε : Type} [DecidableEq ε] {rel : ε → ε → Bool} {X : List ε} {gs : List (List ε)}

theorem colRel_classes_iff (hc : Classes rel X gs) {x y : ε} (hx : x ∈ X) (hy : y ∈ X) :
    colRel gs x y = true ↔ rel x y = true := by
  rw [colRel_iff, colOf_eq_iff]
  constructor
  · intro h
    obtain ⟨g, hg, hxg⟩ := hc.cover x hx
    rw [← hc.mem_iff hg hxg hy, ← List.contains_iff_mem, ← h g hg]
    exact List.contains_iff_mem.mpr hxg
  · exact fun hxy g hg => sat_iff_contains.mp (sat_of_classes hc hg) x hx y hy hxy

theorem colGroups_of_classes (hc : Classes rel X gs) (a : List ε) :
    a ∈ colGroups gs X ↔ a ∈ gs := by
  rw [mem_classes_iff (colGroups_classes gs X), mem_classes_iff hc]
  have e : ∀ x ∈ X, X.filter (colRel gs x) = X.filter (rel x) := fun x hx =>
    List.filter_congr fun y hy => Bool.eq_iff_iff.mpr (colRel_classes_iff hc hx hy)
  constructor <;> rintro ⟨x, hx, rfl⟩ <;> exact ⟨x, hx, by rw [e x hx]⟩

def blockRel (P : List (List ε)) (x y : ε) : Bool := P.any (fun b => b.contains x && b.contains y)

theorem blockRel_iff {P : List (List ε)} {x y : ε} :
    blockRel P x y = true ↔ ∃ b ∈ P, x ∈ b ∧ y ∈ b := by
  simp only [blockRel, List.any_eq_true, Bool.and_eq_true, List.contains_iff_mem]

variable {P : List (List ε)}

omit [DecidableEq ε] in
theorem block_unique (hdisj : P.Pairwise List.Disjoint) {b b' : List ε} (hb : b ∈ P) (hb' : b' ∈ P)
    {x : ε} (hx : x ∈ b) (hx' : x ∈ b') : b = b' := by
  have : Std.Symm (α := List ε) List.Disjoint := ⟨fun _ _ => List.disjoint_symm⟩
  exact by_contra fun hne => hdisj.forall hb hb' hne hx hx'

theorem partition_classes (hX : X.Nodup) (hsub : ∀ b ∈ P, b ≠ [] ∧ b.Sublist X)
    (hdisj : P.Pairwise List.Disjoint) (hcover : ∀ x ∈ X, ∃ b ∈ P, x ∈ b) :
    Classes (blockRel P) X P := by
  refine ⟨fun b hb => (hsub b hb).1, fun b hb x hx => ?_, hdisj, hcover⟩
  refine eq_of_sublist_of_mem_iff hX (hsub b hb).2 List.filter_sublist fun y => ?_
  rw [List.mem_filter]
  constructor
  · intro hy
    exact ⟨(hsub b hb).2.subset hy, blockRel_iff.mpr ⟨b, hb, hx, hy⟩⟩
  · rintro ⟨_, h⟩
    obtain ⟨b', hb', h1, h2⟩ := blockRel_iff.mp h
    rw [block_unique hdisj hb hb' hx h1]; exact h2

end Partition

/-! ## The sigma-algebra route to join and meet -/

section Lattice
variable {σ : Type} [DecidableEq σ] {g : List Nat} {groups : List (List Nat)}
  {rows : List (List σ)}

theorem inducedAtoms_classes (g : List Nat) (rows : List (List σ)) :
    Classes (sameOn g) rows (inducedAtoms g rows) :=
  groupsBy_classes (eqvOn_of_iff (project g) (sameOn_iff g) rows)

theorem meetClasses_classes (groups : List (List Nat)) (rows : List (List σ)) :
    Classes (reachB (linkRel groups) rows) rows (meetClasses groups rows) := by
  rw [meetClasses_eq]
  exact (meet_equivOn groups rows).classes

theorem inducedAtoms_eq_joinClasses (g : List Nat) (rows : List (List σ)) :
    inducedAtoms g rows = joinClasses [g] rows :=
  classesBy_congr fun _ _ => List.filter_congr fun _ _ => (Bool.and_true _).symm

theorem mem_inducedSigalg_iff (hr : rows.Nodup) (s : List (List σ)) :
    s ∈ inducedSigalg g rows ↔ s.Sublist rows ∧ Sat (sameOn g) rows s := by
  unfold inducedSigalg
  rw [mem_sigmaAlgebra_sat _ hr]
  refine and_congr_right fun _ => forall₂_congr fun x hx => forall₂_congr fun y hy => ?_
  rw [colRel_classes_iff (inducedAtoms_classes g rows) hx hy]

theorem colOf_inducedSigalg_iff (hr : rows.Nodup) {x y : List σ} (hx : x ∈ rows) (hy : y ∈ rows) :
    colOf (inducedSigalg g rows) x = colOf (inducedSigalg g rows) y ↔ sameOn g x y = true := by
  unfold inducedSigalg
  rw [colOf_sigma_iff _ hr hx hy, ← colRel_iff]
  exact colRel_classes_iff (inducedAtoms_classes g rows) hx hy

theorem colOf_flatMap {ε ι : Type} [DecidableEq ε] (l : List ι) (f : ι → List (List ε)) (x y : ε) :
    colOf (l.flatMap f) x = colOf (l.flatMap f) y ↔ ∀ i ∈ l, colOf (f i) x = colOf (f i) y := by
  simp only [colOf_eq_iff, List.mem_flatMap]
  exact ⟨fun h i hi c hc => h c ⟨i, hi, hc⟩, fun h c ⟨i, hi, hc⟩ => h i hi c hc⟩

theorem joinSigalg_colGroups (groups : List (List Nat)) (hr : rows.Nodup) :
    colGroups (groups.flatMap (fun g => inducedSigalg g rows)) rows = joinClasses groups rows := by
  rw [colGroups_eq]
  unfold joinClasses
  -- `classesBy` tests membership with the `BEq` of lists over `σ`, `colGroups` with the one that
  -- comes from `DecidableEq (List σ)`
  rw [classesBy_eq, lawful_beq_subsingleton (instBEqOfDecidableEq : BEq (List σ)) List.instBEq]
  refine groupsBy_congr fun x hx => List.filter_congr fun y hy => Bool.eq_iff_iff.mpr ?_
  rw [colRel_iff, colOf_flatMap, joinRel_iff]
  exact forall₂_congr fun g _ => (colOf_inducedSigalg_iff hr hx hy).trans (sameOn_iff g x y)

theorem mem_meetSigalg_iff' (hg : groups ≠ []) (s : List (List σ)) :
    s ∈ meetSigalg groups rows ↔ ∀ g ∈ groups, s ∈ inducedSigalg g rows := by
  cases groups with
  | nil => exact absurd rfl hg
  | cons g gs =>
    simp only [meetSigalg, List.mem_filter, List.all_eq_true, List.contains_eq_mem,
      decide_eq_true_eq, List.forall_mem_cons]

theorem mem_meetSigalg_iff (hg : groups ≠ []) (hr : rows.Nodup) (s : List (List σ)) :
    s ∈ meetSigalg groups rows
      ↔ s.Sublist rows ∧ Sat (reachB (linkRel groups) rows) rows s := by
  rw [mem_meetSigalg_iff' hg]
  simp only [mem_inducedSigalg_iff hr]
  constructor
  · intro h
    obtain ⟨g0, hg0⟩ := List.exists_mem_of_ne_nil _ hg
    refine ⟨(h g0 hg0).1, fun x hx y _ hxy => ?_⟩
    have hℓ : ∀ g ∈ groups, ∀ o ∈ rows, ∀ o' ∈ rows, project g o = project g o' →
        decide (o ∈ s) = decide (o' ∈ s) := fun g hgm o ho o' ho' e =>
      decide_eq_decide.mpr ((h g hgm).2 o ho o' ho' ((sameOn_iff g o o').mpr e))
    exact decide_eq_decide.mp (const_of_reach groups rows _ hℓ hx (reachB_iff.mp hxy))
  · rintro ⟨hsub, hsat⟩ g hgm
    exact ⟨hsub, fun x hx y hy hxy => hsat x hx y hy (reachB_iff.mpr (Reach.single hy
      ((linkRel_iff groups x y).mpr ⟨g, hgm, (sameOn_iff g x y).mp hxy⟩)))⟩

end Lattice

end Dit.Lemmas.SigAlg
