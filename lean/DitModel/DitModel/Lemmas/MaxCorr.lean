/-
Helper lemmas for the trace / chi-square identity of the maximum-correlation companion matrix.
Property theorems are in Props/C06MaxCorr.lean.
-/
import DitModel.Lemmas.Diverge

namespace Dit.Lemmas.MaxCorr
open Dit Dit.Lemmas.ListBasics Dit.Lemmas.Table Dit.Lemmas.InfoReal Dit.Lemmas.Diverge

theorem colSum_nonneg (P : List (List ℝ)) (hnn : ∀ row ∈ P, ∀ x ∈ row, 0 ≤ x) (k : Nat) :
    0 ≤ colSum P k :=
  sum_map_nonneg _ _ (fun row hrow => getD_nonneg row (hnn row hrow) k)

theorem rowsum_eq_rsum (row : List ℝ) (n : Nat) (h : row.length = n) :
    row.sum = rsum n (fun j => row.getD j 0) :=
  (sum_range_getD h).symm

theorem rsum_list_comm {β : Type} (n : Nat) (l : List β) (f : Nat → β → ℝ) :
    rsum n (fun j => (l.map (fun b => f j b)).sum) = (l.map (fun b => rsum n (fun j => f j b))).sum :=
  sum_comm _ _ _

theorem rsum_colSum (P : List (List ℝ)) (n : Nat) (hlen : ∀ row ∈ P, row.length = n) :
    rsum n (fun k => colSum P k) = (P.map List.sum).sum :=
  (rsum_list_comm n P _).trans
    (congrArg _ (List.map_congr_left fun row hrow => (rowsum_eq_rsum row n (hlen row hrow)).symm))

theorem cell_zero (P : List (List ℝ)) (hnn : ∀ row ∈ P, ∀ x ∈ row, 0 ≤ x) (row : List ℝ)
    (hrow : row ∈ P) (j : Nat) (h : row.sum * colSum P j = 0) : row.getD j 0 = 0 := by
  rcases mul_eq_zero.mp h with h | h
  · exact getD_eq_zero_of_sum row (hnn row hrow) h j
  · exact (sum_map_eq_zero_iff P _ fun r hr => getD_nonneg r (hnn r hr) j).mp h row hrow

theorem cell_nonneg (P : List (List ℝ)) (hnn : ∀ row ∈ P, ∀ x ∈ row, 0 ≤ x) (row : List ℝ)
    (hrow : row ∈ P) (j : Nat) :
    0 ≤ (row.getD j 0 - row.sum * colSum P j) ^ 2 / (row.sum * colSum P j) :=
  div_nonneg (sq_nonneg _) (mul_nonneg (List.sum_nonneg (hnn row hrow)) (colSum_nonneg P hnn j))

/-- As `t / 0 = 0`, the guard against a zero marginal changes nothing. -/
theorem ite_div_mul (a b t : ℝ) : (if a = 0 ∨ b = 0 then 0 else t / (a * b)) = t / (a * b) := by
  split_ifs with h
  · rw [mul_eq_zero.mpr h, div_zero]
  · rfl

theorem sq_div_expand (x m : ℝ) (h : m = 0 → x = 0) :
    (x - m) ^ 2 / m = x * x / m - 2 * x + m := by
  by_cases hm : m = 0
  · rw [h hm, hm]; simp
  · field_simp; ring

theorem sq_div_eq_zero_iff (x m : ℝ) (h : m = 0 → x = 0) : (x - m) ^ 2 / m = 0 ↔ x = m := by
  by_cases hm : m = 0
  · simp [hm, h hm]
  · rw [div_eq_zero_iff, or_iff_left hm, sq_eq_zero_iff, sub_eq_zero]

/-! ### The quadratic form of the companion matrix -/

/-- `(A v)_j = Σ_i P_ij / p_X(i) · Σ_k P_ik v_k / p_Y(k)`. -/
theorem cc_apply (P : List (List ℝ)) (n : Nat) (v : Nat → ℝ) (j : Nat) :
    rsum n (fun k => ccEntry P j k * v k)
      = (P.map (fun row => row.getD j 0 / row.sum
          * rsum n (fun k => row.getD k 0 * (v k / colSum P k)))).sum := by
  simp only [ccEntry_eq_sum, ← List.sum_map_mul_right, ← rsum_mul_left]
  rw [rsum_list_comm]
  refine congrArg _ (List.map_congr_left fun row _ => rsum_congr n _ _ fun k _ => ?_)
  ring

/-- `Σ_j w_j (A v)_j = Σ_i (Σ_k P_ik w_k)² / p_X(i)` with `w_j = v_j / p_Y(j)`. -/
theorem cc_quad (P : List (List ℝ)) (n : Nat) (v : Nat → ℝ) :
    rsum n (fun j => v j / colSum P j * rsum n (fun k => ccEntry P j k * v k))
      = (P.map (fun row => (rsum n (fun k => row.getD k 0 * (v k / colSum P k))) ^ 2
          / row.sum)).sum := by
  simp only [cc_apply, ← List.sum_map_mul_left]
  rw [rsum_list_comm]
  refine congrArg _ (List.map_congr_left fun row _ => ?_)
  rw [sq, mul_div_assoc, ← rsum_mul_right]
  exact rsum_congr n _ _ fun j _ => by ring

/-! ### Faddeev–LeVerrier, first step -/

theorem foldl_snd_head {β γ : Type} (f : β × List γ → Nat → β × List γ)
    (hf : ∀ acc k, ∃ c, (f acc k).2 = acc.2 ++ [c]) (l : List Nat) (acc : β × List γ)
    (hne : acc.2 ≠ []) :
    (l.foldl f acc).2.head? = acc.2.head? := by
  induction l generalizing acc with
  | nil => rfl
  | cons k t ih =>
    obtain ⟨c, hc⟩ := hf acc k
    rw [List.foldl_cons, ih (f acc k) (by rw [hc]; simp), hc, List.head?_append_of_ne_nil _ hne]

theorem matMul_ident (A : List (List ℝ)) (n : Nat) (hsq : ∀ row ∈ A, row.length = n) :
    matMul A ((List.range n).map (fun i => (List.range n).map (fun j => if i = j then (1 : ℝ) else 0)))
      = A := by
  have hh : ((((List.range n).map (fun i => (List.range n).map
      (fun j => if i = j then (1 : ℝ) else 0))).head?).getD []).length = n := by
    cases n with
    | zero => rfl
    | succ m => simp [List.range_succ_eq_map]
  unfold matMul
  rw [hh]
  refine (List.map_congr_left fun row hrow => ?_).trans (List.map_id A)
  rw [id, ← map_range_getD row 0, hsq row hrow]
  refine List.map_congr_left fun k hk => ?_
  have hk' : k < n := List.mem_range.mp hk
  rw [lsum_eq_sum, zipWith_map_map]
  refine (rsum_congr n _ _ fun i _ => ?_).trans (rsum_ite_eq' n k hk' (fun i => row.getD i 0))
  rw [getD_range_map _ 0 hk', mul_ite, mul_one, mul_zero]

end Dit.Lemmas.MaxCorr
