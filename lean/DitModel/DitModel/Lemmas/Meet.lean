/-
Helper lemmas for C16 (meet, join, minimal sufficient statistic): the partition computed by
`classesBy`, the join relation, the connected components computed by `component`, entropies of
pushforwards along equivalent / coarser maps, the `mss` relation.
-/
import DitModel.Core.Meet
import DitModel.Lemmas.GroupsBy
import DitModel.Lemmas.InfoReal
import DitModel.Lemmas.Constructors
import Mathlib.Logic.Relation
import Mathlib.Logic.Function.Iterate

namespace Dit.Lemmas.Meet
open Dit Dit.Lemmas.Table Dit.Lemmas.GroupsBy

/-! ## `classesBy`: the partition of `rows` into the classes of an equivalence relation -/

section Classes
variable {σ : Type} [DecidableEq σ]

structure EquivOn (rel : List σ → List σ → Bool) (rows : List (List σ)) : Prop where
  refl : ∀ o ∈ rows, rel o o = true
  symm : ∀ o ∈ rows, ∀ o' ∈ rows, rel o o' = true → rel o' o = true
  trans : ∀ o ∈ rows, ∀ o' ∈ rows, ∀ o'' ∈ rows, rel o o' = true → rel o' o'' = true →
    rel o o'' = true

def Disj (c c' : List (List σ)) : Prop := ∀ o, o ∈ c → o ∉ c'

theorem classesBy_eq (cf : List σ → List (List σ)) (rows : List (List σ)) :
    classesBy cf rows = groupsBy cf rows := rfl

theorem classesBy_congr {cf cf' : List σ → List (List σ)} {l : List (List σ)}
    (h : ∀ o ∈ l, cf o = cf' o) : classesBy cf l = classesBy cf' l :=
  groupsBy_congr h

variable {rel : List σ → List σ → Bool} {rows : List (List σ)}

omit [DecidableEq σ] in
theorem EquivOn.eqvOn (he : EquivOn rel rows) : EqvOn rel rows :=
  ⟨he.refl, he.symm, he.trans⟩

theorem EquivOn.classes (he : EquivOn rel rows) :
    Classes rel rows (classesBy (fun o => rows.filter (rel o)) rows) :=
  groupsBy_classes he.eqvOn

theorem classes_cover (he : EquivOn rel rows) {o : List σ} (ho : o ∈ rows) :
    ∃ c ∈ classesBy (fun o => rows.filter (rel o)) rows, o ∈ c :=
  he.classes.cover o ho

theorem classes_disjoint (he : EquivOn rel rows) :
    (classesBy (fun o => rows.filter (rel o)) rows).Pairwise Disj :=
  he.classes.disj

theorem mem_rows_of_mem_class (he : EquivOn rel rows) {c : List (List σ)}
    (hc : c ∈ classesBy (fun o => rows.filter (rel o)) rows) {x : List σ} (hx : x ∈ c) :
    x ∈ rows :=
  he.classes.mem_X hc hx

theorem class_ne_nil (he : EquivOn rel rows) {c : List (List σ)}
    (hc : c ∈ classesBy (fun o => rows.filter (rel o)) rows) : c ≠ [] :=
  he.classes.ne c hc

theorem mem_class_iff (he : EquivOn rel rows) {c : List (List σ)}
    (hc : c ∈ classesBy (fun o => rows.filter (rel o)) rows) {x y : List σ} (hx : x ∈ c)
    (hy : y ∈ rows) : y ∈ c ↔ rel x y = true :=
  he.classes.mem_iff hc hx hy

theorem labelOf_spec {classes : List (List (List σ))} {o : List σ}
    (h : ∃ c ∈ classes, o ∈ c) :
    ∃ i, labelOf classes o = i ∧ ∃ hi : i < classes.length, o ∈ classes[i] := by
  unfold labelOf
  cases hf : classes.findIdx? (fun c => c.contains o) with
  | none =>
    obtain ⟨c, hc, hoc⟩ := h
    have := List.findIdx?_eq_none_iff.mp hf c hc
    simp [hoc] at this
  | some i =>
    obtain ⟨hi, hp, _⟩ := List.findIdx?_eq_some_iff_getElem.mp hf
    exact ⟨i, rfl, hi, by simpa using hp⟩

/-- An outcome in no class gets the label `classes.length`. -/
theorem labelOf_of_not_mem {classes : List (List (List σ))} {o : List σ}
    (h : ∀ c ∈ classes, o ∉ c) : labelOf classes o = classes.length := by
  unfold labelOf
  have : classes.findIdx? (fun c => c.contains o) = none := by
    rw [List.findIdx?_eq_none_iff]
    intro c hc
    simpa using h c hc
  rw [this]; rfl

omit [DecidableEq σ] in
theorem index_unique {classes : List (List (List σ))} (hd : classes.Pairwise Disj) {o : List σ}
    {i j : Nat} (hi : i < classes.length) (hj : j < classes.length) (hoi : o ∈ classes[i])
    (hoj : o ∈ classes[j]) : i = j := by
  rw [List.pairwise_iff_getElem] at hd
  rcases Nat.lt_trichotomy i j with h | h | h
  · exact absurd hoj (hd i j hi hj h o hoi)
  · exact h
  · exact absurd hoi (hd j i hj hi h o hoj)

theorem labelOf_eq_iff (he : EquivOn rel rows) {o o' : List σ} (ho : o ∈ rows) (ho' : o' ∈ rows) :
    labelOf (classesBy (fun o => rows.filter (rel o)) rows) o
        = labelOf (classesBy (fun o => rows.filter (rel o)) rows) o'
      ↔ rel o o' = true := by
  obtain ⟨i, ei, hi, hoi⟩ := labelOf_spec (classes_cover he ho)
  obtain ⟨j, ej, hj, hoj⟩ := labelOf_spec (classes_cover he ho')
  rw [ei, ej]
  constructor
  · intro e
    subst e
    exact (mem_class_iff he (List.getElem_mem hi) hoi ho').mp hoj
  · intro hr
    have := (mem_class_iff he (List.getElem_mem hi) hoi ho').mpr hr
    exact index_unique (classes_disjoint he) hi hj this hoj

theorem label_lt (he : EquivOn rel rows) {o : List σ} (ho : o ∈ rows) :
    labelOf (classesBy (fun o => rows.filter (rel o)) rows) o
      < (classesBy (fun o => rows.filter (rel o)) rows).length := by
  obtain ⟨i, ei, hi, _⟩ := labelOf_spec (classes_cover he ho)
  rw [ei]; exact hi

end Classes

section Join
variable {σ : Type} [DecidableEq σ]

theorem sameOn_iff (g : List Nat) (o o' : List σ) :
    sameOn g o o' = true ↔ project g o = project g o' := by
  simp [sameOn]

theorem joinRel_iff (groups : List (List Nat)) (o o' : List σ) :
    joinRel groups o o' = true ↔ ∀ g ∈ groups, project g o = project g o' := by
  simp [joinRel, sameOn]

theorem linkRel_iff (groups : List (List Nat)) (o o' : List σ) :
    linkRel groups o o' = true ↔ ∃ g ∈ groups, project g o = project g o' := by
  simp [linkRel, sameOn]

/-- No length condition: `project` drops out-of-range positions on both sides alike. -/
theorem joinRel_iff_flatten (groups : List (List Nat)) (o o' : List σ) :
    joinRel groups o o' = true ↔ project groups.flatten o = project groups.flatten o' := by
  rw [joinRel_iff, InfoReal.project_eq_iff]
  constructor
  · intro h i hi
    obtain ⟨g, hg, hig⟩ := List.mem_flatten.mp hi
    exact (InfoReal.project_eq_iff g o o').mp (h g hg) i hig
  · intro h g hg
    rw [InfoReal.project_eq_iff]
    intro i hi
    exact h i (List.mem_flatten.mpr ⟨g, hg, hi⟩)

theorem joinRel_refl (groups : List (List Nat)) (o : List σ) : joinRel groups o o = true := by
  rw [joinRel_iff]; intros; rfl

theorem joinRel_symm (groups : List (List Nat)) {o o' : List σ}
    (h : joinRel groups o o' = true) : joinRel groups o' o = true := by
  rw [joinRel_iff] at h ⊢
  exact fun g hg => (h g hg).symm

theorem joinRel_trans (groups : List (List Nat)) {o o' o'' : List σ}
    (h : joinRel groups o o' = true) (h' : joinRel groups o' o'' = true) :
    joinRel groups o o'' = true := by
  rw [joinRel_iff] at h h' ⊢
  exact fun g hg => (h g hg).trans (h' g hg)

theorem joinRel_equivOn (groups : List (List Nat)) (rows : List (List σ)) :
    EquivOn (joinRel groups) rows :=
  ⟨fun o _ => joinRel_refl groups o, fun _ _ _ _ h => joinRel_symm groups h,
    fun _ _ _ _ _ _ h h' => joinRel_trans groups h h'⟩

theorem linkRel_symm (groups : List (List Nat)) {o o' : List σ}
    (h : linkRel groups o o' = true) : linkRel groups o' o = true := by
  rw [linkRel_iff] at h ⊢
  obtain ⟨g, hg, e⟩ := h
  exact ⟨g, hg, e.symm⟩

end Join

section Component
variable {σ : Type} [DecidableEq σ]

def Reach (link : List σ → List σ → Bool) (rows : List (List σ)) : List σ → List σ → Prop :=
  Relation.ReflTransGen (fun a b => b ∈ rows ∧ link a b = true)

variable {link : List σ → List σ → Bool} {rows : List (List σ)}

omit [DecidableEq σ] in
theorem Reach.refl (o : List σ) : Reach link rows o o := Relation.ReflTransGen.refl

omit [DecidableEq σ] in
theorem Reach.trans {a b c : List σ} (h : Reach link rows a b) (h' : Reach link rows b c) :
    Reach link rows a c := Relation.ReflTransGen.trans h h'

set_option linter.unusedSectionVars false in
theorem Reach.single {a b : List σ} (hb : b ∈ rows) (h : link a b = true) :
    Reach link rows a b := Relation.ReflTransGen.single ⟨hb, h⟩

omit [DecidableEq σ] in
theorem Reach.mem {a b : List σ} (ha : a ∈ rows) (h : Reach link rows a b) : b ∈ rows := by
  induction h with
  | refl => exact ha
  | tail _ hstep _ => exact hstep.1

omit [DecidableEq σ] in
theorem Reach.symm (hs : ∀ a b, link a b = true → link b a = true) {a b : List σ}
    (ha : a ∈ rows) (h : Reach link rows a b) : Reach link rows b a := by
  induction h with
  | refl => exact Relation.ReflTransGen.refl
  | @tail b c hab hstep ih =>
    exact Relation.ReflTransGen.head ⟨Reach.mem ha hab, hs _ _ hstep.2⟩ ih

def rounds (link : List σ → List σ → Bool) (rows : List (List σ)) (o : List σ) (k : Nat) :
    List (List σ) := (growClass link rows)^[k] [o]

/-- The test applied by one round. -/
def growP (link : List σ → List σ → Bool) (cls : List (List σ)) (x : List σ) : Bool :=
  cls.contains x || cls.any (fun c => link c x)

theorem growP_iff {cls : List (List σ)} {x : List σ} :
    growP link cls x = true ↔ x ∈ cls ∨ ∃ c ∈ cls, link c x = true := by
  unfold growP
  rw [Bool.or_eq_true, List.contains_iff_mem, List.any_eq_true]

theorem component_eq_rounds (link : List σ → List σ → Bool) (rows : List (List σ)) (o : List σ) :
    component link rows o = rounds link rows o rows.length :=
  (List.foldl_const _ _ _).trans (by rw [List.length_range]; rfl)

theorem rounds_zero (o : List σ) : rounds link rows o 0 = [o] := rfl

theorem rounds_succ (o : List σ) (k : Nat) :
    rounds link rows o (k + 1) = rows.filter (growP link (rounds link rows o k)) := by
  unfold rounds
  rw [Function.iterate_succ_apply']
  rfl

theorem mem_rounds_succ {o : List σ} {k : Nat} {x : List σ} :
    x ∈ rounds link rows o (k + 1)
      ↔ x ∈ rows ∧ (x ∈ rounds link rows o k ∨ ∃ c ∈ rounds link rows o k, link c x = true) := by
  rw [rounds_succ, List.mem_filter, growP_iff]

theorem rounds_sound {o : List σ} (ho : o ∈ rows) (k : Nat) {x : List σ}
    (hx : x ∈ rounds link rows o k) : x ∈ rows ∧ Reach link rows o x := by
  induction k generalizing x with
  | zero =>
    obtain rfl := List.mem_singleton.mp hx
    exact ⟨ho, Reach.refl x⟩
  | succ k ih =>
    rw [mem_rounds_succ] at hx
    obtain ⟨hxr, hx | ⟨c, hc, hl⟩⟩ := hx
    · exact ih hx
    · exact ⟨hxr, (ih hc).2.trans (Reach.single hxr hl)⟩

theorem rounds_mono_succ {o : List σ} (ho : o ∈ rows) (k : Nat) {x : List σ}
    (hx : x ∈ rounds link rows o k) : x ∈ rounds link rows o (k + 1) := by
  rw [mem_rounds_succ]
  exact ⟨(rounds_sound ho k hx).1, Or.inl hx⟩

theorem rounds_mono {o : List σ} (ho : o ∈ rows) {j k : Nat} (hjk : j ≤ k) {x : List σ}
    (hx : x ∈ rounds link rows o j) : x ∈ rounds link rows o k := by
  induction hjk with
  | refl => exact hx
  | step _ ih => exact rounds_mono_succ ho _ ih

theorem growP_mono {cls cls' : List (List σ)} (h : ∀ c ∈ cls, c ∈ cls') {x : List σ}
    (hx : growP link cls x = true) : growP link cls' x = true := by
  rw [growP_iff] at hx ⊢
  exact hx.imp (h x) (fun ⟨c, hc, hl⟩ => ⟨c, h c hc, hl⟩)

/-- Both rounds filter the rows, the later one by a weaker test. -/
theorem rounds_dichotomy {o : List σ} (ho : o ∈ rows) {k : Nat} (hk : 1 ≤ k) :
    rounds link rows o (k + 1) = rounds link rows o k
    ∨ (rounds link rows o k).length < (rounds link rows o (k + 1)).length := by
  obtain ⟨k, rfl⟩ := Nat.exists_eq_add_of_le' hk
  have hsub : (rounds link rows o (k + 1)).Sublist (rounds link rows o (k + 1 + 1)) := by
    rw [rounds_succ o (k + 1)]
    nth_rewrite 1 [rounds_succ o k]
    exact List.monotone_filter_right rows (fun _ => growP_mono (fun _ => rounds_mono_succ ho k))
  rcases hsub.length_le.lt_or_eq with h | h
  · exact Or.inr h
  · exact Or.inl (hsub.eq_of_length h).symm

theorem rounds_stable {o : List σ} {j : Nat}
    (hj : rounds link rows o (j + 1) = rounds link rows o j) (m : Nat) :
    rounds link rows o (j + m) = rounds link rows o j := by
  induction m with
  | zero => rfl
  | succ m ih => rw [← Nat.add_assoc, rounds_succ, ih, ← rounds_succ, hj]

theorem rounds_count {o : List σ} (ho : o ∈ rows) {k : Nat} (hk : 1 ≤ k) :
    (∃ j, j ≤ k ∧ rounds link rows o (j + 1) = rounds link rows o j)
    ∨ k ≤ (rounds link rows o k).length := by
  induction k, hk using Nat.le_induction with
  | base =>
    right
    have : o ∈ rounds link rows o 1 := rounds_mono_succ ho 0 (List.mem_singleton_self o)
    exact List.length_pos_of_mem this
  | succ k hk ih =>
    rcases ih with ⟨j, hjk, hj⟩ | hlen
    · exact Or.inl ⟨j, by omega, hj⟩
    · rcases rounds_dichotomy (link := link) ho hk with h | h
      · exact Or.inl ⟨k, by omega, h⟩
      · right; omega

theorem rounds_stabilise {o : List σ} (ho : o ∈ rows) :
    ∃ j, j ≤ rows.length ∧ rounds link rows o (j + 1) = rounds link rows o j := by
  have hpos : 1 ≤ rows.length := List.length_pos_of_mem ho
  rcases rounds_count (link := link) ho hpos with h | hlen
  · exact h
  · refine ⟨rows.length, le_rfl, ?_⟩
    rcases rounds_dichotomy (link := link) ho hpos with h | h
    · exact h
    · exfalso
      have h2 : (rounds link rows o (rows.length + 1)).length ≤ rows.length := by
        rw [rounds_succ]; exact List.length_filter_le _ _
      omega

theorem mem_component_iff {o : List σ} (ho : o ∈ rows) (x : List σ) :
    x ∈ component link rows o ↔ x ∈ rows ∧ Reach link rows o x := by
  rw [component_eq_rounds]
  refine ⟨rounds_sound ho _, ?_⟩
  rintro ⟨-, hreach⟩
  obtain ⟨j, hjn, hj⟩ := rounds_stabilise (link := link) ho
  have hst : rounds link rows o rows.length = rounds link rows o j := by
    have := rounds_stable hj (rows.length - j)
    rwa [Nat.add_sub_cancel' hjn] at this
  rw [hst]
  induction hreach with
  | refl => exact rounds_mono ho (Nat.zero_le j) (List.mem_singleton_self o)
  | @tail b c _ hstep ih =>
    rw [← hj, mem_rounds_succ]
    exact ⟨hstep.1, Or.inr ⟨b, ih, hstep.2⟩⟩

theorem component_eq_filter {o : List σ} (ho : o ∈ rows)
    [DecidablePred (Reach link rows o)] :
    component link rows o = rows.filter (fun x => decide (Reach link rows o x)) := by
  obtain ⟨n, hn⟩ := Nat.exists_eq_succ_of_ne_zero (List.length_pos_of_mem ho).ne'
  have e : component link rows o = rows.filter (growP link (rounds link rows o n)) := by
    rw [component_eq_rounds, hn, rounds_succ]
  have h1 := fun x => mem_component_iff (link := link) ho x
  rw [e] at h1 ⊢
  apply List.filter_congr
  intro x hx
  have h2 := h1 x
  rw [List.mem_filter, and_iff_right hx, and_iff_right hx] at h2
  rw [Bool.eq_iff_iff, decide_eq_true_iff, h2]

end Component

/-! ## The meet classes are the classes of reachability under `linkRel` -/

section MeetSec
variable {σ : Type}

open Classical in
/-- Reachability as a Boolean relation (classically decided; proof device only). -/
noncomputable def reachB (link : List σ → List σ → Bool) (rows : List (List σ))
    (o x : List σ) : Bool := decide (Reach link rows o x)

open Classical in
theorem reachB_iff {link : List σ → List σ → Bool} {rows : List (List σ)} {o x : List σ} :
    reachB link rows o x = true ↔ Reach link rows o x := by
  unfold reachB; exact decide_eq_true_iff

theorem reachB_equivOn {link : List σ → List σ → Bool}
    (hs : ∀ a b, link a b = true → link b a = true) (rows : List (List σ)) :
    EquivOn (reachB link rows) rows := by
  refine ⟨fun o _ => reachB_iff.mpr (Reach.refl o), ?_, ?_⟩
  · intro o ho o' _ h
    exact reachB_iff.mpr (Reach.symm hs ho (reachB_iff.mp h))
  · intro o _ o' _ o'' _ h h'
    exact reachB_iff.mpr ((reachB_iff.mp h).trans (reachB_iff.mp h'))

variable [DecidableEq σ]

theorem classesBy_component (link : List σ → List σ → Bool) (rows : List (List σ)) :
    classesBy (component link rows) rows
      = classesBy (fun o => rows.filter (reachB link rows o)) rows := by
  apply classesBy_congr
  intro o ho
  classical
  rw [component_eq_filter ho]
  apply List.filter_congr
  intro x _
  unfold reachB
  congr

theorem meetClasses_eq (groups : List (List Nat)) (rows : List (List σ)) :
    meetClasses groups rows
      = classesBy (fun o => rows.filter (reachB (linkRel groups) rows o)) rows :=
  classesBy_component _ _

theorem meet_equivOn (groups : List (List Nat)) (rows : List (List σ)) :
    EquivOn (reachB (linkRel groups (σ := σ)) rows) rows :=
  reachB_equivOn (fun _ _ h => linkRel_symm groups h) rows

theorem const_of_reach {β : Type} (groups : List (List Nat)) (rows : List (List σ))
    (ℓ : List σ → β)
    (hℓ : ∀ g ∈ groups, ∀ o ∈ rows, ∀ o' ∈ rows, project g o = project g o' → ℓ o = ℓ o')
    {o o' : List σ} (ho : o ∈ rows) (h : Reach (linkRel groups) rows o o') : ℓ o = ℓ o' := by
  induction h with
  | refl => rfl
  | @tail b c hob hstep ih =>
    obtain ⟨g, hg, e⟩ := (linkRel_iff groups b c).mp hstep.2
    exact ih.trans (hℓ g hg b (Reach.mem ho hob) c hstep.1 e)

end MeetSec

section Entropy
open Dit.Lemmas.InfoReal Dit.Lemmas.InfoAlg

variable {κ κ₁ κ₂ : Type}

theorem Hmap_equiv [DecidableEq κ₁] [DecidableEq κ₂] (f : κ → κ₁) (g : κ → κ₂) (t : Tab κ ℝ)
    (h : ∀ k ∈ keys t, ∀ k' ∈ keys t, f k = f k' ↔ g k = g k') : Hmap f t = Hmap g t := by
  rw [Hmap_fin, Hmap_fin]
  congr 1
  apply Finset.sum_congr rfl
  intro i _
  rw [cm_congr_equiv (wOf t) (atRow f t) (atRow g t) i
    (fun j => h _ (mem_keys_getElem t j) _ (mem_keys_getElem t i))]

theorem Hmap_le_of_function [DecidableEq κ₁] [DecidableEq κ₂] (f : κ → κ₁) (g : κ → κ₂)
    (t : Tab κ ℝ) (hnn : ∀ r ∈ t, 0 ≤ r.2)
    (h : ∀ k ∈ keys t, ∀ k' ∈ keys t, g k = g k' → f k = f k') : Hmap f t ≤ Hmap g t :=
  le_of_add_le_add_left (Hmap_submod g g g f t hnn h h fun _ _ _ _ e _ => e)

theorem Hmap_pair [DecidableEq κ₁] [DecidableEq κ₂] (f : κ → κ₁) (g : κ → κ₂) (t : Tab κ ℝ)
    (h : ∀ k ∈ keys t, ∀ k' ∈ keys t, g k = g k' → f k = f k') :
    Hmap (fun k => (f k, g k)) t = Hmap g t := by
  apply Hmap_equiv
  intro k hk k' hk'
  constructor
  · intro e; exact (Prod.mk.inj e).2
  · intro e; rw [e, h k hk k' hk' e]

/-- Entropy is non-negative for a sub-probability table. -/
theorem Hmap_nonneg [DecidableEq κ₁] (f : κ → κ₁) (t : Tab κ ℝ) (hnn : ∀ r ∈ t, 0 ≤ r.2)
    (hmass : (t.map (·.2)).sum ≤ 1) : 0 ≤ Hmap f t := by
  have hw := wOf_nonneg hnn
  rw [Hmap_fin, neg_nonneg]
  apply Finset.sum_nonpos
  intro i _
  refine mul_nonpos_of_nonneg_of_nonpos (hw i)
    (Real.logb_nonpos one_lt_two (cm_nonneg hw _ i) (le_trans ?_ hmass))
  rw [← Fin.sum_univ_fun_getElem]
  apply Finset.sum_le_sum
  intro j _
  change (if _ then wOf t j else 0) ≤ wOf t j
  split
  · exact le_rfl
  · exact hw j

end Entropy

section Mss
variable {σ α : Type} [DecidableEq σ] [DecidableEq α] [Field α]

theorem sameLaw_iff {a b : Tab (List σ) α} (ha : (keys a).Nodup) (hb : (keys b).Nodup) :
    sameLaw a b = true ↔ ∀ k, lookupD 0 a k = lookupD 0 b k := by
  unfold sameLaw
  simp only [Bool.and_eq_true, List.all_eq_true, decide_eq_true_eq]
  constructor
  · rintro ⟨h1, h2⟩ k
    by_cases hka : k ∈ keys a
    · obtain ⟨v, hv⟩ := mem_keys.mp hka
      rw [lookupD_eq_of_mem ha hv 0]; exact (h1 (k, v) hv).symm
    · rw [lookupD_of_not_mem 0 hka]
      by_cases hkb : k ∈ keys b
      · obtain ⟨v, hv⟩ := mem_keys.mp hkb
        have := h2 (k, v) hv
        rw [lookupD_of_not_mem 0 hka] at this
        rw [lookupD_eq_of_mem hb hv 0]; exact this
      · rw [lookupD_of_not_mem 0 hkb]
  · intro h
    refine ⟨fun r hr => ?_, fun r hr => ?_⟩
    · rw [← h r.1]; exact lookupD_eq_of_mem ha hr 0
    · rw [h r.1]; exact lookupD_eq_of_mem hb hr 0

omit [DecidableEq α] in
theorem condLawAt_keys_nodup (t : Tab (List σ) α) (rvs about : List Nat) (o : List σ) :
    (keys (condLawAt t rvs about o)).Nodup := by
  unfold condLawAt
  simp only
  rw [keys_map_val (fun r => r.2 / _)]
  exact keys_pushforward_nodup _ _

omit [DecidableEq α] in
theorem lookupD_map_div {κ : Type} [DecidableEq κ] (l : Tab κ α) (c : α) (k : κ) :
    lookupD 0 (l.map (fun r => (r.1, r.2 / c))) k = lookupD 0 l k / c := by
  induction l with
  | nil => simp [lookupD]
  | cons r l ih =>
    unfold lookupD at ih ⊢
    rw [List.map_cons, lookup?_cons, lookup?_cons]
    by_cases h : r.1 = k
    · simp [h]
    · simp only [h, if_false]; exact ih

/-- `P(about = y | rvs = the values in o)`: the conditional probability read off the table. -/
def condP (t : Tab (List σ) α) (rvs about : List Nat) (o y : List σ) : α :=
  wtBy (fun k => project about k = y ∧ project rvs k = project rvs o) t
    / wtBy (fun k => project rvs k = project rvs o) t

omit [DecidableEq α] in
theorem lookupD_condLawAt (t : Tab (List σ) α) (rvs about : List Nat) (o y : List σ) :
    lookupD 0 (condLawAt t rvs about o) y = condP t rvs about o y := by
  unfold condLawAt condP
  simp only
  rw [lookupD_map_div, lookupD_pushforward,
    Table.wtBy_filter_key (fun k => project about k = y) (fun k => project rvs k = project rvs o) t,
    Lemmas.ListBasics.lsum_eq_sum]
  congr 1
  have := Table.wtBy_filter_key (fun _ => True) (fun k => project rvs k = project rvs o) t
  rw [wtBy_true, mass_eq_sum] at this
  rw [show (List.map (fun x => x.2) (List.filter (fun r => decide (project rvs r.1 = project rvs o)) t))
      = vals (List.filter (fun r => decide (project rvs r.1 = project rvs o)) t) from rfl, this]
  apply Table.wtBy_congr_fun
  intro k; simp

/-- The relation whose classes `mssClasses` computes. -/
def mssRel (t : Tab (List σ) α) (rvs about : List Nat) (o o' : List σ) : Bool :=
  sameLaw (condLawAt t rvs about o) (condLawAt t rvs about o')

theorem mssClasses_eq (t : Tab (List σ) α) (rvs about : List Nat) :
    mssClasses t rvs about
      = classesBy (fun o => (keys t).filter (mssRel t rvs about o)) (keys t) := rfl

theorem mssRel_iff (t : Tab (List σ) α) (rvs about : List Nat) (o o' : List σ) :
    mssRel t rvs about o o' = true ↔ ∀ y, condP t rvs about o y = condP t rvs about o' y := by
  unfold mssRel
  rw [sameLaw_iff (condLawAt_keys_nodup _ _ _ _) (condLawAt_keys_nodup _ _ _ _)]
  simp only [lookupD_condLawAt]

theorem mssRel_refl (t : Tab (List σ) α) (rvs about : List Nat) (o : List σ) :
    mssRel t rvs about o o = true :=
  (mssRel_iff t rvs about o o).mpr (fun _ => rfl)

theorem mssRel_symm (t : Tab (List σ) α) (rvs about : List Nat) {o o' : List σ}
    (h : mssRel t rvs about o o' = true) : mssRel t rvs about o' o = true := by
  rw [mssRel_iff] at h ⊢
  exact fun y => (h y).symm

theorem mssRel_trans (t : Tab (List σ) α) (rvs about : List Nat) {o o' o'' : List σ}
    (h : mssRel t rvs about o o' = true) (h' : mssRel t rvs about o' o'' = true) :
    mssRel t rvs about o o'' = true := by
  rw [mssRel_iff] at h h' ⊢
  exact fun y => (h y).trans (h' y)

theorem mss_equivOn (t : Tab (List σ) α) (rvs about : List Nat) (rows : List (List σ)) :
    EquivOn (mssRel t rvs about) rows :=
  ⟨fun o _ => mssRel_refl t rvs about o, fun _ _ _ _ h => mssRel_symm t rvs about h,
    fun _ _ _ _ _ _ h h' => mssRel_trans t rvs about h h'⟩

theorem mssRel_of_project_eq (t : Tab (List σ) α) (rvs about : List Nat) {o o' : List σ}
    (h : project rvs o = project rvs o') : mssRel t rvs about o o' = true := by
  rw [mssRel_iff]
  intro y
  unfold condP
  rw [h]

end Mss

/-! ## Sufficiency: a statistic whose cells have a common conditional law keeps the information -/

section Suff
open Dit.Lemmas.InfoReal Finset

variable {ι : Type} [Fintype ι] {β₁ β₂ β₃ : Type} [DecidableEq β₁] [DecidableEq β₂]
  [DecidableEq β₃] {w : ι → ℝ}

/-- Joint mass `P(x = x_i, y = y_k)`. -/
noncomputable def pXY (w : ι → ℝ) (x : ι → β₁) (y : ι → β₂) (i k : ι) : ℝ :=
  ∑ m, if x m = x i ∧ y m = y k then w m else 0

theorem cm_pair (w : ι → ℝ) (x : ι → β₁) (y : ι → β₂) (i : ι) :
    cm w (fun m => (x m, y m)) i = pXY w x y i i := by
  unfold cm pXY
  simp only [Prod.mk.injEq]

/-- Total probability inside a cell of `s`, a function of `x`: the `v`-mass of the cell is the sum
over its members `m` of `w_m · v(x = x_m) / P(x = x_m)`, for `v` vanishing where `P(x) = 0`. -/
theorem sum_cell_eq (x : ι → β₁) (s : ι → β₃) (h1 : ∀ i j, x i = x j → s i = s j) (v : ι → ℝ)
    (hv : ∀ l, cm w x l = 0 → v l = 0) (i : ι) :
    (∑ l, if s l = s i then v l else 0)
      = ∑ m, if s m = s i
          then w m * ((∑ l, if x l = x m then v l else 0) / cm w x m) else 0 := by
  have e : ∀ l ∈ (univ : Finset ι), (if s l = s i then v l else 0)
      = ∑ m, if s m = s i then w m * ((if x l = x m then v l else 0) / cm w x m) else 0 := by
    intro l _
    have e' : ∀ m ∈ (univ : Finset ι),
        (if s m = s i then w m * ((if x l = x m then v l else 0) / cm w x m) else 0)
          = (if x m = x l then w m else 0) * ((if s l = s i then v l else 0) / cm w x l) := by
      intro m _
      by_cases hx : x m = x l
      · rw [h1 m l hx, cm_congr_cls x hx, if_pos hx.symm, if_pos hx]
        split
        · rfl
        · rw [zero_div, mul_zero]
      · rw [if_neg hx, if_neg (fun h : x l = x m => hx h.symm), zero_div, mul_zero, zero_mul, ite_self]
    rw [sum_congr rfl e', ← sum_mul]
    change _ = cm w x l * _
    by_cases h0 : cm w x l = 0
    · rw [hv l h0, h0, ite_self, zero_mul]
    · rw [mul_div_cancel₀ _ h0]
  rw [sum_congr rfl e, sum_comm]
  apply sum_congr rfl
  intro m _
  split
  · rw [← mul_sum, ← sum_div]
  · exact sum_const_zero

/-- In a cell of `s` all `x` have the same `P(y | x)`, hence `P(s, y) = P(y | x) · P(s)`. -/
theorem cm_pair_of_sufficient (hw : ∀ i, 0 ≤ w i) (x : ι → β₁) (y : ι → β₂) (s : ι → β₃)
    (h1 : ∀ i j, x i = x j → s i = s j)
    (h2 : ∀ i j, s i = s j → ∀ k, pXY w x y i k / cm w x i = pXY w x y j k / cm w x j) (i : ι) :
    cm w (fun m => (s m, y m)) i = cm w (fun m => (x m, y m)) i / cm w x i * cm w s i := by
  have hv : ∀ l, cm w x l = 0 → (if y l = y i then w l else 0) = 0 := fun l h0 => by
    rw [le_antisymm (h0 ▸ le_cm hw x l) (hw l), ite_self]
  calc cm w (fun m => (s m, y m)) i
      = ∑ l, if s l = s i then (if y l = y i then w l else 0) else 0 := by
        unfold cm; simp only [Prod.mk.injEq, ite_and]
    _ = ∑ m, if s m = s i then w m * (pXY w x y m i / cm w x m) else 0 := by
        rw [sum_cell_eq x s h1 _ hv i]; simp only [pXY, ite_and]
    _ = ∑ m, (if s m = s i then w m else 0) * (pXY w x y i i / cm w x i) := by
        apply sum_congr rfl
        intro m _
        split
        · rename_i hm; rw [h2 m i hm i]
        · rw [zero_mul]
    _ = cm w (fun m => (x m, y m)) i / cm w x i * cm w s i := by
        rw [← sum_mul, cm_pair, mul_comm]; rfl

end Suff

section SuffTab
open Dit.Lemmas.InfoReal

variable {κ κ₁ κ₂ κ₃ : Type} [DecidableEq κ₁] [DecidableEq κ₂] [DecidableEq κ₃]

theorem wtBy_eq_fin (p : κ → Prop) [DecidablePred p] (t : Tab κ ℝ) :
    wtBy p t = ∑ j : Fin t.length, if p (t[j.1]'j.2).1 then (t[j.1]'j.2).2 else 0 := by
  unfold wtBy
  rw [← Fin.sum_univ_fun_getElem]

theorem Hmap_sufficient (X : κ → κ₁) (Y : κ → κ₂) (S : κ → κ₃) (t : Tab κ ℝ)
    (hnn : ∀ r ∈ t, 0 ≤ r.2)
    (h1 : ∀ k ∈ keys t, ∀ k' ∈ keys t, X k = X k' → S k = S k')
    (h2 : ∀ k ∈ keys t, ∀ k' ∈ keys t, S k = S k' → ∀ yv,
      wtBy (fun a => Y a = yv ∧ X a = X k) t / wtBy (fun a => X a = X k) t
        = wtBy (fun a => Y a = yv ∧ X a = X k') t / wtBy (fun a => X a = X k') t) :
    Hmap S t - Hmap (fun k => (S k, Y k)) t = Hmap X t - Hmap (fun k => (X k, Y k)) t := by
  have hw := wOf_nonneg hnn
  have hcm : ∀ i : Fin t.length,
      wtBy (fun a => X a = atRow X t i) t = cm (wOf t) (atRow X t) i := by
    intro i; rw [wtBy_eq_fin]; rfl
  have hp : ∀ i k : Fin t.length,
      wtBy (fun a => Y a = atRow Y t k ∧ X a = atRow X t i) t
        = pXY (wOf t) (atRow X t) (atRow Y t) i k := by
    intro i k
    rw [wtBy_eq_fin]
    exact Finset.sum_congr rfl (fun m _ => if_congr and_comm rfl rfl)
  have hkey : ∀ i, cm (wOf t) (atRow (fun k => (S k, Y k)) t) i
      = cm (wOf t) (atRow (fun k => (X k, Y k)) t) i / cm (wOf t) (atRow X t) i
        * cm (wOf t) (atRow S t) i :=
    cm_pair_of_sufficient hw (atRow X t) (atRow Y t) (atRow S t)
      (fun i j e => h1 _ (mem_keys_getElem t i) _ (mem_keys_getElem t j) e)
      (fun i j e k => by
        rw [← hp, ← hp, ← hcm, ← hcm]
        exact h2 _ (mem_keys_getElem t i) _ (mem_keys_getElem t j) e _)
  rw [Hmap_fin, Hmap_fin, Hmap_fin, Hmap_fin, neg_sub_neg, neg_sub_neg,
    ← Finset.sum_sub_distrib, ← Finset.sum_sub_distrib]
  apply Finset.sum_congr rfl
  intro i _
  rcases (hw i).eq_or_lt with h0 | hpos
  · rw [← h0, zero_mul, zero_mul, zero_mul, zero_mul]
  · have px := hpos.trans_le (le_cm hw (atRow X t) i)
    have pxy := hpos.trans_le (le_cm hw (atRow (fun k => (X k, Y k)) t) i)
    have ps := hpos.trans_le (le_cm hw (atRow S t) i)
    rw [hkey i, Real.logb_mul (div_pos pxy px).ne' ps.ne', Real.logb_div pxy.ne' px.ne']
    ring

end SuffTab

section InsertLabel
open Dit.Lemmas.Constructors Dit.Lemmas.InfoReal

variable {σ : Type} [DecidableEq σ]

theorem entropyOf_insertRvf (F : List σ → List σ) (index : Option Nat) (t : Tab (List σ) ℝ)
    (X : List Nat) :
    entropyOf (Real.logb 2) (insertRvf F index t) X
      = Hmap (fun o => project X (insOut F index o)) t := by
  unfold entropyOf Hmap
  rw [insertRvf_eq_map, pushforward_map_key]

omit [DecidableEq σ] in
theorem project_append_of_lt {U : List Nat} {o : List σ} (h : ∀ i ∈ U, i < o.length)
    (z : List σ) : project U (o ++ z) = project U o := by
  unfold project
  apply List.filterMap_congr
  intro i hi
  exact List.getElem?_append_left (h i hi)

omit [DecidableEq σ] in
theorem project_new {o : List σ} {n : Nat} (h : o.length = n) (s : σ) :
    project [n] (o ++ [s]) = [s] := by
  subst h
  unfold project
  rw [List.filterMap_cons, List.getElem?_append_right (Nat.le_refl _), Nat.sub_self]
  rfl

omit [DecidableEq σ] in
theorem project_append_eq_iff (U V : List Nat) (o o' : List σ) :
    project (U ++ V) o = project (U ++ V) o'
      ↔ project U o = project U o' ∧ project V o = project V o' :=
  project_union_eq_iff (fun _ => List.mem_append) o o'

theorem entropyOf_append (t : Tab (List σ) ℝ) (U V : List Nat) :
    entropyOf (Real.logb 2) t (U ++ V) = Hmap (fun k => (project U k, project V k)) t := by
  rw [entropyOf_eq_Hmap]
  apply Hmap_equiv
  intro k _ k' _
  rw [project_append_eq_iff, Prod.mk.injEq]

variable (ℓ : List σ → σ) (n : Nat) (t : Tab (List σ) ℝ) (hn : ∀ k ∈ keys t, k.length = n)
include hn

theorem entropyOf_new :
    entropyOf (Real.logb 2) (insertRvf (fun o => [ℓ o]) none t) [n] = Hmap ℓ t := by
  rw [entropyOf_insertRvf]
  apply Hmap_equiv
  intro k hk k' hk'
  show project [n] (k ++ [ℓ k]) = project [n] (k' ++ [ℓ k']) ↔ _
  rw [project_new (hn k hk), project_new (hn k' hk'), List.singleton_inj]

theorem entropyOf_old (U : List Nat) (hU : ∀ i ∈ U, i < n) :
    entropyOf (Real.logb 2) (insertRvf (fun o => [ℓ o]) none t) U
      = entropyOf (Real.logb 2) t U := by
  rw [entropyOf_insertRvf, entropyOf_eq_Hmap]
  apply Hmap_equiv
  intro k hk k' hk'
  show project U (k ++ [ℓ k]) = project U (k' ++ [ℓ k']) ↔ _
  rw [project_append_of_lt (by rw [hn k hk]; exact hU),
    project_append_of_lt (by rw [hn k' hk']; exact hU)]

theorem entropyOf_old_new (U : List Nat) (hU : ∀ i ∈ U, i < n) :
    entropyOf (Real.logb 2) (insertRvf (fun o => [ℓ o]) none t) (U ++ [n])
      = Hmap (fun o => (ℓ o, project U o)) t := by
  rw [entropyOf_insertRvf]
  apply Hmap_equiv
  intro k hk k' hk'
  show project (U ++ [n]) (k ++ [ℓ k]) = project (U ++ [n]) (k' ++ [ℓ k']) ↔ _
  rw [project_append_eq_iff, project_append_of_lt (by rw [hn k hk]; exact hU),
    project_append_of_lt (by rw [hn k' hk']; exact hU), project_new (hn k hk),
    project_new (hn k' hk'), List.singleton_inj, Prod.mk.injEq, and_comm]

end InsertLabel

/-! ## Dual total correlation and a variable rendering the groups conditionally independent -/

section Chain
open Dit.Lemmas.InfoAlg

variable {R : Type} [CommRing R] [LinearOrder R] [IsStrictOrderedRing R] {H : VSet → R}

/-- `B = H(X) − Σ H(Xᵢ|X₋ᵢ) ≤ H(X) − Σ H(Xᵢ|W) ≤ H(X) − H(X|W) = I(X:W) ≤ H(W)`. -/
theorem dtc_le_of_cond_indep (h : Submod H) (groups : List VSet) (W : VSet)
    (hCI : ∀ g ∈ groups,
      Hc H g (vunion (vdiff (vunions groups) (vnorm g)) W) = Hc H g W) :
    Hc H (vunions groups) []
        - (groups.map (fun g => Hc H g (vunion (vdiff (vunions groups) (vnorm g)) []))).sum
      ≤ Hc H W [] := by
  have s1 : ∀ g ∈ groups,
      Hc H g W ≤ Hc H g (vunion (vdiff (vunions groups) (vnorm g)) []) := by
    intro g hg
    rw [← hCI g hg, Hc_union_nil]
    exact Hc_anti h g _ _ (subset_vunion_left _ W)
  have symm := Hc_exchange H W (vunions groups) []
  rw [Hc_union_nil, Hc_union_nil] at symm
  calc Hc H (vunions groups) []
        - (groups.map (fun g => Hc H g (vunion (vdiff (vunions groups) (vnorm g)) []))).sum
      ≤ Hc H (vunions groups) [] - (groups.map (fun g => Hc H g W)).sum :=
        sub_le_sub_left (List.sum_le_sum s1) _
    _ ≤ Hc H (vunions groups) [] - Hc H (vunions groups) W :=
        sub_le_sub_left (sub_nonneg.mp (tc_sum_nonneg h groups W)) _
    _ = Hc H W [] - Hc H W (vunions groups) := by linear_combination -symm
    _ ≤ Hc H W [] := sub_le_self _ (Hc_nonneg h W (vunions groups))

end Chain

end Dit.Lemmas.Meet
