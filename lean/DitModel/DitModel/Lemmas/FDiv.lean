/-
Helper lemmas for the f-divergence model. Property theorems are in Props/C06FDiv.lean.
-/
import DitModel.Core.FDiv
import DitModel.Lemmas.Diverge
import Mathlib.Analysis.Convex.Jensen

namespace Dit.Lemmas.FDiv
open Dit

theorem foldl_none {α β : Type} (F : Option α → β → Option α) (hF : ∀ r, F none r = none)
    (l : List β) : l.foldl F none = none := by
  induction l with
  | nil => rfl
  | cons r t ih => rw [List.foldl_cons, hF, ih]

theorem fdivVals_of_some (f : ℝ → ℝ) (finf : Option ℝ) (g : ℝ × ℝ → ℝ) (pq : List (ℝ × ℝ))
    (hg : ∀ r ∈ pq, fdivTerm f finf r = some (g r)) :
    fdivVals f finf pq = some ((pq.map g).sum) := by
  induction pq using List.reverseRecOn with
  | nil => rfl
  | append_singleton l r ih =>
    rw [List.forall_mem_append, List.forall_mem_singleton] at hg
    have ih := ih hg.1
    unfold fdivVals at ih ⊢
    simp [List.foldl_append, ih, hg.2]

theorem fdivVals_of_none (f : ℝ → ℝ) (finf : Option ℝ) (pq : List (ℝ × ℝ))
    (hg : ∃ r ∈ pq, fdivTerm f finf r = none) : fdivVals f finf pq = none := by
  obtain ⟨r, hr, hn⟩ := hg
  obtain ⟨s, t, rfl⟩ := List.append_of_mem hr
  unfold fdivVals
  rw [List.foldl_append, List.foldl_cons, hn]
  generalize List.foldl _ _ s = acc
  cases acc <;> exact foldl_none _ (fun _ => rfl) t

theorem fdivTerm_some (f : ℝ → ℝ) (c : ℝ) (r : ℝ × ℝ) :
    fdivTerm f (some c) r
      = some (if r.2 = 0 then (if r.1 = 0 then 0 else r.1 * c) else r.2 * f (r.1 / r.2)) := by
  simp only [fdivTerm, beq_iff_eq, Option.map_some, apply_ite some]

theorem fdivTerm_of_ne (f : ℝ → ℝ) (finf : Option ℝ) (r : ℝ × ℝ) (h2 : r.2 ≠ 0) :
    fdivTerm f finf r = some (r.2 * f (r.1 / r.2)) := by
  simp [fdivTerm, h2]

theorem fdivTerm_zero_zero (f : ℝ → ℝ) (finf : Option ℝ) (r : ℝ × ℝ) (h2 : r.2 = 0)
    (h1 : r.1 = 0) : fdivTerm f finf r = some 0 := by
  simp [fdivTerm, h1, h2]

theorem fdivTerm_none_iff (f : ℝ → ℝ) (r : ℝ × ℝ) :
    fdivTerm f none r = none ↔ r.2 = 0 ∧ r.1 ≠ 0 := by
  simp [fdivTerm, ite_eq_iff]

/-- Away from a support violation the term does not depend on `f'(∞)`, nor on the guard `q = 0`. -/
theorem fdivTerm_of_ac (f : ℝ → ℝ) (finf : Option ℝ) (r : ℝ × ℝ)
    (h : r.2 = 0 → r.1 = 0) : fdivTerm f finf r = some (r.2 * f (r.1 / r.2)) := by
  by_cases h2 : r.2 = 0
  · rw [fdivTerm_zero_zero f finf r h2 (h h2), h2, zero_mul]
  · exact fdivTerm_of_ne f finf r h2

theorem fdivTerm_tv (r : ℝ × ℝ) (h1 : 0 ≤ r.1) (h2 : 0 ≤ r.2) :
    fdivTerm (fun t => |t - 1| / 2) (some (1 / 2)) r = some (|r.1 - r.2| / 2) := by
  rw [fdivTerm_some]
  refine congrArg some ?_
  split_ifs with hq hp
  · rw [hp, hq, sub_zero, abs_zero, zero_div]
  · rw [hq, sub_zero, abs_of_nonneg h1, mul_one_div]
  · rw [← mul_div_assoc, ← abs_of_nonneg h2, ← abs_mul, abs_of_nonneg h2, mul_sub,
      mul_div_cancel₀ _ hq, mul_one]

/-- Jensen's inequality on a list of pairs: weights `q`, points `p / q`, so that `Σ q · (p / q) = Σ p`. -/
theorem jensen_list (f : ℝ → ℝ) (hconv : ConvexOn ℝ (Set.Ici 0) f) (pq : List (ℝ × ℝ))
    (hnn : ∀ r ∈ pq, 0 ≤ r.1 ∧ 0 ≤ r.2) (hq : (pq.map (·.2)).sum = 1)
    (hac : ∀ r ∈ pq, r.2 = 0 → r.1 = 0) :
    f ((pq.map (·.1)).sum) ≤ (pq.map (fun r => r.2 * f (r.1 / r.2))).sum := by
  rw [← Fin.sum_univ_fun_getElem] at hq ⊢
  rw [← Fin.sum_univ_fun_getElem]
  have := hconv.map_sum_le (t := Finset.univ) (w := fun i : Fin pq.length => (pq[i.1]'i.2).2)
    (p := fun i : Fin pq.length => (pq[i.1]'i.2).1 / (pq[i.1]'i.2).2)
    (fun i _ => (hnn _ (List.getElem_mem i.2)).2) hq
    (fun i _ => div_nonneg (hnn _ (List.getElem_mem i.2)).1 (hnn _ (List.getElem_mem i.2)).2)
  simpa only [smul_eq_mul, mul_div_cancel_of_imp' (hac _ (List.getElem_mem _))] using this

end Dit.Lemmas.FDiv
