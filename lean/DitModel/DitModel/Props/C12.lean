/-
C12 — Sampling is exact inverse-CDF selection in stored outcome order.

Theorems about `Dit.sampleIdx` (the model of `_sample(s)_discrete__python`) over an
arbitrary linearly ordered field.
Helper lemmas: Lemmas/Sampling.lean.
-/
import DitModel.Lemmas.Sampling

namespace Dit.Props.C12
open Dit Dit.Lemmas.Sampling

variable {α : Type} [Field α] [LinearOrder α] [IsStrictOrderedRing α]

set_option linter.unusedSectionVars false in
/-- **Interval.** If the scan returns `j` for a random number `u ≥ 0`, then `j` is a stored
position and `F(j-1) ≤ u < F(j)`. -/
theorem sample_interval (pmf : List α) (u : α) (j : Nat) (hu : 0 ≤ u)
    (h : sampleIdx pmf u = some j) :
    j < pmf.length ∧ cum pmf j ≤ u ∧ u < cum pmf (j + 1) := by
  obtain ⟨i, hi, hk, hlo, hhi⟩ := scanFrom_some pmf u 0 0 j hu h
  rw [Nat.zero_add] at hk
  subst hk
  rw [zero_add] at hlo hhi
  exact ⟨hi, hlo, hhi⟩

/-- **Positivity.** The selected entry has strictly positive probability: an outcome of
zero probability is never returned. -/
theorem sample_pos (pmf : List α) (u : α) (j : Nat) (hu : 0 ≤ u)
    (h : sampleIdx pmf u = some j) :
    ∃ hj : j < pmf.length, 0 < pmf[j] := by
  obtain ⟨hj, hlo, hhi⟩ := sample_interval pmf u j hu h
  rw [cum_succ pmf j hj] at hhi
  exact ⟨hj, pos_of_lt_add_right (hlo.trans_lt hhi)⟩

/-- **Fallback.** When the scan falls off the end (possible only for `u ≥ ΣP`, i.e. through
floating-point rounding of the total), the fallback index carries positive probability. -/
theorem sample_fallback_pos (pmf : List α) (u : α) (j : Nat) (hu : 0 ≤ u)
    (h : sampleIdxF pmf u = some j) :
    ∃ hj : j < pmf.length, 0 < pmf[j] := by
  unfold sampleIdxF at h
  split at h
  · next k hk =>
    cases h
    exact sample_pos pmf u j hu hk
  · rcases lastPos_pos pmf 0 none j h with h1 | ⟨i, hi, hk, hpi⟩
    · cases h1
    · rw [Nat.zero_add] at hk
      subst hk
      exact ⟨hi, hpi⟩

set_option linter.unusedSectionVars false in
/-- **Totality.** For every `u` in `[0, ΣP)` the scan returns an index. -/
theorem sample_total (pmf : List α) (u : α) (hu : 0 ≤ u) (h : u < pmf.sum) :
    ∃ j, sampleIdx pmf u = some j :=
  scanFrom_eq_some_of_lt_sum pmf u 0 0 hu (by rwa [zero_add])

/-- **Surjectivity.** Every stored entry of positive probability is returned for some `u`,
namely the left end `F(j-1)` of its interval (all entries being non-negative). -/
theorem sample_onto (pmf : List α) (j : Nat) (hj : j < pmf.length)
    (hnn : ∀ p ∈ pmf, 0 ≤ p) (hpos : 0 < pmf[j]) :
    sampleIdx pmf (cum pmf j) = some j :=
  sampleIdx_of_interval pmf hnn _ j hj le_rfl
    (by rw [cum_succ pmf j hj]; exact lt_add_of_pos_right _ hpos)

/-- **Right end.** At `u = F(j)` entry `j` is not returned: intervals are half-open. -/
theorem sample_right_open (pmf : List α) (j : Nat) (h0 : 0 ≤ cum pmf (j + 1)) :
    sampleIdx pmf (cum pmf (j + 1)) ≠ some j := by
  intro h
  exact lt_irrefl _ (sample_interval pmf _ j h0 h).2.2

set_option linter.unusedSectionVars false in
/-- **Draws with a generator.** The draws for a stream of uniforms are the scan applied to
each of them in order, one draw per uniform. -/
theorem draws_from_stream (pmf : List α) (us : List α) :
    sampleMany pmf us = us.map (sampleIdx pmf) ∧ (sampleMany pmf us).length = us.length :=
  ⟨rfl, List.length_map _⟩

/-- Non-vacuity: a table with a stored zero; `u = 1/2` selects index 2, skipping the zero. -/
example : sampleIdx [(1 : Rat) / 2, 0, 1 / 2] (1 / 2) = some 2 := by decide +kernel
example : sampleIdx [(1 : Rat) / 2, 0, 1 / 2] 1 = none := by decide +kernel
example : sampleIdxF [(1 : Rat) / 2, 0, 1 / 2, 0] 1 = some 2 := by decide +kernel

end Dit.Props.C12
