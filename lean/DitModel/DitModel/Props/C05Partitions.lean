/-
C05, CAEKL — the CAEKL mutual information is a minimum over ALL set partitions of the groups.

`caekl_mutual_information` takes `min` of the normalised excess entropies over the partitions
`dit.utils.partitions` yields (those with at least two blocks). The model's candidates are indexed
by `setPartitions groups`; `Props/C16Fci.lean` proves that enumeration sound, complete and
repetition-free. Here the completeness is carried to the candidates' VALUES: for any set function
`H`, every set partition of the groups with at least two blocks — listed in any order of blocks
and of members — has its normalised excess entropy among the values of `caeklCands`, and
conversely every candidate is the value of a set partition with at least two blocks. So the
minimum of the candidates' values is the minimum over all set partitions.
-/
import DitModel.Props.C05
import DitModel.Props.C16Fci
import DitModel.Lemmas.Caekl

namespace Dit.Props.C05Partitions
open Dit Dit.Lemmas.InfoAlg Dit.Lemmas.Caekl Dit.Props.C16Fci

variable {R : Type} [Field R]

/-- **The value of a candidate depends on the partition as a set of sets only.** -/
theorem caeklCand_congr (cast : Rat →+* R) (H : VSet → R) (groups : List VSet) (Z : VSet)
    {P Q : List (List VSet)} (hP : IsSetPartition P groups) (hQ : IsSetPartition Q groups)
    (h : SameBlocks P Q) :
    Comb.eval cast H (caeklCand groups Z P) = Comb.eval cast H (caeklCand groups Z Q) := by
  have hP' := isSetPartition_iff.mp hP
  have hQ' := isSetPartition_iff.mp hQ
  rw [eval_caeklCand, eval_caeklCand, sum_Hc_eq H Z hP' hQ' h, Dit.Lemmas.SetPart.Same.length_eq hP' hQ' h]

/-- **Every set partition with at least two blocks is a candidate** (by value). -/
theorem caekl_candidates_complete (cast : Rat →+* R) (H : VSet → R) (groups : List VSet)
    (hnd : groups.Nodup) (Z : VSet) (Q : List (List VSet)) (hQ : IsSetPartition Q groups)
    (h2 : 1 < Q.length) :
    ∃ c ∈ caeklCands groups Z, Comb.eval cast H c = Comb.eval cast H (caeklCand groups Z Q) := by
  obtain ⟨P, hP, hs, hlen⟩ := setPartitions_complete hnd Q hQ
  exact ⟨caeklCand groups Z P, mem_caeklCands_iff.mpr ⟨P, hP, hlen ▸ h2, rfl⟩,
    caeklCand_congr cast H groups Z (setPartitions_sound hnd P hP) hQ hs⟩

/-- **Every candidate is the value of a set partition with at least two blocks.** -/
theorem caekl_candidates_sound (groups : List VSet) (hnd : groups.Nodup) (Z : VSet) :
    ∀ c ∈ caeklCands groups Z, ∃ P, IsSetPartition P groups ∧ 1 < P.length ∧ c = caeklCand groups Z P := by
  intro c hc
  obtain ⟨P, hP, hl, rfl⟩ := mem_caeklCands_iff.mp hc
  exact ⟨P, setPartitions_sound hnd P hP, hl, rfl⟩

/-- **Hence the least candidate value is a lower bound for, and attained by, the set partitions**: over an
ordered field, if `m` is the minimum of the candidates' values then `m ≤` the normalised excess entropy of every
set partition with at least two blocks, and `m` is the value of one of them. -/
theorem caekl_min_over_all_partitions {K : Type} [Field K] [LinearOrder K] [IsStrictOrderedRing K]
    (cast : Rat →+* K) (H : VSet → K) (groups : List VSet) (hnd : groups.Nodup) (Z : VSet) (m : K)
    (hm : m ∈ (caeklCands groups Z).map (Comb.eval cast H))
    (hmin : ∀ v ∈ (caeklCands groups Z).map (Comb.eval cast H), m ≤ v) :
    (∀ Q, IsSetPartition Q groups → 1 < Q.length → m ≤ Comb.eval cast H (caeklCand groups Z Q))
      ∧ ∃ P, IsSetPartition P groups ∧ 1 < P.length ∧ m = Comb.eval cast H (caeklCand groups Z P) := by
  constructor
  · intro Q hQ h2
    obtain ⟨c, hc, he⟩ := caekl_candidates_complete cast H groups hnd Z Q hQ h2
    rw [← he]
    exact hmin _ (List.mem_map.mpr ⟨c, hc, rfl⟩)
  · obtain ⟨c, hc, rfl⟩ := List.mem_map.mp hm
    obtain ⟨P, hP, hl, rfl⟩ := caekl_candidates_sound groups hnd Z c hc
    exact ⟨P, hP, hl, rfl⟩

example : IsSetPartition [[[0], [2]], [[1]]] [[0], [1], [2]] ∧ 1 < [[[0], [2]], [[1]]].length := by
  refine ⟨⟨by decide, by decide, by decide, fun x => ?_⟩, by decide⟩
  simp only [List.mem_cons, List.not_mem_nil, or_false, exists_eq_or_imp, exists_eq_left]
  exact or_right_comm.trans or_assoc

end Dit.Props.C05Partitions
