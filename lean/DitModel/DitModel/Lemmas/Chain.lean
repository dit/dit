/-
Helper lemmas for the links `K ≤ J`, `J ≤ B`, `B ≤ M` of the chain of common informations (property C16),
first in the entropy-function algebra of Lemmas/InfoAlg.lean (`H : VSet → R`, `Submod H`,
`Hc H X Z = H(X ∪ Z) − H(Z)`), then for the entropy function of a table with an appended label variable,
which agrees with that of the original table on the old variables (`AgreeBelow`).
-/
import DitModel.Lemmas.SetPart
import DitModel.Lemmas.Meet

namespace Dit.Lemmas.Chain
open Dit Dit.Lemmas.ListBasics Dit.Lemmas.Table Dit.Lemmas.InfoAlg Dit.Lemmas.InfoReal Dit.Lemmas.Meet

section Partitions
variable {β : Type}

theorem setPartitions_block_ne_nil (l : List β) (P : List (List β)) (hP : P ∈ setPartitions l) :
    ∀ B ∈ P, B ≠ [] := by
  induction l generalizing P with
  | nil =>
    simp only [setPartitions, List.mem_singleton] at hP
    subst hP; simp
  | cons x t ih =>
    simp only [setPartitions, List.mem_flatMap, List.mem_cons, List.mem_map, List.mem_range] at hP
    obtain ⟨p, hp, rfl | ⟨i, _, rfl⟩⟩ := hP
    · exact List.forall_mem_cons.mpr ⟨List.cons_ne_nil _ _, ih p hp⟩
    · intro B hB
      obtain ⟨j, hj, rfl⟩ := List.getElem_of_mem hB
      rw [List.getElem_modify]
      split
      · exact List.cons_ne_nil _ _
      · exact ih p hp _ (List.getElem_mem _)

end Partitions

theorem singletons_cand_mem (groups : List VSet) (Z : VSet) (hlen : 1 < groups.length) :
    caeklCand groups Z (groups.map (fun g => [g])) ∈ caeklCands groups Z := by
  unfold caeklCands
  refine List.mem_map.mpr ⟨_, List.mem_filter.mpr ⟨Lemmas.SetPart.map_singleton_mem_setPartitions groups, ?_⟩, rfl⟩
  simpa using hlen

theorem vunion_subset_vunions {L : List VSet} {g : VSet} (hg : g ∈ L) (Z : VSet) :
    ∀ x ∈ vunion g Z, x ∈ vunion (vunions L) Z := by
  intro x hx
  rw [mem_vunion] at hx ⊢
  exact hx.imp_left fun hx => (mem_vunions _ _).mpr ⟨g, hg, hx⟩

section Scale
variable {R : Type} [CommRing R] (cast : ℚ →+* R)

theorem cast_inv_mul (k : Nat) (hk : 1 < k) :
    cast (1 / ((k : ℚ) - 1)) * ((k : R) - 1) = 1 := by
  have hne : (k : ℚ) - 1 ≠ 0 := sub_ne_zero.mpr (Nat.cast_ne_one.mpr hk.ne')
  have e : cast ((k : ℚ) - 1) = (k : R) - 1 := by rw [cast.map_sub, map_natCast, cast.map_one]
  rw [← e, ← cast.map_mul, one_div, inv_mul_cancel₀ hne, cast.map_one]

theorem scale_cancel (k : Nat) (hk : 1 < k) (x : R) :
    cast (1 / ((k : ℚ) - 1)) * (((k : R) - 1) * x) = x := by
  rw [← mul_assoc, cast_inv_mul cast k hk, one_mul]

variable [LinearOrder R] [IsStrictOrderedRing R]

theorem cast_inv_pos (k : Nat) (hk : 1 < k) : 0 < cast (1 / ((k : ℚ) - 1)) :=
  pos_of_mul_pos_left ((zero_lt_one' R).trans_eq (cast_inv_mul cast k hk).symm)
    (sub_nonneg.mpr (Nat.one_le_cast.mpr hk.le))

theorem le_scaled (k : Nat) (hk : 1 < k) (x S : R) (h : ((k : R) - 1) * x ≤ S) :
    x ≤ cast (1 / ((k : ℚ) - 1)) * S :=
  (scale_cancel cast k hk x).symm.trans_le (mul_le_mul_of_nonneg_left h (cast_inv_pos cast k hk).le)

theorem scaled_le (k : Nat) (hk : 1 < k) (y S : R) (h : S ≤ ((k : R) - 1) * y) :
    cast (1 / ((k : ℚ) - 1)) * S ≤ y :=
  (mul_le_mul_of_nonneg_left h (cast_inv_pos cast k hk).le).trans_eq (scale_cancel cast k hk y)

end Scale

/-! ## Functions of a set of variables in the entropy-function algebra -/

section Alg
variable {R : Type} [CommRing R] {H : VSet → R}

theorem H_absorb {V B : VSet} (h0 : Hc H V B = 0) : H (vunion V B) = H (vnorm B) :=
  sub_eq_zero.mp h0

theorem Hc_split_function {V B Z : VSet} (h0 : Hc H V (vunion B Z) = 0) :
    Hc H B Z = Hc H V Z + Hc H B (vunion V Z) := by
  rw [Hc_exchange H V B Z, h0, add_zero]

theorem sum_split_function (V Z : VSet) (Bs : List VSet)
    (h0 : ∀ B ∈ Bs, Hc H V (vunion B Z) = 0) :
    (Bs.map (fun B => Hc H B Z)).sum
      = (Bs.length : R) * Hc H V Z + (Bs.map (fun B => Hc H B (vunion V Z))).sum := by
  rw [List.map_congr_left fun B hB => Hc_split_function (h0 B hB), List.sum_map_add,
    List.map_const', List.sum_replicate, nsmul_eq_mul]

theorem eval_singletons_cand (cast : ℚ →+* R) (groups : List VSet) (Z : VSet) :
    Comb.eval cast H (caeklCand groups Z (groups.map (fun g => [g])))
      = cast (1 / ((groups.length : ℚ) - 1)) * Comb.eval cast H (tcC groups Z) := by
  rw [eval_caeklCand, eval_tcC, List.map_map, List.length_map]
  simp only [Function.comp_def, vunions_singleton, Hc_vnorm_left]

theorem ci_symm {X Y W : VSet} (hCI : Hc H X (vunion Y W) = Hc H X W) :
    Hc H Y (vunion X W) = Hc H Y W := by
  linear_combination Hc_exchange H X Y W + hCI

variable [LinearOrder R] [IsStrictOrderedRing R]

/-- `T(Bs|Z) = (|Bs|−1)·H(V|Z) + T(Bs|V,Z)`. -/
theorem common_function_le_tc (h : Submod H) (V Z : VSet) (Bs : List VSet) (hne : Bs ≠ [])
    (hV : ∀ B ∈ Bs, Hc H V (vunion B Z) = 0) :
    ((Bs.length : R) - 1) * Hc H V Z
      ≤ (Bs.map (fun B => Hc H B Z)).sum - Hc H (vunions Bs) Z := by
  obtain ⟨B, hB⟩ := List.exists_mem_of_ne_nil Bs hne
  have hU : Hc H V (vunion (vunions Bs) Z) = 0 :=
    Hc_zero_mono h (hV B hB) (vunion_subset_vunions hB Z)
  rw [sum_split_function V Z Bs hV, Hc_split_function hU]
  linear_combination tc_sum_nonneg h Bs (vunion V Z)

theorem common_function_le_cand (cast : ℚ →+* R) (h : Submod H) (groups : List VSet) (V Z : VSet)
    (hV : ∀ g ∈ groups, Hc H V (vunion g Z) = 0) (P : List (List VSet))
    (hP : P ∈ setPartitions groups) (hlen : 1 < P.length) :
    Hc H V Z ≤ Comb.eval cast H (caeklCand groups Z P) := by
  rw [eval_caeklCand, ← vunions_partition groups P hP]
  apply le_scaled cast P.length hlen
  have hne : P.map vunions ≠ [] :=
    List.ne_nil_of_length_pos (by rw [List.length_map]; exact Nat.lt_of_succ_lt hlen)
  have := common_function_le_tc h V Z (P.map vunions) hne ?_
  · rwa [List.length_map, List.map_map] at this
  -- every block contains a group, hence determines `V`
  intro U hU
  obtain ⟨B, hB, rfl⟩ := List.mem_map.mp hU
  obtain ⟨g, hg⟩ := List.exists_mem_of_ne_nil B (setPartitions_block_ne_nil groups P hP B hB)
  exact Hc_zero_mono h (hV g ((setPartitions_cover groups P hP g).mp ⟨B, hB, hg⟩))
    (vunion_subset_vunions hg Z)

/-! ### `T ≤ (n−1)·B` -/

theorem VDisj.symm {a b : VSet} (h : VDisj a b) : VDisj b a := fun x hb ha => h x ha hb

/-- `I(Xᵢ : X₋ᵢ | Z) ≤ B`: the difference is `H(X₋ᵢ | Xᵢ, Z) − Σ_{j≠i} H(Xⱼ | X₋ⱼ, Z) ≥ 0`. -/
theorem mi_rest_le_dtc (h : Submod H) (groups : List VSet) (Z : VSet)
    (hdis : groups.Pairwise VDisj) (g : VSet) (hg : g ∈ groups) :
    Hc H g Z - Hc H g (vunion (vdiff (vunions groups) (vnorm g)) Z)
      ≤ Hc H (vunions groups) Z
        - (groups.map (fun g' =>
            Hc H g' (vunion (vdiff (vunions groups) (vnorm g')) Z))).sum := by
  have hperm : groups.Perm (g :: groups.erase g) := List.perm_cons_erase hg
  have hsum := (hperm.map (fun g' =>
    Hc H g' (vunion (vdiff (vunions groups) (vnorm g')) Z))).sum_eq
  rw [List.map_cons, List.sum_cons] at hsum
  have hd := List.pairwise_cons.mp ((hperm.pairwise_iff VDisj.symm).mp hdis)
  have hres := residual_le h (vunions groups) Z (groups.erase g) (vunion g Z) hd.2
    (fun g' hg' x hx => (mem_vunions _ _).mpr ⟨g', List.mem_of_mem_erase hg', hx⟩)
    (by
      intro g' hg' x hx
      rcases (mem_vunion _ _ _).mp hx with hx | hx
      · exact Or.inr ⟨(mem_vunions _ _).mpr ⟨g, hg, hx⟩, hd.1 g' hg' x hx⟩
      · exact Or.inl hx)
  have hU : Hc H (vunions groups) Z
      = Hc H g Z + Hc H (vunions (groups.erase g)) (vunion g Z) := by
    rw [vunions_perm hperm, vunions_cons, Hc_chain]
  rw [hsum, hU]
  linear_combination hres

/-- `T + B = Σᵢ I(Xᵢ : X₋ᵢ | Z)` and every term is at most `B`. -/
theorem tc_le_dtc (h : Submod H) (groups : List VSet) (Z : VSet) (hdis : groups.Pairwise VDisj) :
    (groups.map (fun g => Hc H g Z)).sum - Hc H (vunions groups) Z
      ≤ ((groups.length : R) - 1)
        * (Hc H (vunions groups) Z
            - (groups.map (fun g =>
                Hc H g (vunion (vdiff (vunions groups) (vnorm g)) Z))).sum) := by
  have hI := List.sum_le_card_nsmul
    (groups.map fun g => Hc H g Z - Hc H g (vunion (vdiff (vunions groups) (vnorm g)) Z)) _
    (List.forall_mem_map.mpr (mi_rest_le_dtc h groups Z hdis))
  rw [List.length_map, nsmul_eq_mul, sum_map_sub] at hI
  linear_combination hI

/-! ### Conditional independence given a sufficient statistic -/

theorem H_le_union (h : Submod H) (W B : VSet) : H (vnorm W) ≤ H (vunion B W) :=
  sub_nonneg.mp (Hc_nonneg h B W)

theorem H_le_of_function (h : Submod H) {V B : VSet} (h0 : Hc H V B = 0) :
    H (vnorm V) ≤ H (vnorm B) := by
  rw [← H_absorb h0, vunion_comm]
  exact H_le_union h V B

theorem ci_of_mi_preserved (h : Submod H) {X Y S : VSet} (hS : Hc H S X = 0)
    (hMI : H (vnorm S) + H (vnorm Y) - H (vunion S Y)
      = H (vnorm X) + H (vnorm Y) - H (vunion X Y)) :
    Hc H X (vunion Y S) = Hc H X S := by
  -- the hypothesis says `H(Y|X) = H(Y|S)`, and `H(Y|X,S) = H(Y|X)` as `S` is a function of `X`
  have hY : Hc H Y (vunion X S) = Hc H Y S := by
    rw [vunion_comm X S, Hc_cond_function h hS Y]
    unfold Hc
    rw [vunion_comm Y X, vunion_comm Y S]
    linear_combination hMI
  linear_combination hY - Hc_exchange H X Y S

/-- `H(X|S) = H(X|Y,S) = H(X|Y,S,T) ≤ H(X|S,T) ≤ H(X|S)`. -/
theorem ci_extend (h : Submod H) {X Y S T : VSet} (hT : Hc H T Y = 0)
    (hCI : Hc H X (vunion Y S) = Hc H X S) :
    Hc H X (vunion Y (vunion S T)) = Hc H X (vunion S T) := by
  have hT' : Hc H T (vunion Y S) = 0 :=
    Hc_zero_mono h hT (subset_vunion_left Y S)
  have e : Hc H X (vunion Y (vunion S T)) = Hc H X S := by
    rw [← vunion_assoc, vunion_comm (vunion Y S) T, Hc_cond_function h hT' X, hCI]
  refine le_antisymm (Hc_anti h X _ _ (subset_vunion_right Y (vunion S T))) ?_
  rw [e]
  exact Hc_anti h X S _ (subset_vunion_left S T)

theorem ci_sub (h : Submod H) {X Y Y' W : VSet} (hCI : Hc H X (vunion Y W) = Hc H X W)
    (hsub : ∀ x ∈ Y', x ∈ Y) : Hc H X (vunion Y' W) = Hc H X W := by
  refine le_antisymm (Hc_anti h X W _ (subset_vunion_right Y' W)) ?_
  rw [← hCI]
  refine Hc_anti h X _ _ fun x hx => ?_
  rw [mem_vunion] at hx ⊢
  exact hx.imp_left (hsub x)

theorem function_union (h : Submod H) {X Y S T : VSet} (hS : Hc H S X = 0) (hT : Hc H T Y = 0) :
    Hc H (vunion S T) (vunion X Y) = 0 := by
  have h3 := h S T (vunion X Y)
  rw [Hc_zero_mono h hS (subset_vunion_left X Y), Hc_zero_mono h hT (subset_vunion_right X Y),
    zero_add, zero_sub, neg_nonneg] at h3
  exact le_antisymm h3 (Hc_nonneg h _ _)

/-- The hypothesis of `dtc_le_of_cond_indep` for two groups, from `I(X:Y|W) = 0`. -/
theorem ci_two_groups (h : Submod H) {X Y W : VSet} (hCI : Hc H X (vunion Y W) = Hc H X W) :
    ∀ g ∈ [X, Y],
      Hc H g (vunion (vdiff (vunions [X, Y]) (vnorm g)) W) = Hc H g W := by
  intro g hg
  rcases List.mem_pair.mp hg with rfl | rfl
  · refine ci_sub h hCI fun x hx => ?_
    rw [mem_vdiff, vunions_pair, mem_vunion, mem_vnorm] at hx
    exact hx.1.resolve_left hx.2
  · refine ci_sub h (ci_symm hCI) fun x hx => ?_
    rw [mem_vdiff, vunions_pair, mem_vunion, mem_vnorm] at hx
    exact hx.1.resolve_right hx.2

end Alg

/-! ## Entropy functions that agree on the old variables -/

section Agree
variable {R : Type}

def AgreeBelow (n : Nat) (H' H : VSet → R) : Prop := ∀ U : VSet, (∀ i ∈ U, i < n) → H' U = H U

variable {n : Nat} {H' H : VSet → R}

theorem AgreeBelow.trans {m : Nat} {H'' : VSet → R} (h₁ : AgreeBelow m H'' H')
    (h₂ : AgreeBelow n H' H) (hnm : n ≤ m) : AgreeBelow n H'' H :=
  fun U hU => (h₁ U fun i hi => (hU i hi).trans_le hnm).trans (h₂ U hU)

variable [CommRing R]

theorem eval_dtcC_agree (cast : ℚ →+* R) (ha : AgreeBelow n H' H) (groups : List VSet) (Z : VSet)
    (hg : ∀ g ∈ groups, ∀ i ∈ g, i < n) (hZ : ∀ i ∈ Z, i < n) :
    Comb.eval cast H' (dtcC groups Z) = Comb.eval cast H (dtcC groups Z) := by
  rw [eval_dtcC, eval_dtcC, eval_residualC, eval_residualC,
    Hc_agree ha (forall_mem_vunions hg) hZ]
  congr 2
  apply List.map_congr_left
  intro g hgm
  exact Hc_agree ha (hg g hgm)
    (forall_mem_vunion (fun i hi => forall_mem_vunions hg i ((mem_vdiff _ _ _).mp hi).1) hZ)

theorem eval_caeklCand_agree (cast : ℚ →+* R) (ha : AgreeBelow n H' H) (groups : List VSet)
    (Z : VSet) (hg : ∀ g ∈ groups, ∀ i ∈ g, i < n) (hZ : ∀ i ∈ Z, i < n)
    (P : List (List VSet)) (hP : P ∈ setPartitions groups) :
    Comb.eval cast H' (caeklCand groups Z P) = Comb.eval cast H (caeklCand groups Z P) := by
  rw [eval_caeklCand, eval_caeklCand, Hc_agree ha (forall_mem_vunions hg) hZ]
  congr 3
  apply List.map_congr_left
  intro B hB
  exact Hc_agree ha
    (forall_mem_vunions fun g hgB => hg g ((setPartitions_cover groups P hP g).mp ⟨B, hB, hgB⟩)) hZ

end Agree

/-! ## The table with an appended label variable -/

section Insert
variable {σ : Type}

theorem insertRvf_nonneg (F : List σ → List σ) (index : Option Nat) (t : Tab (List σ) ℝ)
    (hnn : ∀ r ∈ t, 0 ≤ r.2) : ∀ r ∈ insertRvf F index t, 0 ≤ r.2 := by
  rw [Lemmas.Constructors.insertRvf_eq_map]
  intro r hr
  obtain ⟨r', hr', rfl⟩ := List.mem_map.mp hr
  exact hnn r' hr'

theorem insertRvf_mass (F : List σ → List σ) (index : Option Nat) (t : Tab (List σ) ℝ) :
    ((insertRvf F index t).map (·.2)).sum = (t.map (·.2)).sum :=
  congrArg List.sum (Lemmas.Constructors.vals_insertRvf F index t)

theorem mem_keys_insertRvf (ℓ : List σ → σ) (t : Tab (List σ) ℝ) {k : List σ}
    (hk : k ∈ keys (insertRvf (fun o => [ℓ o]) none t)) : ∃ o ∈ keys t, k = o ++ [ℓ o] := by
  rw [Lemmas.Constructors.keys_insertRvf] at hk
  obtain ⟨o, ho, rfl⟩ := List.mem_map.mp hk
  exact ⟨o, ho, rfl⟩

theorem insertRvf_keys_length (ℓ : List σ → σ) (n : Nat) (t : Tab (List σ) ℝ)
    (hn : ∀ k ∈ keys t, k.length = n) :
    ∀ k ∈ keys (insertRvf (fun o => [ℓ o]) none t), k.length = n + 1 := by
  intro k hk
  obtain ⟨o, ho, rfl⟩ := mem_keys_insertRvf ℓ t hk
  rw [List.length_append, hn o ho, List.length_singleton]

theorem insertRvf_two_eq (a b : List σ → σ) (n : Nat) (t : Tab (List σ) ℝ)
    (hn : ∀ k ∈ keys t, k.length = n) :
    insertRvf (fun o => [a o, b o]) none t
      = insertRvf (fun o' => [b (o'.take n)]) none (insertRvf (fun o => [a o]) none t) := by
  show t.map (fun r => (r.1 ++ [a r.1, b r.1], r.2))
    = (t.map (fun r => (r.1 ++ [a r.1], r.2))).map
        (fun r => (r.1 ++ [b (r.1.take n)], r.2))
  rw [List.map_map]
  apply List.map_congr_left
  intro r hr
  have hlen : r.1.length = n := hn r.1 (mem_keys_of_mem hr)
  simp only [Function.comp_apply, Prod.mk.injEq, and_true]
  rw [List.take_left' hlen, List.append_assoc]
  rfl

variable [DecidableEq σ]

theorem entropyOf_vunion (t : Tab (List σ) ℝ) (X Y : List Nat) :
    entropyOf (Real.logb 2) t (vunion X Y) = entropyOf (Real.logb 2) t (X ++ Y) :=
  (entropyOf_vnorm t (X ++ Y)).symm

omit [DecidableEq σ] in
theorem take_function (a b : List σ → σ) (n : Nat) (t : Tab (List σ) ℝ)
    (hn : ∀ k ∈ keys t, k.length = n) (Y : List Nat) (hY : ∀ i ∈ Y, i < n)
    (hb : ∀ k ∈ keys t, ∀ k' ∈ keys t, project Y k = project Y k' → b k = b k') :
    ∀ k ∈ keys (insertRvf (fun o => [a o]) none t),
      ∀ k' ∈ keys (insertRvf (fun o => [a o]) none t),
        project Y k = project Y k' → b (k.take n) = b (k'.take n) := by
  intro k hk k' hk' e
  obtain ⟨o, ho, rfl⟩ := mem_keys_insertRvf a t hk
  obtain ⟨o', ho', rfl⟩ := mem_keys_insertRvf a t hk'
  rw [project_append_of_lt (by rw [hn o ho]; exact hY),
    project_append_of_lt (by rw [hn o' ho']; exact hY)] at e
  rw [List.take_left' (hn o ho), List.take_left' (hn o' ho')]
  exact hb o ho o' ho' e

variable (ℓ : List σ → σ) (n : Nat) (t : Tab (List σ) ℝ) (hn : ∀ k ∈ keys t, k.length = n)
include hn

theorem agree_insert :
    AgreeBelow n (entropyOf (Real.logb 2) (insertRvf (fun o => [ℓ o]) none t))
      (entropyOf (Real.logb 2) t) :=
  fun U hU => entropyOf_old ℓ n t hn U hU

theorem Hc_new_of_function (g : List Nat) (hg : ∀ i ∈ g, i < n)
    (hfun : ∀ k ∈ keys t, ∀ k' ∈ keys t, project g k = project g k' → ℓ k = ℓ k') :
    Hc (entropyOf (Real.logb 2) (insertRvf (fun o => [ℓ o]) none t)) [n] g = 0 := by
  unfold Hc
  rw [vunion_comm, entropyOf_vunion, entropyOf_old_new ℓ n t hn g hg, ← entropyOf_vnorm,
    entropyOf_old ℓ n t hn g hg, entropyOf_eq_Hmap, Hmap_pair ℓ (project g) t hfun, sub_self]

theorem common_label_le_cand (hnn : ∀ r ∈ t, 0 ≤ r.2) (hmass : (t.map (·.2)).sum = 1)
    (groups : List VSet) (hg : ∀ g ∈ groups, ∀ i ∈ g, i < n)
    (hfun : ∀ g ∈ groups, ∀ k ∈ keys t, ∀ k' ∈ keys t, project g k = project g k' → ℓ k = ℓ k')
    (P : List (List VSet)) (hP : P ∈ setPartitions groups) (hlen : 1 < P.length) :
    entropyOf (Real.logb 2) (insertRvf (fun o => [ℓ o]) none t) [n]
      ≤ Comb.eval (Rat.castHom ℝ) (entropyOf (Real.logb 2) t) (caeklCand groups [] P) := by
  have hsub := entropy_Submod _ (insertRvf_nonneg (fun o => [ℓ o]) none t hnn)
  rw [← Hc_entropyOf_nil _ ((insertRvf_mass _ _ t).trans hmass),
    ← eval_caeklCand_agree (Rat.castHom ℝ) (agree_insert ℓ n t hn) groups [] hg (by simp) P hP]
  refine common_function_le_cand (Rat.castHom ℝ) hsub groups [n] [] (fun g hgm => ?_) P hP hlen
  exact Hc_zero_mono hsub (Hc_new_of_function ℓ n t hn g (hg g hgm) (hfun g hgm))
    (subset_vunion_left g [])

/-- The mutual informations are written as `entropyOf` computes them on lists of positions. -/
theorem label_renders_independent (hnn : ∀ r ∈ t, 0 ≤ r.2) (X Y : List Nat)
    (hX : ∀ i ∈ X, i < n) (hY : ∀ i ∈ Y, i < n)
    (hfun : ∀ k ∈ keys t, ∀ k' ∈ keys t, project X k = project X k' → ℓ k = ℓ k')
    (hMI : entropyOf (Real.logb 2) (insertRvf (fun o => [ℓ o]) none t) [n]
        + entropyOf (Real.logb 2) (insertRvf (fun o => [ℓ o]) none t) Y
        - entropyOf (Real.logb 2) (insertRvf (fun o => [ℓ o]) none t) (Y ++ [n])
      = entropyOf (Real.logb 2) t X + entropyOf (Real.logb 2) t Y
        - entropyOf (Real.logb 2) t (X ++ Y)) :
    Hc (entropyOf (Real.logb 2) (insertRvf (fun o => [ℓ o]) none t)) X (vunion Y [n])
      = Hc (entropyOf (Real.logb 2) (insertRvf (fun o => [ℓ o]) none t)) X [n]
    ∧ Hc (entropyOf (Real.logb 2) (insertRvf (fun o => [ℓ o]) none t)) [n] X = 0 := by
  have hS := Hc_new_of_function ℓ n t hn X hX hfun
  refine ⟨ci_of_mi_preserved (entropy_Submod _ (insertRvf_nonneg _ _ t hnn)) hS ?_, hS⟩
  have ag := agree_insert ℓ n t hn
  rw [← entropyOf_vnorm, ← entropyOf_vnorm, ← entropyOf_vnorm, vunion_comm [n] Y,
    entropyOf_vunion, entropyOf_vunion, ag X hX,
    ag (X ++ Y) fun i hi => (List.mem_append.mp hi).elim (hX i) (hY i), hMI, ag Y hY]

end Insert

end Dit.Lemmas.Chain
