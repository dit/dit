/-
C16 (companion) — set partitions and the functional common information.

`dit.utils.partitions` (through `partitions1`, a bit-mask recursion) enumerates the set partitions that
CAEKL mutual information minimises over and that `functional_common_information` searches; the models
(`Core/Info.lean: setPartitions`, `Core/SetPart.lean: partitions1`, `fciCandidates`) are proved here to
enumerate **every** set partition exactly once, so that "minimum over `setPartitions`" is the minimum
over all functions of the outcomes, as the definitions of `J` and `F` demand.

For `F`: a partition of the outcomes is feasible when inside every block the groups are independent
(`blockIndep`: `P(x₁…x_k | B) = Π P(xᵢ | B)`, written without division).  The finest partition is always
feasible (so the minimum exists and `F ≤ H`), feasibility and the entropy of the block masses depend on
the blocks as sets only, and every feasible function of the outcomes is represented among
`fciCandidates`.
-/
import DitModel.Core.SetPart
import DitModel.Lemmas.SetPart

namespace Dit.Props.C16Fci
open Dit Dit.Lemmas.SetPart

section Partitions
variable {β : Type} [DecidableEq β]

/-- `P` is a set partition of the members of `l`: non-empty duplicate-free blocks, pairwise disjoint,
covering exactly `l`. -/
structure IsSetPartition (P : List (List β)) (l : List β) : Prop where
  nonempty : ∀ B ∈ P, B ≠ []
  nodup : ∀ B ∈ P, B.Nodup
  disjoint : P.Pairwise (fun B B' => ∀ x, x ∈ B → x ∉ B')
  cover : ∀ x, (∃ B ∈ P, x ∈ B) ↔ x ∈ l

/-- Two lists of blocks are the same set of sets. -/
def SameBlocks (P Q : List (List β)) : Prop :=
  (∀ B ∈ P, ∃ B' ∈ Q, ∀ x, x ∈ B ↔ x ∈ B') ∧ (∀ B' ∈ Q, ∃ B ∈ P, ∀ x, x ∈ B ↔ x ∈ B')

omit [DecidableEq β] in
theorem isSetPartition_iff {P : List (List β)} {l : List β} : IsSetPartition P l ↔ IsPart P l :=
  ⟨fun h => ⟨h.nonempty, h.nodup, h.disjoint, h.cover⟩,
    fun h => ⟨h.nonempty, h.nodup, h.disjoint, h.cover⟩⟩

set_option linter.unusedSectionVars false in
/-- **Soundness**: everything `setPartitions` lists is a set partition. -/
theorem setPartitions_sound {l : List β} (hl : l.Nodup) :
    ∀ P ∈ setPartitions l, IsSetPartition P l :=
  fun P hP => isSetPartition_iff.mpr (setPartitions_isPart hl P hP)

/-- **Completeness**: every set partition of `l` is listed (as the same set of sets, with the same
number of blocks). -/
theorem setPartitions_complete {l : List β} (hl : l.Nodup) (Q : List (List β))
    (hQ : IsSetPartition Q l) :
    ∃ P ∈ setPartitions l, SameBlocks P Q ∧ P.length = Q.length := by
  have hQ' := isSetPartition_iff.mp hQ
  obtain ⟨P, hP, hs⟩ := setPartitions_complete' hl Q hQ'
  exact ⟨P, hP, hs, hs.length_eq (setPartitions_isPart hl P hP) hQ'⟩

/-- **No repetition**: two different positions of the enumeration never hold the same set of sets. -/
theorem setPartitions_distinct {l : List β} (hl : l.Nodup) :
    (setPartitions l).Pairwise (fun P P' => ¬ SameBlocks P P') := by
  induction l with
  | nil => exact List.pairwise_singleton _ _
  | cons x t ih =>
    have hx := (List.nodup_cons.mp hl).1
    rw [setPartitions, List.pairwise_flatMap]
    constructor
    · intro p hp
      have hpP := setPartitions_isPart hl.of_cons p hp
      rw [List.pairwise_cons, List.pairwise_map]
      constructor
      · intro P' hP'
        obtain ⟨i, hi, rfl⟩ := List.mem_map.mp hP'
        exact not_same_new_modify hl hpP (List.mem_range.mp hi)
      · exact List.pairwise_lt_range.imp_of_mem fun _ hj hij =>
          not_same_modify_modify hl hpP hij (List.mem_range.mp hj)
    · -- children of different parents: taking `x` out again gives the parents back
      refine (ih hl.of_cons).imp_of_mem fun {p p'} hp hp' hne P hP P' hP' hs => ?_
      exact hne ((same_rem_of_mem hx (setPartitions_isPart hl.of_cons p hp) hP).symm.trans
        ((Same.rem x hs).trans (same_rem_of_mem hx (setPartitions_isPart hl.of_cons p' hp') hP')))

set_option linter.unusedSectionVars false in
/-- **Soundness** of the code's enumeration (`partitions1`, bit masks). -/
theorem partitions1_sound {l : List β} (hl : l.Nodup) :
    ∀ P ∈ partitions1 l, IsSetPartition P l :=
  fun P hP => isSetPartition_iff.mpr (partitions1_isPart hl P hP)

/-- **Completeness** of `partitions1`, block counts included. -/
theorem partitions1_complete {l : List β} (hl : l.Nodup) (Q : List (List β))
    (hQ : IsSetPartition Q l) :
    ∃ P ∈ partitions1 l, SameBlocks P Q ∧ P.length = Q.length := by
  have hQ' := isSetPartition_iff.mp hQ
  obtain ⟨P, hP, hs⟩ := partitions1_complete' hl Q hQ'
  exact ⟨P, hP, hs, hs.length_eq (partitions1_isPart hl P hP) hQ'⟩

/-- `partitions1` lists the same set partitions as the model's recursion, block counts included: the filter
`len(p) > 1` of CAEKL and the search space of `F` are the same on both sides. -/
theorem partitions1_iff_setPartitions {l : List β} (hl : l.Nodup) :
    (∀ P ∈ partitions1 l, ∃ P' ∈ setPartitions l, SameBlocks P P' ∧ P.length = P'.length)
      ∧ (∀ P' ∈ setPartitions l, ∃ P ∈ partitions1 l, SameBlocks P P' ∧ P.length = P'.length) := by
  constructor
  · intro P hP
    obtain ⟨P', hP', hs, hlen⟩ := setPartitions_complete hl P (partitions1_sound hl P hP)
    exact ⟨P', hP', Same.symm hs, hlen.symm⟩
  · exact fun P' hP' => partitions1_complete hl P' (setPartitions_sound hl P' hP')

/-- The two enumerations have the same number of members. -/
theorem partitions1_length {l : List β} (hl : l.Nodup) :
    (partitions1 l).length = (setPartitions l).length := by
  have h := partitions1_iff_setPartitions hl
  exact length_eq_of_same (partitions1_distinct hl) (setPartitions_distinct hl)
    (fun P hP => (h.1 P hP).imp fun _ h' => ⟨h'.1, h'.2.1⟩)
    (fun P' hP' => (h.2 P' hP').imp fun _ h' => ⟨h'.1, h'.2.1⟩)

example : IsSetPartition [[0, 2], [1]] [0, 1, 2] ∧ SameBlocks [[0, 2], [1]] [[1], [2, 0]] :=
  ⟨isSetPartition_iff.mpr ((isPart_iff_flatten (by decide)).mpr (by decide)),
    same_iff.mpr (by decide)⟩

example : partitions1 [0, 1, 2] = [[[0, 1, 2]], [[1, 2], [0]], [[0, 2], [1]], [[2], [0, 1]], [[2], [1], [0]]]
    ∧ (setPartitions [0, 1, 2, 3]).length = 15 ∧ (partitions1 [0, 1, 2, 3, 4]).length = 52 := by decide +kernel

end Partitions

section Fci
variable {σ : Type} [DecidableEq σ] {α : Type} [Field α] [DecidableEq α]

/-- **What `blockIndep` tests.** For a block of non-zero mass and at least one group: the test
holds iff the conditional law given the block factorises, `P(x₁…x_k | B) = Π P(xᵢ | B)`, for every choice of
one observed value per group. -/
theorem blockIndep_iff (t : Tab (List σ) α) (groups : List (List Nat)) (hg : groups ≠ [])
    (B : List (List σ)) (hm : blockMass t B ≠ 0) :
    blockIndep t groups B = true ↔
      ∀ vs ∈ blockValueTuples B groups,
        blockJoint t B groups vs / blockMass t B
          = ((groups.zip vs).map (fun gv => blockMargin t B gv.1 gv.2 / blockMass t B)).prod := by
  rw [blockIndep, List.all_eq_true]
  refine forall₂_congr (fun vs hvs => ?_)
  have hlen := length_of_mem_blockValueTuples B groups vs hvs
  have := indep_test_iff (blockJoint t B groups vs) (blockMass t B) hm
    ((groups.zip vs).map (fun gv => blockMargin t B gv.1 gv.2))
    (by simpa [← List.length_pos_iff, hlen] using hg)
  rw [List.length_map, List.length_zip, hlen, Nat.min_self, List.map_map] at this
  rw [decide_eq_true_eq, this]
  rfl

/-- Hypotheses of `blockIndep_iff`. -/
example : ([[0], [1]] : List (List Nat)) ≠ []
    ∧ blockMass ([([0, 0], 1 / 2), ([1, 1], 1 / 2)] : Tab (List Nat) Rat) [[0, 0], [1, 1]] ≠ 0 := by
  decide +kernel

/-- **The finest function is feasible**: given the whole outcome every group is constant, hence the
groups are independent.  So `fciCandidates` is never empty and `F ≤ H(X)`. -/
theorem fci_finest_feasible (t : Tab (List σ) α) (groups : List (List Nat)) (hg : groups ≠ []) :
    fciFeasible t groups ((keys t).map (fun o => [o])) = true
      ∧ (keys t).map (fun o => [o]) ∈ setPartitions (keys t)
      ∧ fciCandidates t groups ≠ [] := by
  have h1 := fciFeasible_finest t groups hg (keys t)
  have h2 := map_singleton_mem_setPartitions (keys t)
  refine ⟨h1, h2, ?_⟩
  have : (keys t).map (fun o => [o]) ∈ fciCandidates t groups :=
    List.mem_filter.mpr ⟨h2, h1⟩
  exact List.ne_nil_of_mem this

/-- Feasibility depends on the blocks as sets only (`hk` is not needed: only the blocks' own `Nodup`
is used). -/
theorem fciFeasible_congr (t : Tab (List σ) α) (hk : (keys t).Nodup) (groups : List (List Nat))
    {P Q : List (List (List σ))} (hP : IsSetPartition P (keys t)) (hQ : IsSetPartition Q (keys t))
    (h : SameBlocks P Q) : fciFeasible t groups P = fciFeasible t groups Q := by
  have _ := hk  -- not needed
  exact fciFeasible_congr' t groups (isSetPartition_iff.mp hP) (isSetPartition_iff.mp hQ) h

/-- **Every feasible function of the outcomes is a candidate**: for any set partition `Q` of the stored
outcomes that renders the groups conditionally independent there is a member of `fciCandidates` with the
same blocks, whose block masses are a permutation of `Q`'s (so every symmetric function of the masses —
the entropy in particular — agrees). -/
theorem fciCandidates_complete (t : Tab (List σ) α) (hk : (keys t).Nodup) (groups : List (List Nat))
    (Q : List (List (List σ))) (hQ : IsSetPartition Q (keys t)) (hf : fciFeasible t groups Q = true) :
    ∃ P ∈ fciCandidates t groups, SameBlocks P Q ∧ (partMasses t P).Perm (partMasses t Q) := by
  have hQ' := isSetPartition_iff.mp hQ
  obtain ⟨P, hP, hs⟩ := setPartitions_complete' hk Q hQ'
  have hP' := setPartitions_isPart hk P hP
  refine ⟨P, List.mem_filter.mpr ⟨hP, ?_⟩, hs, partMasses_perm t hP' hQ' hs⟩
  rw [fciFeasible_congr' t groups hP' hQ' hs]
  exact hf

/-- Every candidate is a feasible set partition of the stored outcomes. -/
theorem fciCandidates_sound (t : Tab (List σ) α) (hk : (keys t).Nodup) (groups : List (List Nat)) :
    ∀ P ∈ fciCandidates t groups, IsSetPartition P (keys t) ∧ fciFeasible t groups P = true := by
  intro P hP
  obtain ⟨hP, hf⟩ := List.mem_filter.mp hP
  exact ⟨setPartitions_sound hk P hP, hf⟩

set_option linter.unusedSectionVars false in
/-- The block masses of any set partition of the stored outcomes add up to the total mass. -/
theorem partMasses_sum (t : Tab (List σ) α) (hk : (keys t).Nodup) (P : List (List (List σ)))
    (hP : IsSetPartition P (keys t)) : (partMasses t P).sum = (t.map (·.2)).sum := by
  have h1 : (partMasses t P).sum = (P.flatten.map (fun o => lookupD 0 t o)).sum := by
    rw [partMasses, List.map_flatten, List.sum_flatten, List.map_map]
    exact congrArg _ (List.map_congr_left fun B _ => Lemmas.ListBasics.lsum_eq_sum _)
  rw [h1, (((isPart_iff_flatten hk).mp (isSetPartition_iff.mp hP)).2.map _).sum_eq, keys,
    List.map_map]
  exact congrArg _ (List.map_congr_left fun r hr => Lemmas.Table.lookupD_eq_of_mem hk hr 0)

/-- Two perfectly correlated bits: the finest function is feasible, the constant one is not; two
independent uniform bits: 8 of the 15 partitions of the four outcomes are feasible (those whose blocks are
all "rectangles": 1 finest + 4 with one pair + 2 with two pairs + 1 trivial). -/
example : fciFeasible ([([0, 0], 1 / 2), ([1, 1], 1 / 2)] : Tab (List Nat) Rat) [[0], [1]] [[[0, 0]], [[1, 1]]] = true
    ∧ fciFeasible ([([0, 0], 1 / 2), ([1, 1], 1 / 2)] : Tab (List Nat) Rat) [[0], [1]] [[[0, 0], [1, 1]]] = false
    ∧ (fciCandidates ([([0, 0], 1 / 4), ([0, 1], 1 / 4), ([1, 0], 1 / 4), ([1, 1], 1 / 4)] : Tab (List Nat) Rat)
        [[0], [1]]).length = 8 := by decide +kernel

end Fci
end Dit.Props.C16Fci
