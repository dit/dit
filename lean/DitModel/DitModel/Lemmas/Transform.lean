/-
Helper lemmas for C08 (invariance of the information measures under changes of representation):
relabelling of symbols, permutation of stored rows, zero padding / trimming, permutation of the
variables, and what these do to `pushforward`, `entropyVals` and the label alignments; for the
symmetric measures, sums over the `sublists`, `combos` and `setPartitions` of a reordered list of
groups. Property theorems are in Props/C08.lean and Props/C08Div.lean.
-/
import DitModel.Core.Transform
import DitModel.Lemmas.Table
import DitModel.Lemmas.InfoReal
import DitModel.Core.Diverge

namespace Dit.Lemmas.Transform
open Dit Dit.Lemmas.Table
open Dit.Lemmas.InfoReal (fibreSum fibreSum_congr_key fibreSum_perm fibreSum_of_not_mem
  fibreSum_filter_of_zero pushforward_eq project_eq_iff plogp_zero)
open Dit.Lemmas.InfoAlg (sum_map_filter_of_zero)

/-! ## Relabelling an outcome -/

section Relabel
variable {σ τ : Type}

theorem length_relabelOutcome (ρ : Nat → σ → τ) (o : List σ) :
    (relabelOutcome ρ o).length = o.length := by
  simp [relabelOutcome]

theorem getElem?_relabelOutcome (ρ : Nat → σ → τ) (o : List σ) (i : Nat) :
    (relabelOutcome ρ o)[i]? = (o[i]?).map (ρ i) := by
  unfold relabelOutcome
  by_cases h : i < o.length
  · simp [h]
  · simp [h]

theorem project_relabel_filterMap (ρ : Nat → σ → τ) (X : List Nat) (o : List σ) :
    project X (relabelOutcome ρ o) = X.filterMap (fun i => (o[i]?).map (ρ i)) := by
  unfold project
  apply List.filterMap_congr
  intro i _
  exact getElem?_relabelOutcome ρ o i

theorem relabel_project_inj_on (ρ : Nat → σ → τ) (X : List Nat) (o o' : List σ)
    (h : ∀ i ∈ X, ∀ s s', o[i]? = some s → o'[i]? = some s' → ρ i s = ρ i s' → s = s') :
    project X (relabelOutcome ρ o) = project X (relabelOutcome ρ o')
      ↔ project X o = project X o' := by
  rw [project_eq_iff, project_eq_iff]
  refine forall₂_congr (fun i hi => ?_)
  rw [getElem?_relabelOutcome, getElem?_relabelOutcome]
  cases h1 : o[i]? with
  | none => cases h2 : o'[i]? <;> simp
  | some s =>
    cases h2 : o'[i]? with
    | none => simp
    | some s' =>
      simp only [Option.map_some, Option.some.injEq]
      exact ⟨h i hi s s' h1 h2, fun e => by rw [e]⟩

theorem relabelOutcome_injective (ρ : Nat → σ → τ) (hρ : ∀ i, Function.Injective (ρ i)) :
    Function.Injective (relabelOutcome ρ) := by
  intro o o' h
  apply List.ext_getElem?
  intro i
  have := congrArg (fun l => l[i]?) h
  simp only [getElem?_relabelOutcome] at this
  exact Option.map_injective (hρ i) this

end Relabel

/-! ## Sums over duplicate-free lists -/

theorem sum_map_eq_of_nodup {β M : Type} [DecidableEq β] [AddCommMonoid M] {l l' : List β}
    (hl : l.Nodup) (hl' : l'.Nodup) (g : β → M) (h : ∀ x ∈ l, x ∉ l' → g x = 0)
    (h' : ∀ x ∈ l', x ∉ l → g x = 0) : (l.map g).sum = (l'.map g).sum := by
  rw [← sum_map_filter_of_zero (fun x => decide (x ∈ l')) g l
      (fun x hx hn => h x hx (of_decide_eq_false hn)),
    ← sum_map_filter_of_zero (fun x => decide (x ∈ l)) g l'
      (fun x hx hn => h' x hx (of_decide_eq_false hn))]
  refine (List.Perm.map g ?_).sum_eq
  rw [List.perm_ext_iff_of_nodup (hl.filter _) (hl'.filter _)]
  intro a
  rw [List.mem_filter, List.mem_filter, decide_eq_true_eq, decide_eq_true_eq]
  exact And.comm

/-! ## Representatives of the classes of a key map, and `pushforward` -/

section Reps
variable {β γ γ' : Type} [DecidableEq γ] [DecidableEq γ']

/-- First element of each `F`-class, in list order. -/
def reps (F : β → γ) : List β → List β
  | [] => []
  | x :: t => x :: (reps F t).filter (fun y => decide (F y ≠ F x))

theorem reps_sublist (F : β → γ) (l : List β) : (reps F l).Sublist l := by
  induction l with
  | nil => exact List.Sublist.slnil
  | cons x t ih => exact (List.filter_sublist.trans ih).cons_cons x

theorem mem_of_mem_reps {F : β → γ} {l : List β} {a : β} (h : a ∈ reps F l) : a ∈ l :=
  (reps_sublist F l).subset h

theorem dedup_map_eq (F : β → γ) (l : List β) : dedup (l.map F) = (reps F l).map F := by
  induction l with
  | nil => rfl
  | cons x t ih =>
    show F x :: (dedup (t.map F)).filter (fun y => decide (y ≠ F x)) = _
    rw [ih, List.filter_map]
    rfl

theorem reps_congr (F : β → γ) (G : β → γ') (l : List β)
    (h : ∀ a ∈ l, ∀ b ∈ l, F a = F b ↔ G a = G b) : reps F l = reps G l := by
  induction l with
  | nil => rfl
  | cons x t ih =>
    show x :: (reps F t).filter _ = x :: (reps G t).filter _
    rw [ih (fun a ha b hb => h a (List.mem_cons_of_mem _ ha) b (List.mem_cons_of_mem _ hb))]
    congr 1
    apply List.filter_congr
    intro y hy
    exact decide_eq_decide.mpr (not_congr
      (h y (List.mem_cons_of_mem _ (mem_of_mem_reps hy)) x List.mem_cons_self))

theorem dedup_map_injOn [DecidableEq β] (φ : β → γ) (l : List β)
    (hφ : ∀ a ∈ l, ∀ b ∈ l, φ a = φ b → a = b) : dedup (l.map φ) = (dedup l).map φ := by
  have h := dedup_map_eq (fun x : β => x) l
  rw [List.map_id', List.map_id'] at h
  rw [dedup_map_eq φ l, h,
    reps_congr φ (fun x : β => x) l (fun a ha b hb => ⟨hφ a ha b hb, congrArg φ⟩)]

theorem dedup_map_inj {κ κ' : Type} [DecidableEq κ] [DecidableEq κ'] (φ : κ → κ')
    (hφ : Function.Injective φ) (l : List κ) : dedup (l.map φ) = (dedup l).map φ :=
  dedup_map_injOn φ l (fun _ _ _ _ e => hφ e)

end Reps

section Push
variable {κ κ' κ'' α : Type} [DecidableEq κ'] [DecidableEq κ''] [AddCommMonoid α]

theorem pushforward_congr (f g : κ → κ') (t : Tab κ α) (h : ∀ r ∈ t, f r.1 = g r.1) :
    pushforward f t = pushforward g t :=
  List.foldl_ext _ _ _ (fun acc r hr => by rw [h r hr])

theorem vals_pushforward_eq (f : κ → κ') (t : Tab κ α) :
    vals (pushforward f t) = (dedup (t.map (fun r => f r.1))).map (fibreSum f t) := by
  rw [pushforward_eq, vals, List.map_map]
  rfl

theorem vals_pushforward_eq_reps (f : κ → κ') (t : Tab κ α) :
    vals (pushforward f t)
      = (reps (fun r : κ × α => f r.1) t).map (fun r => fibreSum f t (f r.1)) := by
  rw [vals_pushforward_eq, dedup_map_eq, List.map_map]
  rfl

/-- **Marginals along equivalent key maps.** If two key maps (into possibly different key
types) identify the same pairs of rows of `t`, the two marginals store the same values in the
same order: first-appearance order and fibre sums coincide. -/
theorem vals_pushforward_of_equiv (f : κ → κ') (g : κ → κ'') (t : Tab κ α)
    (h : ∀ r ∈ t, ∀ r' ∈ t, f r.1 = f r'.1 ↔ g r.1 = g r'.1) :
    vals (pushforward f t) = vals (pushforward g t) := by
  rw [vals_pushforward_eq_reps, vals_pushforward_eq_reps,
    reps_congr (fun r : κ × α => f r.1) (fun r : κ × α => g r.1) t h]
  exact List.map_congr_left (fun r hr =>
    fibreSum_congr_key (fun r' hr' => h r' hr' r (mem_of_mem_reps hr)))

theorem vals_pushforward_perm (f : κ → κ') {s t : Tab κ α} (h : s.Perm t) :
    (vals (pushforward f s)).Perm (vals (pushforward f t)) := by
  rw [vals_pushforward_eq, vals_pushforward_eq, funext (fibreSum_perm f h)]
  apply List.Perm.map
  rw [List.perm_ext_iff_of_nodup (nodup_dedup _) (nodup_dedup _)]
  intro a
  rw [Table.mem_dedup, Table.mem_dedup]
  exact (h.map _).mem_iff

/-- With equal fibre sums the two marginals differ only in the order of the rows and in rows of
value zero. -/
theorem sum_vals_pushforward_of_fibre {M : Type} [AddCommMonoid M] (φ : α → M) (hφ : φ 0 = 0)
    (f : κ → κ') (s t : Tab κ α) (h : ∀ x, fibreSum f s x = fibreSum f t x) :
    ((vals (pushforward f s)).map φ).sum = ((vals (pushforward f t)).map φ).sum := by
  rw [vals_pushforward_eq, vals_pushforward_eq, List.map_map, List.map_map,
    funext h]
  apply sum_map_eq_of_nodup (nodup_dedup _) (nodup_dedup _)
  · intro x _ hx
    show φ (fibreSum f t x) = 0
    rw [fibreSum_of_not_mem f t x (mt Table.mem_dedup.mpr hx), hφ]
  · intro x _ hx
    show φ (fibreSum f t x) = 0
    rw [← h x, fibreSum_of_not_mem f s x (mt Table.mem_dedup.mpr hx), hφ]

end Push

/-! ## Zero rows -/

section ZeroRows
variable {α : Type} [AddCommMonoid α]

theorem padZeros_eq_append {σ : Type} [DecidableEq σ] (extra : List (List σ))
    (t : Tab (List σ) α) :
    ∃ zs : Tab (List σ) α, padZeros extra t = t ++ zs ∧ (∀ r ∈ zs, r.2 = 0)
      ∧ ∀ r ∈ zs, r.1 ∉ keys t := by
  refine ⟨_, rfl, ?_, ?_⟩
  · intro r hr
    obtain ⟨o, _, rfl⟩ := List.mem_map.mp hr
    rfl
  · intro r hr
    obtain ⟨o, ho, rfl⟩ := List.mem_map.mp hr
    simpa using (List.mem_filter.mp ho).2

end ZeroRows

/-! ## Permuting the variables -/

section PermVars
variable {σ : Type}

theorem getElem?_newIndex (π : List Nat) (x : Nat) :
    π[newIndex π x]? = if x ∈ π then some x else none := by
  unfold newIndex
  cases h : indexOf? π x with
  | none =>
    have : x ∉ π := indexOf?_eq_none_iff.mp h
    simp [this]
  | some i =>
    have h1 := (indexOf?_eq_some h).1
    have : x ∈ π := List.mem_of_getElem? h1
    simpa [this] using h1

theorem filterMap_newIndex (π X : List Nat) :
    (X.map (newIndex π)).filterMap (fun j => π[j]?) = X.filter (fun x => decide (x ∈ π)) := by
  induction X with
  | nil => rfl
  | cons x X ih =>
    rw [List.map_cons, List.filterMap_cons, getElem?_newIndex, List.filter_cons]
    by_cases hx : x ∈ π
    · simp only [hx, if_true, decide_true, ih]
    · simp only [hx, if_false, decide_false, Bool.false_eq_true, ih]

/-- Out-of-range indices outside `π` are dropped anyway. -/
theorem project_filter_mem (π X : List Nat) (o : List σ)
    (h : ∀ x ∈ X, x ∉ π → o.length ≤ x) :
    project (X.filter (fun x => decide (x ∈ π))) o = project X o := by
  induction X with
  | nil => rfl
  | cons x X ih =>
    have ih' := ih (fun y hy => h y (List.mem_cons_of_mem _ hy))
    rw [List.filter_cons]
    by_cases hx : x ∈ π
    · simp only [hx, decide_true, if_true, Table.project_cons, ih']
    · simp only [hx, decide_false, Bool.false_eq_true, if_false, Table.project_cons, ih',
        List.getElem?_eq_none (h x (by simp) hx)]

theorem project_permuteOutcome (π X : List Nat) (o : List σ) (hπ : ∀ i ∈ π, i < o.length)
    (hX : ∀ x ∈ X, x ∈ π ∨ o.length ≤ x) :
    project (X.map (newIndex π)) (permuteOutcome π o) = project X o := by
  unfold permuteOutcome
  rw [project_project hπ, filterMap_newIndex]
  exact project_filter_mem π X o (fun x hx hn => (hX x hx).resolve_left hn)

theorem permuteOutcome_inj {π : List Nat} {n : Nat} (hπ : π.Perm (List.range n))
    {o o' : List σ} (ho : o.length = n) (ho' : o'.length = n)
    (h : permuteOutcome π o = permuteOutcome π o') : o = o' := by
  unfold permuteOutcome at h
  rw [project_eq_iff] at h
  apply List.ext_getElem?
  intro i
  by_cases hi : i < n
  · exact h i (hπ.mem_iff.mpr (List.mem_range.mpr hi))
  · rw [List.getElem?_eq_none (by omega), List.getElem?_eq_none (by omega)]

variable {α : Type} [DecidableEq σ] [AddCommMonoid α]

theorem pushforward_permuteTab (π X : List Nat) (n : Nat) (t : Tab (List σ) α)
    (hlen : ∀ r ∈ t, r.1.length = n) (hπ : ∀ i ∈ π, i < n) (hX : ∀ x ∈ X, x ∈ π ∨ n ≤ x) :
    pushforward (project (X.map (newIndex π))) (permuteTab π t) = pushforward (project X) t := by
  unfold permuteTab
  rw [pushforward_map_key]
  apply pushforward_congr
  intro r hr
  have hl := hlen r hr
  exact project_permuteOutcome π X r.1 (fun i hi => hl ▸ hπ i hi) (fun x hx => hl ▸ hX x hx)

theorem perm_range_valid {π : List Nat} {n : Nat} (h : π.Perm (List.range n)) :
    (∀ i ∈ π, i < n) ∧ ∀ x, x ∈ π ∨ n ≤ x := by
  refine ⟨fun i hi => List.mem_range.mp (h.mem_iff.mp hi), fun x => ?_⟩
  rcases Nat.lt_or_ge x n with hx | hx
  · exact Or.inl (h.mem_iff.mpr (List.mem_range.mpr hx))
  · exact Or.inr hx

end PermVars

/-! ## Marginal of a relabelled table -/

section RelabelPush
variable {α σ τ : Type} [AddCommMonoid α] [DecidableEq σ] [DecidableEq τ]

theorem vals_pushforward_relabel_on (ρ : Nat → σ → τ) (t : Tab (List σ) α) (X : List Nat)
    (hρ : ∀ i ∈ X, ∀ r ∈ t, ∀ r' ∈ t, ∀ s s',
      r.1[i]? = some s → r'.1[i]? = some s' → ρ i s = ρ i s' → s = s') :
    vals (pushforward (project X) (relabelTab ρ t)) = vals (pushforward (project X) t) := by
  unfold relabelTab
  rw [pushforward_map_key]
  apply vals_pushforward_of_equiv
  intro r hr r' hr'
  exact relabel_project_inj_on ρ X r.1 r'.1 (fun i hi => hρ i hi r hr r' hr')

end RelabelPush

/-! ## Entropy of a list of values and of a marginal -/

section Entropy
variable {α : Type} [Ring α] [DecidableEq α]

theorem entropyVals_eq_neg_sum (log : α → α) (ps : List α) :
    entropyVals log ps = -(ps.map (plogp log)).sum := by
  unfold entropyVals
  rw [ListBasics.lsum_eq_sum]

theorem entropyVals_perm (log : α → α) {ps qs : List α} (h : ps.Perm qs) :
    entropyVals log ps = entropyVals log qs := by
  rw [entropyVals_eq_neg_sum, entropyVals_eq_neg_sum, (h.map _).sum_eq]

theorem entropyVals_append_zeros (log : α → α) (ps zs : List α) (hz : ∀ z ∈ zs, z = 0) :
    entropyVals log (ps ++ zs) = entropyVals log ps := by
  rw [entropyVals_eq_neg_sum, entropyVals_eq_neg_sum, List.map_append, List.sum_append]
  have : (zs.map (plogp log)).sum = 0 := by
    apply List.sum_eq_zero
    intro v hv
    obtain ⟨z, hz', rfl⟩ := List.mem_map.mp hv
    rw [hz z hz', plogp_zero]
  rw [this, add_zero]

variable {σ τ : Type} [DecidableEq σ] [DecidableEq τ]

theorem entropyOf_def (log : α → α) (t : Tab (List σ) α) (X : List Nat) :
    entropyOf log t X = entropyVals log (vals (pushforward (project X) t)) := rfl

theorem entropyOf_of_fibre (log : α → α) (s t : Tab (List σ) α) (X : List Nat)
    (h : ∀ x, fibreSum (project X) s x = fibreSum (project X) t x) :
    entropyOf log s X = entropyOf log t X := by
  rw [entropyOf_def, entropyOf_def, entropyVals_eq_neg_sum, entropyVals_eq_neg_sum,
    sum_vals_pushforward_of_fibre (plogp log) (plogp_zero log) (project X) s t h]

theorem entropyOf_filter_of_zero (log : α → α) (q : List σ × α → Bool) (t : Tab (List σ) α)
    (h : ∀ r ∈ t, q r = false → r.2 = 0) (X : List Nat) :
    entropyOf log (t.filter q) X = entropyOf log t X :=
  entropyOf_of_fibre log _ _ X (fibreSum_filter_of_zero (project X) q t h)

theorem entropyOf_trim (log : α → α) (t : Tab (List σ) α) (X : List Nat) :
    entropyOf log (t.filter (fun r => decide (r.2 ≠ 0))) X = entropyOf log t X :=
  entropyOf_filter_of_zero log _ t (fun r _ hq => by simpa using hq) X

end Entropy

/-! ## Label alignment under a key map injective on the stored keys, zero padding, trimming -/

section Align
variable {κ κ' α : Type} [DecidableEq κ] [DecidableEq κ'] [AddCommMonoid α]

omit [AddCommMonoid α] in
theorem lookup?_map_injOn (φ : κ → κ') (t : Tab κ α) (k : κ)
    (hφ : ∀ a ∈ keys t, φ a = φ k → a = k) :
    lookup? (t.map (fun r => (φ r.1, r.2))) (φ k) = lookup? t k := by
  induction t with
  | nil => rfl
  | cons r t ih =>
    rw [List.map_cons, lookup?_cons, lookup?_cons,
      ih (fun a ha => hφ a (List.mem_cons_of_mem _ ha))]
    by_cases e : r.1 = k
    · rw [if_pos e, if_pos (congrArg φ e)]
    · rw [if_neg e, if_neg (fun h => e (hφ r.1 List.mem_cons_self h))]

theorem lookupD_map_injOn (φ : κ → κ') (t : Tab κ α) (k : κ)
    (hφ : ∀ a ∈ keys t, φ a = φ k → a = k) :
    lookupD 0 (t.map (fun r => (φ r.1, r.2))) (φ k) = lookupD 0 t k := by
  unfold lookupD
  rw [lookup?_map_injOn φ t k hφ]

theorem lookupD_map_inj (φ : κ → κ') (hφ : Function.Injective φ) (t : Tab κ α) (k : κ) :
    lookupD 0 (t.map (fun r => (φ r.1, r.2))) (φ k) = lookupD 0 t k :=
  lookupD_map_injOn φ t k (fun _ _ e => hφ e)

theorem alignPair_map_injOn (φ : κ → κ') (t1 t2 : Tab κ α)
    (hφ : ∀ a ∈ keys t2, ∀ b ∈ keys t1, φ a = φ b → a = b) :
    alignPair (t1.map (fun r => (φ r.1, r.2))) (t2.map (fun r => (φ r.1, r.2)))
      = alignPair t1 t2 := by
  unfold alignPair
  rw [List.map_map]
  exact List.map_congr_left (fun r hr => congrArg (Prod.mk r.2)
    (lookupD_map_injOn φ t2 r.1 (fun a ha => hφ a ha r.1 (mem_keys_of_mem hr))))

theorem alignPair_map_inj (φ : κ → κ') (hφ : Function.Injective φ) (t1 t2 : Tab κ α) :
    alignPair (t1.map (fun r => (φ r.1, r.2))) (t2.map (fun r => (φ r.1, r.2)))
      = alignPair t1 t2 :=
  alignPair_map_injOn φ t1 t2 (fun _ _ _ _ e => hφ e)

theorem alignUnion_map_injOn (φ : κ → κ') (t1 t2 : Tab κ α)
    (hφ : ∀ a ∈ keys t1 ++ keys t2, ∀ b ∈ keys t1 ++ keys t2, φ a = φ b → a = b) :
    alignUnion (t1.map (fun r => (φ r.1, r.2))) (t2.map (fun r => (φ r.1, r.2)))
      = alignUnion t1 t2 := by
  unfold alignUnion
  rw [keys_map φ Prod.snd, keys_map φ Prod.snd, ← List.map_append, dedup_map_injOn φ _ hφ, List.map_map]
  apply List.map_congr_left
  intro k hk
  have hk' : k ∈ keys t1 ++ keys t2 := Table.mem_dedup.mp hk
  show (lookupD 0 (t1.map _) (φ k), lookupD 0 (t2.map _) (φ k)) = _
  rw [lookupD_map_injOn φ t1 k (fun a ha => hφ a (List.mem_append_left _ ha) k hk'),
    lookupD_map_injOn φ t2 k (fun a ha => hφ a (List.mem_append_right _ ha) k hk')]

theorem alignUnion_map_inj (φ : κ → κ') (hφ : Function.Injective φ) (t1 t2 : Tab κ α) :
    alignUnion (t1.map (fun r => (φ r.1, r.2))) (t2.map (fun r => (φ r.1, r.2)))
      = alignUnion t1 t2 :=
  alignUnion_map_injOn φ t1 t2 (fun _ _ _ _ e => hφ e)

theorem lookupD_of_vals_zero (zs : Tab κ α) (hz : ∀ r ∈ zs, r.2 = 0) (k : κ) :
    lookupD 0 zs k = 0 := by
  induction zs with
  | nil => rfl
  | cons r zs ih =>
    unfold lookupD at ih ⊢
    rw [lookup?_cons]
    by_cases e : r.1 = k
    · rw [if_pos e]
      exact hz r List.mem_cons_self
    · rw [if_neg e]
      exact ih (fun x hx => hz x (List.mem_cons_of_mem _ hx))

theorem lookupD_append_zero (t zs : Tab κ α) (hz : ∀ r ∈ zs, r.2 = 0) (k : κ) :
    lookupD 0 (t ++ zs) k = lookupD 0 t k := by
  induction t with
  | nil => rw [List.nil_append, lookupD_of_vals_zero zs hz]; rfl
  | cons r t ih =>
    unfold lookupD at ih ⊢
    rw [List.cons_append, lookup?_cons, lookup?_cons]
    by_cases e : r.1 = k
    · rw [if_pos e, if_pos e]
    · rw [if_neg e, if_neg e]
      exact ih

theorem lookupD_padZeros {σ : Type} [DecidableEq σ] (extra : List (List σ)) (t : Tab (List σ) α)
    (o : List σ) : lookupD 0 (padZeros extra t) o = lookupD 0 t o := by
  obtain ⟨zs, E, hz, _⟩ := padZeros_eq_append extra t
  rw [E, lookupD_append_zero t zs hz]

theorem alignPair_append_zero_right (t1 t2 zs : Tab κ α) (hz : ∀ r ∈ zs, r.2 = 0) :
    alignPair t1 (t2 ++ zs) = alignPair t1 t2 := by
  unfold alignPair
  apply List.map_congr_left
  intro r _
  rw [lookupD_append_zero t2 zs hz]

theorem alignPair_append_left (t1 zs t2 : Tab κ α) :
    alignPair (t1 ++ zs) t2 = alignPair t1 t2 ++ alignPair zs t2 :=
  List.map_append

theorem alignPair_zero_left (zs t2 : Tab κ α) (hz : ∀ r ∈ zs, r.2 = 0) :
    ∀ p ∈ alignPair zs t2, p.1 = 0 := by
  intro p hp
  obtain ⟨r, hr, rfl⟩ := List.mem_map.mp hp
  exact hz r hr

/-- The sum over the union alignment may be taken along any duplicate-free list holding the labels
of both tables: a label of neither table gives the pair `(0, 0)`. -/
theorem sum_alignUnion_eq {M : Type} [AddCommMonoid M] (g : α × α → M) (hg : g (0, 0) = 0)
    (t1 t2 : Tab κ α) {L : List κ} (hL : L.Nodup) (hsub : ∀ k, k ∈ keys t1 ∨ k ∈ keys t2 → k ∈ L) :
    ((alignUnion t1 t2).map g).sum
      = ((L.map fun k => (lookupD 0 t1 k, lookupD 0 t2 k)).map g).sum := by
  unfold alignUnion
  rw [List.map_map, List.map_map]
  apply sum_map_eq_of_nodup (nodup_dedup _) hL
  · intro k hk hn
    rw [Table.mem_dedup, List.mem_append] at hk
    exact absurd (hsub k hk) hn
  · intro k _ hn
    rw [Table.mem_dedup, List.mem_append, not_or] at hn
    show g (lookupD 0 t1 k, lookupD 0 t2 k) = 0
    rw [lookupD_of_not_mem 0 hn.1, lookupD_of_not_mem 0 hn.2, hg]

theorem sum_alignUnion_append_zero {M : Type} [AddCommMonoid M] (g : α × α → M)
    (hg : g (0, 0) = 0) (t1 z1 t2 z2 : Tab κ α) (hz1 : ∀ r ∈ z1, r.2 = 0)
    (hz2 : ∀ r ∈ z2, r.2 = 0) :
    ((alignUnion (t1 ++ z1) (t2 ++ z2)).map g).sum = ((alignUnion t1 t2).map g).sum := by
  rw [sum_alignUnion_eq g hg t1 t2 (nodup_dedup (keys (t1 ++ z1) ++ keys (t2 ++ z2))) fun k hk => by
    rw [Table.mem_dedup, keys_append, keys_append]
    exact hk.elim (fun h => List.mem_append_left _ (List.mem_append_left _ h))
      (fun h => List.mem_append_right _ (List.mem_append_left _ h))]
  unfold alignUnion
  rw [funext (lookupD_append_zero t1 z1 hz1), funext (lookupD_append_zero t2 z2 hz2)]

theorem lookupD_trim [DecidableEq α] (t : Tab κ α) (hnd : (keys t).Nodup) (k : κ) :
    lookupD 0 (t.filter (fun r => decide (r.2 ≠ 0))) k = lookupD 0 t k := by
  rw [lookupD_filter _ hnd]
  unfold lookupD
  cases lookup? t k with
  | none => rfl
  | some v =>
    by_cases hv : v = 0
    · simp [hv]
    · simp [hv]

theorem alignPair_trim [DecidableEq α] (t1 t2 : Tab κ α) (hnd : (keys t2).Nodup) :
    alignPair (t1.filter (fun r => decide (r.2 ≠ 0))) (t2.filter (fun r => decide (r.2 ≠ 0)))
      = (alignPair t1 t2).filter (fun p => decide (p.1 ≠ 0)) := by
  unfold alignPair
  rw [List.filter_map]
  apply List.map_congr_left
  intro r _
  rw [lookupD_trim t2 hnd]

end Align

/-! ## Reordering the groups -/

section Groups
variable {β M : Type} [AddCommMonoid M]

theorem sum_sublists_cons (x : β) (l : List β) (F : List β → M) :
    ((sublists (x :: l)).map F).sum
      = ((sublists l).map F).sum + ((sublists l).map (fun s => F (x :: s))).sum := by
  simp only [sublists, List.map_append, List.sum_append, List.map_map]
  rfl

theorem sum_sublists_perm {l l' : List β} (h : l.Perm l') :
    ∀ F : List β → M, (∀ a b, a.Perm b → F a = F b) →
      ((sublists l).map F).sum = ((sublists l').map F).sum := by
  induction h with
  | nil => intro F _; rfl
  | cons x _ ih =>
    intro F hF
    rw [sum_sublists_cons, sum_sublists_cons, ih F hF,
      ih (fun s => F (x :: s)) (fun a b hab => hF _ _ (hab.cons x))]
  | swap x y l =>
    intro F hF
    simp only [sum_sublists_cons]
    rw [funext (fun s => hF (y :: x :: s) (x :: y :: s) (List.Perm.swap x y s))]
    exact add_add_add_comm _ _ _ _
  | trans _ _ ih1 ih2 => intro F hF; rw [ih1 F hF, ih2 F hF]

theorem combos_zero (l : List β) : combos 0 l = [[]] := by
  cases l <;> rfl

theorem sum_combos_succ_cons (k : Nat) (x : β) (l : List β) (F : List β → M) :
    ((combos (k + 1) (x :: l)).map F).sum
      = ((combos k l).map (fun s => F (x :: s))).sum + ((combos (k + 1) l).map F).sum := by
  simp only [combos, List.map_append, List.sum_append, List.map_map]
  rfl

theorem sum_combos_perm {l l' : List β} (h : l.Perm l') :
    ∀ (k : Nat) (F : List β → M), (∀ a b, a.Perm b → F a = F b) →
      ((combos k l).map F).sum = ((combos k l').map F).sum := by
  induction h with
  | nil => intro k F _; rfl
  | cons x _ ih =>
    intro k F hF
    cases k with
    | zero => rfl
    | succ k =>
      rw [sum_combos_succ_cons, sum_combos_succ_cons, ih (k + 1) F hF,
        ih k (fun s => F (x :: s)) (fun a b hab => hF _ _ (hab.cons x))]
  | swap x y l =>
    intro k F hF
    rcases k with _ | _ | k
    · rfl
    · simp only [sum_combos_succ_cons, combos_zero]
      exact add_left_comm _ _ _
    · simp only [sum_combos_succ_cons]
      rw [funext (fun s => hF (y :: x :: s) (x :: y :: s) (List.Perm.swap x y s))]
      exact add_add_add_comm _ _ _ _
  | trans _ _ ih1 ih2 => intro k F hF; rw [ih1 k F hF, ih2 k F hF]

end Groups

/-! ## Set partitions of a reordered list (for the CAEKL candidates) -/

section Partitions
variable {β N : Type} [AddCommMonoid N]

/-- Invariance of a function of partitions under the order of the blocks. -/
def InvBlocks (F : List (List β) → N) : Prop := ∀ p q : List (List β), p.Perm q → F p = F q
/-- Invariance of a function of partitions under the order inside the blocks. -/
def InvInner (F : List (List β) → N) : Prop :=
  ∀ p q : List (List β), List.Forall₂ List.Perm p q → F p = F q

theorem forall₂_perm_refl (p : List (List β)) : List.Forall₂ List.Perm p p :=
  List.forall₂_same.mpr (fun _ _ => List.Perm.refl _)

omit [AddCommMonoid N] in
theorem InvBlocks.cons {F : List (List β) → N} (h : InvBlocks F) (b : List β) :
    InvBlocks (fun q => F (b :: q)) := fun _ _ hpq => h _ _ (hpq.cons b)

omit [AddCommMonoid N] in
theorem InvInner.cons {F : List (List β) → N} (h : InvInner F) (b : List β) :
    InvInner (fun q => F (b :: q)) :=
  fun _ _ hpq => h _ _ (List.Forall₂.cons (List.Perm.refl b) hpq)

/-- Sum of `F` over the results of applying `g` to one block of `p` (all positions). -/
def modSum (g : List β → List β) : (List (List β) → N) → List (List β) → N
  | _, [] => 0
  | F, b :: p => F (g b :: p) + modSum g (fun q => F (b :: q)) p

theorem modSum_eq (g : List β → List β) (F : List (List β) → N) (p : List (List β)) :
    ((List.range p.length).map (fun i => F (p.modify i g))).sum = modSum g F p := by
  induction p generalizing F with
  | nil => rfl
  | cons b p ih =>
    rw [List.length_cons, List.range_succ_eq_map, List.map_cons, List.sum_cons, List.map_map]
    show F (g b :: p) + _ = F (g b :: p) + modSum g (fun q => F (b :: q)) p
    rw [← ih]
    rfl

theorem modSum_add (g : List β → List β) (F F' : List (List β) → N) (p : List (List β)) :
    modSum g (fun q => F q + F' q) p = modSum g F p + modSum g F' p := by
  induction p generalizing F F' with
  | nil => exact (add_zero 0).symm
  | cons b p ih =>
    simp only [modSum]
    rw [ih]
    exact add_add_add_comm _ _ _ _

theorem modSum_perm (g : List β → List β) {p p' : List (List β)} (h : p.Perm p') :
    ∀ F : List (List β) → N, InvBlocks F → modSum g F p = modSum g F p' := by
  induction h with
  | nil => intro F _; rfl
  | cons b h ih =>
    intro F hF
    simp only [modSum]
    rw [hF _ _ (h.cons (g b)), ih _ (hF.cons b)]
  | swap a b p =>
    intro F hF
    simp only [modSum]
    rw [hF (g b :: a :: p) (a :: g b :: p) (List.Perm.swap _ _ _),
      hF (b :: g a :: p) (g a :: b :: p) (List.Perm.swap _ _ _),
      funext (fun q => hF (b :: a :: q) (a :: b :: q) (List.Perm.swap _ _ _))]
    exact add_left_comm _ _ _
  | trans _ _ ih1 ih2 => intro F hF; rw [ih1 F hF, ih2 F hF]

theorem modSum_inner (x : β) {p p' : List (List β)} (h : List.Forall₂ List.Perm p p') :
    ∀ F : List (List β) → N, InvInner F →
      modSum (fun b => x :: b) F p = modSum (fun b => x :: b) F p' := by
  induction h with
  | nil => intro F _; rfl
  | cons hab hrest ih =>
    intro F hF
    rename_i a b p p'
    simp only [modSum]
    rw [hF _ _ (List.Forall₂.cons (hab.cons x) hrest), ih _ (hF.cons a),
      funext (fun q => hF (a :: q) (b :: q) (List.Forall₂.cons hab (forall₂_perm_refl q)))]

/-- Sum of `F` over all ways of adding `x` to the partition `p`. -/
def insSum (x : β) (F : List (List β) → N) (p : List (List β)) : N :=
  F ([x] :: p) + modSum (fun b => x :: b) F p

theorem insSum_invBlocks (x : β) {F : List (List β) → N} (h : InvBlocks F) :
    InvBlocks (insSum x F) := by
  intro p q hpq
  unfold insSum
  rw [h _ _ (hpq.cons [x]), modSum_perm _ hpq F h]

theorem insSum_invInner (x : β) {F : List (List β) → N} (h : InvInner F) :
    InvInner (insSum x F) := by
  intro p q hpq
  unfold insSum
  rw [h _ _ (List.Forall₂.cons (List.Perm.refl _) hpq), modSum_inner x hpq F h]

theorem sum_setPartitions_cons (x : β) (l : List β) (F : List (List β) → N) :
    ((setPartitions (x :: l)).map F).sum = ((setPartitions l).map (insSum x F)).sum := by
  show (((setPartitions l).flatMap _).map F).sum = _
  induction setPartitions l with
  | nil => rfl
  | cons p ps ih =>
    rw [List.flatMap_cons, List.map_append, List.sum_append, ih, List.map_cons, List.sum_cons,
      List.map_cons, List.sum_cons, List.map_map]
    congr 1
    unfold insSum
    rw [← modSum_eq]
    rfl

/-- Adding `x` to one block and `y` to one block commute. -/
theorem modSum_modSum_comm (x y : β) (p : List (List β)) :
    ∀ F : List (List β) → N, InvInner F →
      modSum (fun b => x :: b) (fun q => modSum (fun b => y :: b) F q) p
        = modSum (fun b => y :: b) (fun q => modSum (fun b => x :: b) F q) p := by
  induction p with
  | nil => intro F _; rfl
  | cons b p ih =>
    intro F hF
    simp only [modSum]
    rw [modSum_add, modSum_add, ih _ (hF.cons b),
      hF ((y :: x :: b) :: p) ((x :: y :: b) :: p)
        (List.Forall₂.cons (List.Perm.swap _ _ _) (forall₂_perm_refl p)), add_add_add_comm]

theorem insSum_comm (x y : β) (p : List (List β)) (F : List (List β) → N)
    (h1 : InvBlocks F) (h2 : InvInner F) :
    insSum x (insSum y F) p = insSum y (insSum x F) p := by
  unfold insSum
  simp only [modSum]
  rw [modSum_add, modSum_add, modSum_modSum_comm x y p F h2,
    h1 ([y] :: [x] :: p) ([x] :: [y] :: p) (List.Perm.swap _ _ _),
    h2 ([y, x] :: p) ([x, y] :: p)
      (List.Forall₂.cons (List.Perm.swap _ _ _) (forall₂_perm_refl p))]
  abel

theorem sum_setPartitions_perm {l l' : List β} (h : l.Perm l') :
    ∀ F : List (List β) → N, InvBlocks F → InvInner F →
      ((setPartitions l).map F).sum = ((setPartitions l').map F).sum := by
  induction h with
  | nil => intro F _ _; rfl
  | cons x _ ih =>
    intro F h1 h2
    rw [sum_setPartitions_cons, sum_setPartitions_cons,
      ih _ (insSum_invBlocks x h1) (insSum_invInner x h2)]
  | swap x y l =>
    intro F h1 h2
    rw [sum_setPartitions_cons, sum_setPartitions_cons, sum_setPartitions_cons,
      sum_setPartitions_cons]
    congr 1
    apply List.map_congr_left
    intro p _
    exact insSum_comm x y p F h1 h2
  | trans _ _ ih1 ih2 => intro F h1 h2; rw [ih1 F h1 h2, ih2 F h1 h2]

/-- Multiset form: the values of `v` on the set partitions satisfying `q`. -/
theorem map_filter_setPartitions_perm {R : Type} {l l' : List β} (h : l.Perm l')
    (q : List (List β) → Bool) (v : List (List β) → R)
    (hq1 : ∀ p p' : List (List β), p.Perm p' → q p = q p')
    (hq2 : ∀ p p' : List (List β), List.Forall₂ List.Perm p p' → q p = q p')
    (hv1 : ∀ p p' : List (List β), p.Perm p' → v p = v p')
    (hv2 : ∀ p p' : List (List β), List.Forall₂ List.Perm p p' → v p = v p') :
    (((setPartitions l).filter q).map v).Perm (((setPartitions l').filter q).map v) := by
  have key : ∀ L : List (List (List β)),
      (L.map (fun p => if q p = true then ({v p} : Multiset R) else 0)).sum
        = ((L.filter q).map v : List R) := by
    intro L
    induction L with
    | nil => rfl
    | cons p L ih =>
      rw [List.map_cons, List.sum_cons, ih, List.filter_cons]
      by_cases hp : q p = true
      · rw [if_pos hp, if_pos hp, List.map_cons]
        rfl
      · rw [if_neg hp, if_neg hp, zero_add]
  have := sum_setPartitions_perm h (fun p => if q p = true then ({v p} : Multiset R) else 0)
    (fun p p' hp => by simp only [hq1 p p' hp, hv1 p p' hp])
    (fun p p' hp => by simp only [hq2 p p' hp, hv2 p p' hp])
  rw [key, key] at this
  exact Multiset.coe_eq_coe.mp this

theorem map_eq_of_forall₂ {β γ : Type} {R : β → β → Prop} (f : β → γ)
    (hR : ∀ a b, R a b → f a = f b) {p p' : List β} (h : List.Forall₂ R p p') :
    p.map f = p'.map f := by
  induction h with
  | nil => rfl
  | cons hab _ ih => rw [List.map_cons, List.map_cons, hR _ _ hab, ih]

end Partitions

end Dit.Lemmas.Transform
