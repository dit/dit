/-
The classes of an equivalence relation on the members of a list, listed in order of first
appearance by the fold that `classesBy` (Core/Meet.lean) and `colGroups` (Core/SigAlg.lean) share.
-/
import Mathlib.Data.List.Induction

namespace Dit.Lemmas.GroupsBy

section Groups
variable {ε : Type} [BEq ε]

def groupsBy (cf : ε → List ε) (X : List ε) : List (List ε) :=
  X.foldl (fun acc x => if acc.any (fun g => g.contains x) then acc else acc ++ [cf x]) []

theorem groupsBy_snoc (cf : ε → List ε) (l : List ε) (o : ε) :
    groupsBy cf (l ++ [o])
      = if (groupsBy cf l).any (fun c => c.contains o) then groupsBy cf l
        else groupsBy cf l ++ [cf o] := by
  unfold groupsBy
  rw [List.foldl_append]
  rfl

theorem groupsBy_congr {cf cf' : ε → List ε} {l : List ε}
    (h : ∀ o ∈ l, cf o = cf' o) : groupsBy cf l = groupsBy cf' l := by
  induction l using List.reverseRecOn with
  | nil => rfl
  | append_singleton l o ih =>
    rw [groupsBy_snoc, groupsBy_snoc,
      ih (fun x hx => h x (List.mem_append_left _ hx)), h o List.mem_concat_self]

theorem groupsBy_sublist (cf : ε → List ε) (l : List ε) : (groupsBy cf l).Sublist (l.map cf) := by
  induction l using List.reverseRecOn with
  | nil => exact List.Sublist.refl _
  | append_singleton l o ih =>
    rw [groupsBy_snoc, List.map_append]
    split
    · exact ih.trans (List.sublist_append_left _ _)
    · exact ih.append (List.Sublist.refl _)

theorem mem_groupsBy {cf : ε → List ε} {l c : List ε} (hc : c ∈ groupsBy cf l) :
    ∃ o ∈ l, cf o = c :=
  List.mem_map.mp ((groupsBy_sublist cf l).subset hc)

variable [LawfulBEq ε]

theorem groupsBy_cover {cf : ε → List ε} {l : List ε} (h : ∀ o ∈ l, o ∈ cf o) {o : ε}
    (ho : o ∈ l) : ∃ c ∈ groupsBy cf l, o ∈ c := by
  induction l using List.reverseRecOn with
  | nil => cases ho
  | append_singleton l x ih =>
    rw [groupsBy_snoc]
    rcases List.mem_append.mp ho with ho | ho
    · obtain ⟨c, hc, hoc⟩ := ih (fun y hy => h y (List.mem_append_left _ hy)) ho
      split
      · exact ⟨c, hc, hoc⟩
      · exact ⟨c, List.mem_append_left _ hc, hoc⟩
    · obtain rfl := List.mem_singleton.mp ho
      split
      · rename_i hany
        obtain ⟨c, hc, hoc⟩ := List.any_eq_true.mp hany
        exact ⟨c, hc, List.contains_iff_mem.mp hoc⟩
      · exact ⟨cf o, List.mem_concat_self, h o List.mem_concat_self⟩

theorem groupsBy_pairwise {cf : ε → List ε} {l : List ε}
    (h : ∀ y ∈ l, ∀ o ∈ l, o ∉ cf y → (cf y).Disjoint (cf o)) :
    (groupsBy cf l).Pairwise List.Disjoint := by
  induction l using List.reverseRecOn with
  | nil => exact List.Pairwise.nil
  | append_singleton l o ih =>
    have ih' := ih fun y hy x hx => h y (List.mem_append_left _ hy) x (List.mem_append_left _ hx)
    rw [groupsBy_snoc]
    split
    · exact ih'
    · rename_i hany
      refine List.pairwise_append.mpr ⟨ih', List.pairwise_singleton _ _, fun c hc c' hc' => ?_⟩
      obtain rfl := List.mem_singleton.mp hc'
      obtain ⟨y, hy, rfl⟩ := mem_groupsBy hc
      refine h y (List.mem_append_left _ hy) o List.mem_concat_self fun hoy => hany ?_
      exact List.any_eq_true.mpr ⟨_, hc, List.contains_iff_mem.mpr hoy⟩

end Groups

section Classes
variable {ε : Type}

structure EqvOn (rel : ε → ε → Bool) (X : List ε) : Prop where
  refl : ∀ o ∈ X, rel o o = true
  symm : ∀ o ∈ X, ∀ o' ∈ X, rel o o' = true → rel o' o = true
  trans : ∀ o ∈ X, ∀ o' ∈ X, ∀ o'' ∈ X, rel o o' = true → rel o' o'' = true → rel o o'' = true

theorem eqvOn_of_iff {β : Type} {rel : ε → ε → Bool} (f : ε → β)
    (h : ∀ x y, rel x y = true ↔ f x = f y) (X : List ε) : EqvOn rel X :=
  ⟨fun o _ => (h o o).mpr rfl, fun o _ o' _ e => (h o' o).mpr ((h o o').mp e).symm,
    fun o _ o' _ o'' _ e e' => (h o o'').mpr (((h o o').mp e).trans ((h o' o'').mp e'))⟩

structure Classes (rel : ε → ε → Bool) (X : List ε) (gs : List (List ε)) : Prop where
  ne : ∀ g ∈ gs, g ≠ []
  cls : ∀ g ∈ gs, ∀ x ∈ g, g = X.filter (rel x)
  disj : gs.Pairwise List.Disjoint
  cover : ∀ x ∈ X, ∃ g ∈ gs, x ∈ g

variable {rel : ε → ε → Bool} {X : List ε} {gs : List (List ε)}

theorem groupsBy_classes [BEq ε] [LawfulBEq ε] (he : EqvOn rel X) :
    Classes rel X (groupsBy (fun o => X.filter (rel o)) X) where
  ne g hg := by
    obtain ⟨o, ho, rfl⟩ := mem_groupsBy hg
    exact List.ne_nil_of_mem (List.mem_filter.mpr ⟨ho, he.refl o ho⟩)
  cls g hg x hx := by
    obtain ⟨o, ho, rfl⟩ := mem_groupsBy hg
    obtain ⟨hxX, hox⟩ := List.mem_filter.mp hx
    exact List.filter_congr fun y hy => Bool.eq_iff_iff.mpr
      ⟨he.trans x hxX o ho y hy (he.symm o ho x hxX hox), he.trans o ho x hxX y hy hox⟩
  disj := groupsBy_pairwise fun y hy o ho hoy x hxy hxo => by
    obtain ⟨hx, hyx⟩ := List.mem_filter.mp hxy
    exact hoy (List.mem_filter.mpr
      ⟨ho, he.trans y hy x hx o ho hyx (he.symm o ho x hx (List.mem_filter.mp hxo).2)⟩)
  cover x hx := groupsBy_cover (fun o ho => List.mem_filter.mpr ⟨ho, he.refl o ho⟩) hx

theorem Classes.sublist (hc : Classes rel X gs) {g : List ε} (hg : g ∈ gs) : g.Sublist X := by
  obtain ⟨x, hx⟩ := List.exists_mem_of_ne_nil _ (hc.ne g hg)
  rw [hc.cls g hg x hx]
  exact List.filter_sublist

theorem Classes.mem_X (hc : Classes rel X gs) {g : List ε} (hg : g ∈ gs) {x : ε} (hx : x ∈ g) :
    x ∈ X :=
  (hc.sublist hg).subset hx

theorem Classes.mem_iff (hc : Classes rel X gs) {g : List ε} (hg : g ∈ gs) {x y : ε} (hx : x ∈ g)
    (hy : y ∈ X) : y ∈ g ↔ rel x y = true := by
  rw [hc.cls g hg x hx, List.mem_filter]
  exact and_iff_right hy

theorem mem_classes_iff (hc : Classes rel X gs) (a : List ε) :
    a ∈ gs ↔ ∃ x ∈ X, a = X.filter (rel x) := by
  constructor
  · intro ha
    obtain ⟨x, hx⟩ := List.exists_mem_of_ne_nil _ (hc.ne a ha)
    exact ⟨x, hc.mem_X ha hx, hc.cls a ha x hx⟩
  · rintro ⟨x, hx, rfl⟩
    obtain ⟨g, hg, hxg⟩ := hc.cover x hx
    rw [← hc.cls g hg x hxg]; exact hg

theorem Classes.eqvOn (hc : Classes rel X gs) : EqvOn rel X := by
  refine ⟨fun x hx => ?_, fun x hx y hy hxy => ?_, fun x hx y hy z hz hxy hyz => ?_⟩
  all_goals obtain ⟨g, hg, hxg⟩ := hc.cover x hx
  · exact (hc.mem_iff hg hxg hx).mp hxg
  · exact (hc.mem_iff hg ((hc.mem_iff hg hxg hy).mpr hxy) hx).mp hxg
  · exact (hc.mem_iff hg hxg hz).mp
      ((hc.mem_iff hg ((hc.mem_iff hg hxg hy).mpr hxy) hz).mpr hyz)

end Classes

end Dit.Lemmas.GroupsBy
