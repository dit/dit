/-
C16 (companion) — the link `F ≤ M` for the model's functional common information.

The minimal sufficient statistic of `X` about `Y` partitions the outcomes into the classes of `x` with equal
conditional law `P(Y | x)` (`mssClasses`, Core/Meet.lean).  Inside such a class the joint law of `(X, Y)` is
`P(x) · q(y)` with one `q` for the whole class — a product — so the partition renders `X` and `Y` conditionally
independent in the product sense tested by `blockIndep`: it is a feasible function of the outcomes, hence represented
(same blocks, same block masses) among the candidates the functional common information minimises over
(`fciCandidates_complete`).
-/
import DitModel.Props.C16Fci
import DitModel.Lemmas.FciMss

namespace Dit.Props.C16FciMss
open Dit Dit.Lemmas.Table Dit.Lemmas.Meet Dit.Lemmas.FciMss Dit.Props.C16Fci

variable {σ : Type} [DecidableEq σ] {α : Type} [Field α] [DecidableEq α]

/-- **The classes of the minimal sufficient statistic form a set partition of the stored outcomes.** -/
theorem mssClasses_isSetPartition (t : Tab (List σ) α) (hk : (keys t).Nodup) (X Y : List Nat) :
    IsSetPartition (mssClasses t X Y) (keys t) :=
  have he := mss_equivOn t X Y (keys t)
  ⟨fun _ hB => class_ne_nil he hB, fun _ hB => class_nodup t X Y hk hB, classes_disjoint he,
    fun _ => ⟨fun ⟨_, hB, hx⟩ => mem_rows_of_mem_class he hB hx, classes_cover he⟩⟩

/-- **The minimal sufficient statistic of `X` about `Y` renders `X` and `Y` conditionally independent** in the
product sense: the partition `mssClasses t X Y` is feasible for the groups `[X, Y]`.  Duplicate-free keys only: no
hypothesis that the two groups determine the outcome is needed, since the product identity
`P(x, y, B) · P(B) = P(x, B) · P(y, B)` (`Lemmas.FciMss.class_product`) holds class by class for event weights,
whether or not several stored rows share their `(X, Y)`-values, and also for stored zeros, negative values and classes
of mass zero. -/
theorem mssClasses_feasible (t : Tab (List σ) α) (hk : (keys t).Nodup) (X Y : List Nat) :
    fciFeasible t [X, Y] (mssClasses t X Y) = true := by
  refine List.all_eq_true.mpr fun B hB => List.all_eq_true.mpr fun vs hvs => ?_
  simp only [blockValueTuples, List.mem_flatMap, List.mem_map, List.mem_singleton] at hvs
  obtain ⟨x, hx, vs', ⟨y, -, vs'', rfl, rfl⟩, rfl⟩ := hvs
  obtain ⟨a, ha, rfl⟩ := List.mem_map.mp (mem_dedup.mp hx)
  rw [decide_eq_true_eq]
  simp only [List.length_cons, List.length_nil, Nat.zero_add, Nat.add_sub_cancel, mpow,
    List.zip_cons_cons, List.zip_nil_right, List.map_cons, List.map_nil, List.foldl_cons,
    List.foldl_nil, mul_one, one_mul]
  exact class_product t X Y hk hB ha y

/-- **Hence it is among the candidates of `F`** (same blocks, same block masses).  `X` and `Y` are sets of variables
and every stored outcome is determined by its projections on `X` and `Y` together (`hdet`: the two groups cover the
variables).  `hdet` is the situation the property is about; it is not needed. -/
theorem mss_is_fci_candidate (t : Tab (List σ) α) (hk : (keys t).Nodup) (X Y : List Nat)
    (hdet : ∀ o ∈ keys t, ∀ o' ∈ keys t, project X o = project X o' → project Y o = project Y o' → o = o') :
    ∃ P ∈ fciCandidates t [X, Y], SameBlocks P (mssClasses t X Y)
      ∧ (partMasses t P).Perm (partMasses t (mssClasses t X Y)) := by
  have _ := hdet  -- not needed
  exact fciCandidates_complete t hk [X, Y] (mssClasses t X Y) (mssClasses_isSetPartition t hk X Y)
    (mssClasses_feasible t hk X Y)

/-- The hypotheses hold on a concrete table (duplicate-free keys, outcomes determined by the two groups), whose
classes are `{x = 0}` and `{x = 1}` (different conditional laws). -/
example : (keys ([([0, 0], 1 / 4), ([0, 1], 1 / 4), ([1, 0], 1 / 8), ([1, 1], 3 / 8)] : Tab (List Nat) Rat)).Nodup
    ∧ (∀ o ∈ keys ([([0, 0], 1 / 4), ([0, 1], 1 / 4), ([1, 0], 1 / 8), ([1, 1], 3 / 8)] : Tab (List Nat) Rat),
        ∀ o' ∈ keys ([([0, 0], 1 / 4), ([0, 1], 1 / 4), ([1, 0], 1 / 8), ([1, 1], 3 / 8)] : Tab (List Nat) Rat),
          project [0] o = project [0] o' → project [1] o = project [1] o' → o = o')
    ∧ mssClasses ([([0, 0], 1 / 4), ([0, 1], 1 / 4), ([1, 0], 1 / 8), ([1, 1], 3 / 8)] : Tab (List Nat) Rat) [0] [1]
        = [[[0, 0], [0, 1]], [[1, 0], [1, 1]]] := by
  decide +kernel

/-- The partition of that table into its classes is feasible, as `mssClasses_feasible` says. -/
example : fciFeasible ([([0, 0], 1 / 4), ([0, 1], 1 / 4), ([1, 0], 1 / 8), ([1, 1], 3 / 8)] : Tab (List Nat) Rat)
      [[0], [1]]
      (mssClasses ([([0, 0], 1 / 4), ([0, 1], 1 / 4), ([1, 0], 1 / 8), ([1, 1], 3 / 8)] : Tab (List Nat) Rat) [0] [1])
    = true := by
  decide +kernel

end Dit.Props.C16FciMss
