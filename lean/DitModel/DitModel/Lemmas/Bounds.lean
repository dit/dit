/-
Set functions on sets of variables, as used for the bounds on the auxiliary-variable optimisers
(Props/C15.lean) and on the secret-key measures (Props/C15Bounds.lean).

* Data processing for a submodular set function: `I(W:X|Z) = 0` gives `H(X|Z) ≤ H(X|W)`
  (`Hc_le_of_cmi_zero`), hence `I(W:X) ≤ I(Z:X)` and `I(X:Y) − I(X:Z) ≤ I(X:Y|W)`.
* Transfer: if `H (S ∪ {n}) = H' (S ∪ Z')` for every set `S` of variables `< n`, then every
  combination built from conditional entropies of sets `< n` given `D ∪ {n}` (with `D` a set of
  variables `< n`) has under `H` the value that the same combination given `D ∪ Z'` has under `H'`.
* `xorT`, `noisyChan`: the example table and channel of Props/C15Bounds.lean.
-/
import DitModel.Lemmas.InfoReal
import DitModel.Core.AuxJoint

namespace Dit.Lemmas.Bounds
open Dit Dit.Lemmas.InfoAlg

/-! ## Conditional entropies of a set function -/

section SetFunction
variable {R : Type} [CommRing R] (cast : ℚ →+* R) (H : VSet → R)

theorem cmi_symm (X Y Z : VSet) :
    Comb.eval cast H (cmiC X Y Z) = Comb.eval cast H (cmiC Y X Z) := by
  rw [eval_cmiC, eval_cmiC, vunion_comm X Y]
  ring

/-- Set functions that agree on the sets of variables `< n` have the same conditional mutual
informations there. -/
theorem cmi_agree {H H' : VSet → R} {n : Nat}
    (h : ∀ S : VSet, (∀ v ∈ S, v < n) → H S = H' S) {X Y Z : VSet}
    (hX : ∀ v ∈ X, v < n) (hY : ∀ v ∈ Y, v < n) (hZ : ∀ v ∈ Z, v < n) :
    Comb.eval cast H (cmiC X Y Z) = Comb.eval cast H' (cmiC X Y Z) := by
  rw [eval_cmiC, eval_cmiC, Hc_agree h hX hZ, Hc_agree h hY hZ, Hc_agree h (forall_mem_vunion hX hY) hZ]

/-- `I(X:Y|Z) = H(Y|Z) − H(Y|X,Z)`. -/
theorem cmi_eq_right (X Y Z : VSet) :
    Hc H X Z + Hc H Y Z - Hc H (vunion X Y) Z = Hc H Y Z - Hc H Y (vunion X Z) := by
  rw [Hc_chain]
  ring

/-- `I(X:Y|Z) = H(X|Z) − H(X|Y,Z)`. -/
theorem cmi_eq_left (X Y Z : VSet) :
    Hc H X Z + Hc H Y Z - Hc H (vunion X Y) Z = Hc H X Z - Hc H X (vunion Y Z) := by
  rw [vunion_comm X Y, Hc_chain]
  ring

end SetFunction

/-! ## Data processing for a submodular set function -/

section DPI
variable {R : Type} [CommRing R] [LinearOrder R] [IsStrictOrderedRing R] {H : VSet → R}

/-- If `I(W:X|Z) = 0` then `H(X|Z) = H(X|W,Z) ≤ H(X|W)`. -/
theorem Hc_le_of_cmi_zero (hs : Submod H) {W X Z : VSet}
    (hmk : Hc H W Z + Hc H X Z - Hc H (vunion W X) Z = 0) : Hc H X Z ≤ Hc H X W := by
  rw [cmi_eq_right, sub_eq_zero] at hmk
  exact hmk.trans_le (Hc_anti hs X W (vunion W Z) (subset_vunion_left W Z))

/-- If `I(W:X|Z) = 0` then `I(W:X) ≤ I(Z:X)`. -/
theorem mi_le_of_cmi_zero (hs : Submod H) {W X Z : VSet}
    (hmk : Hc H W Z + Hc H X Z - Hc H (vunion W X) Z = 0) :
    Hc H W [] + Hc H X [] - Hc H (vunion W X) [] ≤ Hc H Z [] + Hc H X [] - Hc H (vunion Z X) [] := by
  rw [cmi_eq_right, cmi_eq_right, Hc_union_nil, Hc_union_nil]
  exact sub_le_sub_left (Hc_le_of_cmi_zero hs hmk) _

/-- If `I(W:X|Z) = 0` then `I(X:Y) − I(X:Z) ≤ I(X:Y|W)`: `H(X|Z) ≤ H(X|W)` by data processing and
`H(X|Y,W) ≤ H(X|Y)`. -/
theorem dpi (hs : Submod H) (X Y : VSet) {W Z : VSet}
    (hmk : Hc H W Z + Hc H X Z - Hc H (vunion W X) Z = 0) :
    (Hc H X [] + Hc H Y [] - Hc H (vunion X Y) [])
        - (Hc H X [] + Hc H Z [] - Hc H (vunion X Z) [])
      ≤ Hc H X W + Hc H Y W - Hc H (vunion X Y) W := by
  rw [cmi_eq_left, cmi_eq_left, cmi_eq_left, Hc_union_nil, Hc_union_nil, sub_sub_sub_cancel_left]
  exact sub_le_sub (Hc_le_of_cmi_zero hs hmk)
    (Hc_anti hs X Y (vunion Y W) (subset_vunion_left Y W))

end DPI

/-! ## Transfer: values under `H` given `{n}` are the values under `H'` given `Z'`

The hypothesis `h` is supplied by `Lemmas.AuxJoint.entropyOf_const` (`Z' = []`) and
`Lemmas.AuxJoint.entropyOf_copy` (`Z' = [z]`). -/

section Transfer
variable {R : Type} [CommRing R] (cast : ℚ →+* R) (H H' : VSet → R) (n : Nat) (Z' : VSet)
  (h : ∀ S : List Nat, (∀ v ∈ S, v < n) → H (vunion S [n]) = H' (vunion S Z'))

include h

/-- `H(X | D ∪ {n}) = H'(X | D ∪ Z')` for sets `X`, `D` of variables `< n`. -/
theorem Hc_transfer_gen (X D : VSet) (hX : ∀ v ∈ X, v < n) (hD : ∀ v ∈ D, v < n) :
    Hc H X (vunion D [n]) = Hc H' X (vunion D Z') := by
  unfold Hc
  rw [← vunion_assoc, ← vunion_assoc, vnorm_vunion, vnorm_vunion, h _ (forall_mem_vunion hX hD), h D hD]

theorem Hc_transfer (X : VSet) (hX : ∀ v ∈ X, v < n) : Hc H X [n] = Hc H' X Z' := by
  show H (vunion X [n]) - H (vunion [] [n]) = H' (vunion X Z') - H' (vunion [] Z')
  rw [h X hX, h [] (by simp)]

theorem cmi_transfer (X Y : VSet) (hX : ∀ v ∈ X, v < n) (hY : ∀ v ∈ Y, v < n) :
    Comb.eval cast H (cmiC X Y [n]) = Comb.eval cast H' (cmiC X Y Z') := by
  rw [eval_cmiC, eval_cmiC, Hc_transfer H H' n Z' h X hX, Hc_transfer H H' n Z' h Y hY,
    Hc_transfer H H' n Z' h _ (forall_mem_vunion hX hY)]

theorem tc_transfer (groups : List VSet) (hg : ∀ g ∈ groups, ∀ v ∈ g, v < n) :
    Comb.eval cast H (tcC groups [n]) = Comb.eval cast H' (tcC groups Z') := by
  rw [eval_tcC, eval_tcC, Hc_transfer H H' n Z' h _ (forall_mem_vunions hg)]
  congr 2
  apply List.map_congr_left
  intro g hgm
  exact Hc_transfer H H' n Z' h g (hg g hgm)

theorem residual_transfer (groups : List VSet) (hg : ∀ g ∈ groups, ∀ v ∈ g, v < n) :
    Comb.eval cast H (residualC groups [n]) = Comb.eval cast H' (residualC groups Z') := by
  rw [eval_residualC, eval_residualC]
  congr 1
  apply List.map_congr_left
  intro g hgm
  apply Hc_transfer_gen H H' n Z' h g _ (hg g hgm)
  intro v hv
  exact forall_mem_vunions hg v ((mem_vdiff _ _ _).mp hv).1

theorem dtc_transfer (groups : List VSet) (hg : ∀ g ∈ groups, ∀ v ∈ g, v < n) :
    Comb.eval cast H (dtcC groups [n]) = Comb.eval cast H' (dtcC groups Z') := by
  rw [eval_dtcC, eval_dtcC, residual_transfer cast H H' n Z' h groups hg,
    Hc_transfer H H' n Z' h _ (forall_mem_vunions hg)]

theorem caekl_transfer (groups : List VSet) (hg : ∀ g ∈ groups, ∀ v ∈ g, v < n)
    (P : List (List VSet)) (hP : ∀ B ∈ P, ∀ g ∈ B, g ∈ groups) :
    Comb.eval cast H (caeklCand groups [n] P) = Comb.eval cast H' (caeklCand groups Z' P) := by
  rw [eval_caeklCand, eval_caeklCand, Hc_transfer H H' n Z' h _ (forall_mem_vunions hg)]
  congr 3
  apply List.map_congr_left
  intro B hB
  exact Hc_transfer H H' n Z' h _ (forall_mem_vunions fun g hgB => hg g (hP B hB g hgB))

end Transfer

/-! ## Example data for the non-vacuity checks of Props/C15Bounds.lean -/

/-- Example input: `X₀, X₁` fair and independent, `Z = X₀ xor X₁` (coordinate 2). -/
noncomputable def xorT : Tab (List Nat) ℝ :=
  [([0, 0, 0], 1 / 4), ([0, 1, 1], 1 / 4), ([1, 0, 1], 1 / 4), ([1, 1, 0], 1 / 4)]

/-- A noisy copy of the parent: the parent's value with weight 3/4, any other symbol with 1/4. -/
noncomputable def noisyChan : List Nat → Nat → ℝ := fun b k => if b = [k] then 3 / 4 else 1 / 4

theorem keys_xorT : keys xorT = [[0, 0, 0], [0, 1, 1], [1, 0, 1], [1, 1, 0]] := rfl

theorem noisyChan_row_sum (j : Nat) (hj : j < 2) : ((List.range 2).map (noisyChan [j])).sum = 1 := by
  show noisyChan [j] 0 + (noisyChan [j] 1 + 0) = 1
  unfold noisyChan
  obtain rfl | rfl : j = 0 ∨ j = 1 := by omega
  · rw [if_pos rfl, if_neg (by decide)]
    norm_num
  · rw [if_neg (by decide), if_pos rfl]
    norm_num

theorem xorT_row : ∀ o ∈ keys xorT, ((List.range (⟨[2], 2⟩ : AuxVar).bound).map
    (noisyChan (project (⟨[2], 2⟩ : AuxVar).bases o))).sum = 1 := by
  rw [keys_xorT]
  simp only [List.forall_mem_cons]
  exact ⟨noisyChan_row_sum 0 (by decide), noisyChan_row_sum 1 (by decide),
    noisyChan_row_sum 1 (by decide), noisyChan_row_sum 0 (by decide), by simp⟩

theorem xorT_chan : ∀ o ∈ keys xorT, ∀ k < (⟨[2], 2⟩ : AuxVar).bound,
    0 ≤ noisyChan (project (⟨[2], 2⟩ : AuxVar).bases o) k := by
  intro o _ k _; unfold noisyChan; split <;> norm_num

theorem xorT_len : ∀ o ∈ keys xorT, o.length = 3 := by
  rw [keys_xorT]
  decide

theorem xorT_nonneg : ∀ r ∈ xorT, 0 ≤ r.2 := by
  intro r hr; simp [xorT] at hr; rcases hr with rfl | rfl | rfl | rfl <;> norm_num

theorem xorT_fit : ∀ o ∈ keys xorT, ∀ j, o[2]? = some j → j < (⟨[2], 2⟩ : AuxVar).bound := by
  rw [keys_xorT]
  simp only [List.forall_mem_cons]
  decide

end Dit.Lemmas.Bounds
