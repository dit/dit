/-
C16 (companion) — the links `K ≤ J`, `J ≤ B` and `B ≤ M` of the chain `K ≤ J ≤ B ≤ F ≤ M ≤ H` of common
informations (`dit.multivariate.common_informations`): Gács–Körner `K` (entropy of the meet
variable), CAEKL mutual information `J` (minimum over the candidates `caeklCands`), dual total
correlation `B` (`dtcC`), functional common information `F` (least `H(W)` over variables `W`
rendering the groups conditionally independent) and the mss common information `M` (entropy of the
joint minimal sufficient statistic). Props/C16.lean has `K ≤ H`, `M ≤ H` and `B ≤ F`; here:

* `K ≤ J`: a set of variables that is a function of every group — in particular the meet
  variable — is below every CAEKL candidate, for any number of groups;
* `J ≤ B`: the candidate of the all-singletons partition is `T/(n−1)` and `T ≤ (n−1)·B`, for any
  number `n ≥ 2` of pairwise disjoint groups and any conditioning set;
* `F ≤ M` (two groups): the minimal sufficient statistic of `X` about `Y`, and the pair of the
  two minimal sufficient statistics, are functions of the outcome that render `X` and `Y`
  conditionally independent, hence `B ≤ M` (and `M ≤ H(X ∪ Y)`). The pair is built either as
  `insert_joint_mss` does (second statistic computed on the table extended by the first:
  `mss_joint_renders_independent`, `b_le_m`) or with both statistics computed on the original
  table and appended at once (`mss_joint_one_shot`); both are instances of
  `mss_pair_renders_independent` / `b_le_pair_entropy` (second label: any function of `Y`).
  `F` does not occur in these statements: feasibility is in the entropy sense, `H(X | Y ∪ W) = H(X | W)`,
  and the conclusion is `B ≤ H(W)`. The model's `F` (`fciCandidates`, Core/SetPart.lean) and `F ≤ M` for
  it are in Props/C16FciMss.lean.

The first part is stated for an arbitrary entropy function `H : VSet → R` with `Submod H`
(`I(X:Y|Z) ≥ 0`), `Hc H X Z = H(X ∪ Z) − H(Z)`; the table-level statements are for
`H := entropyOf (Real.logb 2) t`, `t` a table with non-negative real values.
`J` is not a function of the model (the driver takes the minimum of the candidate values in
`Float`), so `K ≤ J` is "`K ≤` every candidate" and `J ≤ B` is "some candidate `≤ B`";
`k_le_j_le_b` combines them for any `m` that is a least element of the list of candidate values.
-/
import DitModel.Lemmas.Chain
import DitModel.Props.C16

namespace Dit.Props.C16Chain
open Dit Dit.Lemmas.Table Dit.Lemmas.Meet Dit.Lemmas.InfoAlg Dit.Lemmas.InfoReal Dit.Lemmas.Chain

/-! ## (a) The entropy-function algebra -/

section Abstract
variable {R : Type} [CommRing R] [LinearOrder R] [IsStrictOrderedRing R] (cast : ℚ →+* R)
  {H : VSet → R}

/-- **`K ≤ J`, abstract form**: if the set of variables `V` is a
function of every group given `Z` (`H(V | g ∪ Z) = 0` for every group `g`), then `H(V | Z)` is at
most the value of every candidate of the CAEKL minimisation — one candidate
`(Σ_{B∈P} H(X_B|Z) − H(X|Z)) / (|P|−1)` per set partition `P` of the groups into at least two
blocks — hence at most their minimum `J`. Any number of groups, overlapping or not. Proof:
`Σ_B H(X_B|Z) − H(X|Z) = (|P|−1)·H(V|Z) + [Σ_B H(X_B|V,Z) − H(X|V,Z)]` and the bracket is a total
correlation. `Submod H` (non-negativity of conditional mutual information) is the only property
of `H` used. -/
theorem common_function_le_caekl (h : Submod H) (groups : List VSet) (V Z : VSet)
    (hV : ∀ g ∈ groups, Hc H V (vunion g Z) = 0) :
    ∀ c ∈ caeklCands groups Z, Hc H V Z ≤ Comb.eval cast H c := by
  intro c hc
  obtain ⟨P, hP, hlen, rfl⟩ := mem_caeklCands_iff.mp hc
  exact common_function_le_cand cast h groups V Z hV P hP hlen

/-- **`T ≤ (n−1)·B`**: for `n` pairwise disjoint groups and any conditioning
set, the total correlation is at most `n−1` times the dual total correlation
(`T + B = Σᵢ I(Xᵢ : X₋ᵢ|Z)`, each term `≤ B`). Disjointness is needed: for
overlapping groups `B` can be negative (Props/C05 `dtc_nonneg`). The proof does not use `hne`. -/
theorem tc_le_dtc (h : Submod H) (groups : List VSet) (Z : VSet) (hne : groups ≠ [])
    (hdis : groups.Pairwise VDisj) :
    Comb.eval cast H (tcC groups Z)
      ≤ ((groups.length : R) - 1) * Comb.eval cast H (dtcC groups Z) := by
  have _ := hne
  rw [eval_tcC, eval_dtcC, eval_residualC]
  exact Lemmas.Chain.tc_le_dtc h groups Z hdis

/-- **`J ≤ B`, abstract form**: the candidate of the all-singletons partition, whose value is
`T/(n−1)`, is at most the dual total correlation. -/
theorem caekl_le_dtc (h : Submod H) (groups : List VSet) (Z : VSet) (hlen : 1 < groups.length)
    (hdis : groups.Pairwise VDisj) :
    ∃ c ∈ caeklCands groups Z, Comb.eval cast H c ≤ Comb.eval cast H (dtcC groups Z) := by
  refine ⟨_, singletons_cand_mem groups Z hlen, ?_⟩
  rw [eval_singletons_cand]
  exact scaled_le cast groups.length hlen _ _
    (tc_le_dtc cast h groups Z (List.ne_nil_of_length_pos (Nat.lt_of_succ_lt hlen)) hdis)

/-- **A statistic keeping the mutual information renders the variables conditionally
independent**: if `S` is a function of `X` (`H(S|X) = 0`) with
`I(S:Y) = I(X:Y)` and `T` is a function of `Y`, then `I(X:Y|S) = 0` and `I(X:Y|S,T) = 0`, written
`H(X | Y ∪ W) = H(X | W)`; moreover `S ∪ T` is a function of `X ∪ Y`. -/
theorem sufficient_renders_independent (h : Submod H) (X Y S T : VSet) (hS : Hc H S X = 0)
    (hT : Hc H T Y = 0)
    (hMI : H (vnorm S) + H (vnorm Y) - H (vunion S Y)
      = H (vnorm X) + H (vnorm Y) - H (vunion X Y)) :
    Hc H X (vunion Y S) = Hc H X S
    ∧ Hc H X (vunion Y (vunion S T)) = Hc H X (vunion S T)
    ∧ Hc H Y (vunion X (vunion S T)) = Hc H Y (vunion S T)
    ∧ Hc H (vunion S T) (vunion X Y) = 0 :=
  ⟨ci_of_mi_preserved h hS hMI, ci_extend h hT (ci_of_mi_preserved h hS hMI),
    ci_symm (ci_extend h hT (ci_of_mi_preserved h hS hMI)), function_union h hS hT⟩

end Abstract

/-- Non-vacuity of the abstract statements: the entropy function of three copies of a fair bit
is submodular; variable 2 is a function of variable 0 and of variable 1, and keeps `I(0:1)`. -/
example :
    Submod (entropyOf (Real.logb 2) ([([0, 0, 0], 1 / 2), ([1, 1, 1], 1 / 2)] : Tab (List Nat) ℝ))
    ∧ (∀ g ∈ [[0], [1]],
        Hc (entropyOf (Real.logb 2) ([([0, 0, 0], 1 / 2), ([1, 1, 1], 1 / 2)] : Tab (List Nat) ℝ))
          [2] (vunion g []) = 0)
    ∧ [[0], [1]] ≠ [] ∧ 1 < [[0], [1]].length ∧ [[0], [1]].Pairwise VDisj
    ∧ entropyOf (Real.logb 2) ([([0, 0, 0], 1 / 2), ([1, 1, 1], 1 / 2)] : Tab (List Nat) ℝ)
          (vnorm [2])
        + entropyOf (Real.logb 2) ([([0, 0, 0], 1 / 2), ([1, 1, 1], 1 / 2)] : Tab (List Nat) ℝ)
          (vnorm [1])
        - entropyOf (Real.logb 2) ([([0, 0, 0], 1 / 2), ([1, 1, 1], 1 / 2)] : Tab (List Nat) ℝ)
          (vunion [2] [1])
      = entropyOf (Real.logb 2) ([([0, 0, 0], 1 / 2), ([1, 1, 1], 1 / 2)] : Tab (List Nat) ℝ)
          (vnorm [0])
        + entropyOf (Real.logb 2) ([([0, 0, 0], 1 / 2), ([1, 1, 1], 1 / 2)] : Tab (List Nat) ℝ)
          (vnorm [1])
        - entropyOf (Real.logb 2) ([([0, 0, 0], 1 / 2), ([1, 1, 1], 1 / 2)] : Tab (List Nat) ℝ)
          (vunion [0] [1]) := by
  have key : ∀ X ∈ [[0], [1], [0, 1], [0, 2], [1, 2]],
      entropyOf (Real.logb 2) ([([0, 0, 0], 1 / 2), ([1, 1, 1], 1 / 2)] : Tab (List Nat) ℝ) X
        = entropyOf (Real.logb 2)
            ([([0, 0, 0], 1 / 2), ([1, 1, 1], 1 / 2)] : Tab (List Nat) ℝ) [2] := by
    intro X hX
    apply C16.entropy_of_equivalent_maps
    revert X
    decide
  refine ⟨entropy_Submod _ ?_, ?_, List.cons_ne_nil _ _, by decide, by unfold VDisj; decide, ?_⟩
  · intro r hr; simp at hr; rcases hr with rfl | rfl <;> norm_num
  · have e1 : vunion [2] (vunion [0] []) = [0, 2] := by decide
    have e2 : vunion [2] (vunion [1] []) = [1, 2] := by decide
    have e3 : vnorm (vunion [0] []) = [0] := by decide
    have e4 : vnorm (vunion [1] []) = [1] := by decide
    intro g hg
    rcases List.mem_pair.mp hg with rfl | rfl
    · unfold Hc; rw [e1, e3, key [0, 2] (by decide), key [0] (by decide), sub_self]
    · unfold Hc; rw [e2, e4, key [1, 2] (by decide), key [1] (by decide), sub_self]
  · have e1 : vnorm [2] = [2] := by decide
    have e2 : vnorm [1] = [1] := by decide
    have e3 : vnorm [0] = [0] := by decide
    have e4 : vunion [2] [1] = [1, 2] := by decide
    have e5 : vunion [0] [1] = [0, 1] := by decide
    rw [e1, e2, e3, e4, e5, key [1] (by decide), key [1, 2] (by decide), key [0] (by decide),
      key [0, 1] (by decide)]

/-! ## (b) `K ≤ J ≤ B` for tables -/

section Tables
variable {σ : Type} [DecidableEq σ]

/-- **`K ≤ J`**: the entropy of the meet variable (the Gács–Körner common information `K`) is at
most the value of every candidate of the CAEKL minimisation, hence at most their minimum `J`.
Total mass 1 is used for `H(∅) = 0` (otherwise `K − H(∅) ≤` candidate). -/
theorem k_le_j (code : Nat → σ) (groups : List VSet) (n : Nat) (t : Tab (List σ) ℝ)
    (hnn : ∀ r ∈ t, 0 ≤ r.2) (hmass : (t.map (·.2)).sum = 1)
    (hn : ∀ k ∈ keys t, k.length = n) (hg : ∀ g ∈ groups, ∀ i ∈ g, i < n) :
    ∀ c ∈ caeklCands groups [],
      entropyOf (Real.logb 2)
          (insertRvf (fun o => [code (labelOf (meetClasses groups (keys t)) o)]) none t) [n]
        ≤ Comb.eval (Rat.castHom ℝ) (entropyOf (Real.logb 2) t) c := by
  intro c hc
  obtain ⟨P, hP, hlen, rfl⟩ := mem_caeklCands_iff.mp hc
  exact common_label_le_cand (fun o => code (labelOf (meetClasses groups (keys t)) o)) n t hn hnn
    hmass groups hg
    (fun _ hgm _ hk _ hk' e =>
      congrArg code (C16.meet_function_of_each groups (keys t) hgm hk hk' e))
    P hP hlen

/-- **`J ≤ B`**: some candidate of the CAEKL minimisation (the all-singletons partition,
`T/(n−1)`) is at most the dual total correlation. For two groups `J = B = I(X:Y|Z)`
(Props/C05 `caekl_two`, `dtc_two`). -/
theorem j_le_b (t : Tab (List σ) ℝ) (hnn : ∀ r ∈ t, 0 ≤ r.2) (groups : List VSet) (Z : VSet)
    (hlen : 1 < groups.length) (hdis : groups.Pairwise VDisj) :
    ∃ c ∈ caeklCands groups Z,
      Comb.eval (Rat.castHom ℝ) (entropyOf (Real.logb 2) t) c
        ≤ Comb.eval (Rat.castHom ℝ) (entropyOf (Real.logb 2) t) (dtcC groups Z) :=
  caekl_le_dtc (Rat.castHom ℝ) (entropy_Submod t hnn) groups Z hlen hdis

/-- **`K ≤ J ≤ B`**: let `m` be the CAEKL mutual information of the groups on the
table, i.e. a least element of the list of candidate values. Then the entropy of the meet variable is at most `m`, and `m` is at
most the dual total correlation. The third clause (the candidate list is not empty) follows
from `hm` alone. Hypotheses as in `k_le_j` and `j_le_b`. -/
theorem k_le_j_le_b (code : Nat → σ) (groups : List VSet) (n : Nat) (t : Tab (List σ) ℝ)
    (hnn : ∀ r ∈ t, 0 ≤ r.2) (hmass : (t.map (·.2)).sum = 1)
    (hn : ∀ k ∈ keys t, k.length = n) (hg : ∀ g ∈ groups, ∀ i ∈ g, i < n)
    (hlen : 1 < groups.length) (hdis : groups.Pairwise VDisj) (m : ℝ)
    (hm : m ∈ (caeklCands groups []).map
      (Comb.eval (Rat.castHom ℝ) (entropyOf (Real.logb 2) t)))
    (hmin : ∀ x ∈ (caeklCands groups []).map
      (Comb.eval (Rat.castHom ℝ) (entropyOf (Real.logb 2) t)), m ≤ x) :
    entropyOf (Real.logb 2)
        (insertRvf (fun o => [code (labelOf (meetClasses groups (keys t)) o)]) none t) [n] ≤ m
    ∧ m ≤ Comb.eval (Rat.castHom ℝ) (entropyOf (Real.logb 2) t) (dtcC groups [])
    ∧ caeklCands groups [] ≠ [] := by
  refine ⟨?_, ?_, ?_⟩
  · obtain ⟨c, hc, rfl⟩ := List.mem_map.mp hm
    exact k_le_j code groups n t hnn hmass hn hg c hc
  · obtain ⟨c, hc, hle⟩ := j_le_b t hnn groups [] hlen hdis
    exact (hmin _ (List.mem_map.mpr ⟨c, hc, rfl⟩)).trans hle
  · obtain ⟨c, hc, -⟩ := List.mem_map.mp hm
    exact List.ne_nil_of_mem hc

/-- Non-vacuity of `k_le_j`, `j_le_b`, `k_le_j_le_b`: a table with non-negative values (one of
them zero), mass 1, outcomes of length 3, three disjoint groups within range. -/
example :
    (∀ r ∈ ([([0, 0, 0], 1 / 2), ([0, 1, 0], 0), ([1, 1, 1], 1 / 4), ([2, 2, 0], 1 / 4)] :
      Tab (List Nat) ℝ), 0 ≤ r.2)
    ∧ (([([0, 0, 0], 1 / 2), ([0, 1, 0], 0), ([1, 1, 1], 1 / 4), ([2, 2, 0], 1 / 4)] :
      Tab (List Nat) ℝ).map (·.2)).sum = 1
    ∧ (∀ k ∈ keys ([([0, 0, 0], 1 / 2), ([0, 1, 0], 0), ([1, 1, 1], 1 / 4), ([2, 2, 0], 1 / 4)] :
      Tab (List Nat) ℝ), k.length = 3)
    ∧ (∀ g ∈ [[0], [1], [2]], ∀ i ∈ g, i < 3)
    ∧ 1 < [[0], [1], [2]].length ∧ [[0], [1], [2]].Pairwise VDisj := by
  refine ⟨?_, by norm_num, by decide, by decide, by decide, by unfold VDisj; decide⟩
  intro r hr; simp at hr; rcases hr with rfl | rfl | rfl | rfl <;> norm_num

/-- The candidate list for three groups: the partitions `1|2|3`, `12|3`, `13|2`, `1|23`. -/
example : (caeklCands [[0], [1], [2]] []).length = 4 := by decide +kernel

end Tables

/-! ## (c) The minimal sufficient statistics are feasible for `F`; `B ≤ M` -/

section MssChain
variable {σ : Type} [DecidableEq σ]

/-- **The minimal sufficient statistic of `X` about `Y` renders `X` and `Y` conditionally
independent**, `I(X:Y|f(X)) = I(X:Y) − I(f(X):Y) = 0`, and is a function of `X`. -/
theorem mss_renders_independent (code : Nat → σ) (hcode : Function.Injective code)
    (t : Tab (List σ) ℝ) (hnn : ∀ r ∈ t, 0 ≤ r.2) (n : Nat) (hn : ∀ k ∈ keys t, k.length = n)
    (X Y : List Nat) (hX : ∀ i ∈ X, i < n) (hY : ∀ i ∈ Y, i < n) :
    Hc (entropyOf (Real.logb 2)
        (insertRvf (fun o => [code (labelOf (mssClasses t X Y) o)]) none t)) X (vunion Y [n])
      = Hc (entropyOf (Real.logb 2)
        (insertRvf (fun o => [code (labelOf (mssClasses t X Y) o)]) none t)) X [n]
    ∧ Hc (entropyOf (Real.logb 2)
        (insertRvf (fun o => [code (labelOf (mssClasses t X Y) o)]) none t)) [n] X = 0 :=
  label_renders_independent (fun o => code (labelOf (mssClasses t X Y) o)) n t hn hnn X Y hX hY
    (fun _ hk _ hk' e => congrArg code (C16.mss_function_of_X t X Y hk hk' e))
    (C16.mss_preserves_mi code hcode t hnn n hn X Y hX hY)

/-- Props/C16 `b_le_f` on a table `t'` that extends `t` (same entropies on the variables `< n`). -/
theorem b_le_of_renders (t t' : Tab (List σ) ℝ) (n : Nat)
    (ag : AgreeBelow n (entropyOf (Real.logb 2) t') (entropyOf (Real.logb 2) t))
    (hnn' : ∀ r ∈ t', 0 ≤ r.2) (hmass' : (t'.map (·.2)).sum = 1)
    (X Y : List Nat) (hX : ∀ i ∈ X, i < n) (hY : ∀ i ∈ Y, i < n) (W : VSet)
    (hCI : Hc (entropyOf (Real.logb 2) t') X (vunion Y W) = Hc (entropyOf (Real.logb 2) t') X W) :
    Comb.eval (Rat.castHom ℝ) (entropyOf (Real.logb 2) t) (dtcC [X, Y] [])
      ≤ entropyOf (Real.logb 2) t' W := by
  rw [← eval_dtcC_agree (Rat.castHom ℝ) ag [X, Y] []
    (List.forall_mem_cons.mpr ⟨hX, List.forall_mem_singleton.mpr hY⟩) (by simp)]
  exact C16.b_le_f t' hnn' hmass' [X, Y] W (ci_two_groups (entropy_Submod t' hnn') hCI)

/-- **The mss of `X` about `Y` paired with any function of `Y` renders `X` and `Y` conditionally
independent**: `t₁` has the mss label of `X` about `Y` as variable `n`, `t₂` any label `ℓ₂` that
is a function of the `Y`-values as variable `n+1`, and `W = {n, n+1}`. -/
theorem mss_pair_renders_independent (code : Nat → σ) (hcode : Function.Injective code)
    (t : Tab (List σ) ℝ) (hnn : ∀ r ∈ t, 0 ≤ r.2) (n : Nat) (hn : ∀ k ∈ keys t, k.length = n)
    (X Y : List Nat) (hX : ∀ i ∈ X, i < n) (hY : ∀ i ∈ Y, i < n)
    (ℓ₂ : List σ → σ) (t₁ t₂ : Tab (List σ) ℝ)
    (h₁ : t₁ = insertRvf (fun o => [code (labelOf (mssClasses t X Y) o)]) none t)
    (hℓ₂ : ∀ k ∈ keys t₁, ∀ k' ∈ keys t₁, project Y k = project Y k' → ℓ₂ k = ℓ₂ k')
    (h₂ : t₂ = insertRvf (fun o => [ℓ₂ o]) none t₁) :
    Hc (entropyOf (Real.logb 2) t₂) X (vunion Y [n, n + 1])
        = Hc (entropyOf (Real.logb 2) t₂) X [n, n + 1]
    ∧ Hc (entropyOf (Real.logb 2) t₂) Y (vunion X [n, n + 1])
        = Hc (entropyOf (Real.logb 2) t₂) Y [n, n + 1]
    ∧ Hc (entropyOf (Real.logb 2) t₂) [n, n + 1] (vunion X Y) = 0 := by
  subst h₁ h₂
  obtain ⟨hCI, hS⟩ := mss_renders_independent code hcode t hnn n hn X Y hX hY
  have hn1 := insertRvf_keys_length (fun o => code (labelOf (mssClasses t X Y) o)) n t hn
  have hsub := entropy_Submod _ (insertRvf_nonneg (fun o => [ℓ₂ o]) none _
    (insertRvf_nonneg (fun o => [code (labelOf (mssClasses t X Y) o)]) none t hnn))
  have hX1 : ∀ i ∈ X, i < n + 1 := fun i hi => Nat.lt_succ_of_lt (hX i hi)
  have hY1 : ∀ i ∈ Y, i < n + 1 := fun i hi => Nat.lt_succ_of_lt (hY i hi)
  have hN1 : ∀ i ∈ [n], i < n + 1 := fun i hi => List.mem_singleton.mp hi ▸ Nat.lt_succ_self n
  have ag := agree_insert ℓ₂ (n + 1) _ hn1
  have hT := Hc_new_of_function ℓ₂ (n + 1) _ hn1 Y hY1 hℓ₂
  -- what holds of `X`, `Y`, `{n}` in `t₁` holds in `t₂`
  rw [← Hc_agree ag hX1 (forall_mem_vunion hY1 hN1), ← Hc_agree ag hX1 hN1] at hCI
  rw [← Hc_agree ag hN1 hX1] at hS
  have hW : vunion [n] [n + 1] = [n, n + 1] :=
    vnorm_of_sorted (List.pairwise_pair.mpr (Nat.lt_succ_self n))
  have c1 := ci_extend hsub hT hCI
  have c3 := function_union hsub hS hT
  rw [hW] at c1 c3
  exact ⟨c1, ci_symm c1, c3⟩

/-- **`B ≤ H(W) ≤ H(X ∪ Y)`** for the pair `W = {n, n+1}` of `mss_pair_renders_independent`;
total mass 1 is used for `H(∅) = 0`. -/
theorem b_le_pair_entropy (code : Nat → σ) (hcode : Function.Injective code)
    (t : Tab (List σ) ℝ) (hnn : ∀ r ∈ t, 0 ≤ r.2) (hmass : (t.map (·.2)).sum = 1) (n : Nat)
    (hn : ∀ k ∈ keys t, k.length = n)
    (X Y : List Nat) (hX : ∀ i ∈ X, i < n) (hY : ∀ i ∈ Y, i < n)
    (ℓ₂ : List σ → σ) (t₁ t₂ : Tab (List σ) ℝ)
    (h₁ : t₁ = insertRvf (fun o => [code (labelOf (mssClasses t X Y) o)]) none t)
    (hℓ₂ : ∀ k ∈ keys t₁, ∀ k' ∈ keys t₁, project Y k = project Y k' → ℓ₂ k = ℓ₂ k')
    (h₂ : t₂ = insertRvf (fun o => [ℓ₂ o]) none t₁) :
    Comb.eval (Rat.castHom ℝ) (entropyOf (Real.logb 2) t) (dtcC [X, Y] [])
        ≤ entropyOf (Real.logb 2) t₂ [n, n + 1]
    ∧ entropyOf (Real.logb 2) t₂ [n, n + 1] ≤ entropyOf (Real.logb 2) t (vunion X Y) := by
  obtain ⟨c1, _, c3⟩ :=
    mss_pair_renders_independent code hcode t hnn n hn X Y hX hY ℓ₂ t₁ t₂ h₁ hℓ₂ h₂
  subst h₁ h₂
  have hnn2 := insertRvf_nonneg (fun o => [ℓ₂ o]) none _
    (insertRvf_nonneg (fun o => [code (labelOf (mssClasses t X Y) o)]) none t hnn)
  have ag := (agree_insert ℓ₂ (n + 1) _ (insertRvf_keys_length _ n t hn)).trans
    (agree_insert (fun o => code (labelOf (mssClasses t X Y) o)) n t hn) (Nat.le_succ n)
  refine ⟨b_le_of_renders t _ n ag hnn2 (by rw [insertRvf_mass, insertRvf_mass]; exact hmass)
    X Y hX hY _ c1, ?_⟩
  have hle := H_le_of_function (entropy_Submod _ hnn2) c3
  rwa [← entropyOf_vnorm, ← entropyOf_vnorm, ag (vunion X Y) (forall_mem_vunion hX hY)] at hle

/-- **The joint minimal sufficient statistic renders `X` and `Y` conditionally independent and
is a function of the outcome.** As `insert_joint_mss` does,
append the mss label of `X` about `Y` (variable `n`, table `t₁`), then the mss label of `Y` about
`X` computed on `t₁` (variable `n+1`, table `t₂`); `W = {n, n+1}` is the joint statistic whose
entropy is `M`. Then in `t₂`: `H(X | Y ∪ W) = H(X | W)`, `H(Y | X ∪ W) = H(Y | W)` (so `W` is
feasible for the minimisation defining `F`), and `H(W | X ∪ Y) = 0`. -/
theorem mss_joint_renders_independent (code : Nat → σ) (hcode : Function.Injective code)
    (t : Tab (List σ) ℝ) (hnn : ∀ r ∈ t, 0 ≤ r.2) (n : Nat) (hn : ∀ k ∈ keys t, k.length = n)
    (X Y : List Nat) (hX : ∀ i ∈ X, i < n) (hY : ∀ i ∈ Y, i < n)
    (t₁ t₂ : Tab (List σ) ℝ)
    (h₁ : t₁ = insertRvf (fun o => [code (labelOf (mssClasses t X Y) o)]) none t)
    (h₂ : t₂ = insertRvf (fun o => [code (labelOf (mssClasses t₁ Y X) o)]) none t₁) :
    Hc (entropyOf (Real.logb 2) t₂) X (vunion Y [n, n + 1])
        = Hc (entropyOf (Real.logb 2) t₂) X [n, n + 1]
    ∧ Hc (entropyOf (Real.logb 2) t₂) Y (vunion X [n, n + 1])
        = Hc (entropyOf (Real.logb 2) t₂) Y [n, n + 1]
    ∧ Hc (entropyOf (Real.logb 2) t₂) [n, n + 1] (vunion X Y) = 0 :=
  mss_pair_renders_independent code hcode t hnn n hn X Y hX hY
    (fun o => code (labelOf (mssClasses t₁ Y X) o)) t₁ t₂ h₁
    (fun _ hk _ hk' e => congrArg code (C16.mss_function_of_X t₁ Y X hk hk' e)) h₂

/-- **`B ≤ M`**: for two groups `X`, `Y` of a table with non-negative values, total
mass 1 and outcomes of length `n`, the dual total correlation `B` of `[X, Y]` (equal to `I(X:Y)`
for disjoint groups) is at most the entropy `M` of the joint minimal sufficient statistic
`W = {n, n+1}` built as in `mss_joint_renders_independent`, and `M ≤ H(X ∪ Y)`. Since
`F = min {H(W') : W' renders X, Y conditionally independent}` and `W` is such a `W'` with
`H(W) = M`, this is the link `F ≤ M` (with `B ≤ F` from Props/C16 `b_le_f`). Total mass 1 is used
for `H(∅) = 0`. -/
theorem b_le_m (code : Nat → σ) (hcode : Function.Injective code)
    (t : Tab (List σ) ℝ) (hnn : ∀ r ∈ t, 0 ≤ r.2) (hmass : (t.map (·.2)).sum = 1) (n : Nat)
    (hn : ∀ k ∈ keys t, k.length = n)
    (X Y : List Nat) (hX : ∀ i ∈ X, i < n) (hY : ∀ i ∈ Y, i < n)
    (t₁ t₂ : Tab (List σ) ℝ)
    (h₁ : t₁ = insertRvf (fun o => [code (labelOf (mssClasses t X Y) o)]) none t)
    (h₂ : t₂ = insertRvf (fun o => [code (labelOf (mssClasses t₁ Y X) o)]) none t₁) :
    Comb.eval (Rat.castHom ℝ) (entropyOf (Real.logb 2) t) (dtcC [X, Y] [])
        ≤ entropyOf (Real.logb 2) t₂ [n, n + 1]
    ∧ entropyOf (Real.logb 2) t₂ [n, n + 1] ≤ entropyOf (Real.logb 2) t (vunion X Y) :=
  b_le_pair_entropy code hcode t hnn hmass n hn X Y hX hY
    (fun o => code (labelOf (mssClasses t₁ Y X) o)) t₁ t₂ h₁
    (fun _ hk _ hk' e => congrArg code (C16.mss_function_of_X t₁ Y X hk hk' e)) h₂

/-- **The same with both statistics computed on the original table and appended at once**:
`t₂ = insertRvf (fun o => [f(o), g(o)]) none t` with `f` the mss label of
`X` about `Y` and `g` the mss label of `Y` about `X`, both from `mssClasses t`; `W = {n, n+1}`.
Then `I(X:Y|W) = 0` both ways, `H(W | X ∪ Y) = 0`, and `B ≤ H(W) ≤ H(X ∪ Y)` (the last two need
total mass 1). -/
theorem mss_joint_one_shot (code : Nat → σ) (hcode : Function.Injective code)
    (t : Tab (List σ) ℝ) (hnn : ∀ r ∈ t, 0 ≤ r.2) (hmass : (t.map (·.2)).sum = 1) (n : Nat)
    (hn : ∀ k ∈ keys t, k.length = n)
    (X Y : List Nat) (hX : ∀ i ∈ X, i < n) (hY : ∀ i ∈ Y, i < n) (t₂ : Tab (List σ) ℝ)
    (h₂ : t₂ = insertRvf (fun o => [code (labelOf (mssClasses t X Y) o),
      code (labelOf (mssClasses t Y X) o)]) none t) :
    Hc (entropyOf (Real.logb 2) t₂) X (vunion Y [n, n + 1])
        = Hc (entropyOf (Real.logb 2) t₂) X [n, n + 1]
    ∧ Hc (entropyOf (Real.logb 2) t₂) Y (vunion X [n, n + 1])
        = Hc (entropyOf (Real.logb 2) t₂) Y [n, n + 1]
    ∧ Hc (entropyOf (Real.logb 2) t₂) [n, n + 1] (vunion X Y) = 0
    ∧ Comb.eval (Rat.castHom ℝ) (entropyOf (Real.logb 2) t) (dtcC [X, Y] [])
        ≤ entropyOf (Real.logb 2) t₂ [n, n + 1]
    ∧ entropyOf (Real.logb 2) t₂ [n, n + 1] ≤ entropyOf (Real.logb 2) t (vunion X Y) := by
  rw [insertRvf_two_eq (fun o => code (labelOf (mssClasses t X Y) o))
    (fun o => code (labelOf (mssClasses t Y X) o)) n t hn] at h₂
  have hfun := take_function (fun o => code (labelOf (mssClasses t X Y) o))
    (fun o => code (labelOf (mssClasses t Y X) o)) n t hn Y hY
    (fun _ hk _ hk' e => congrArg code (C16.mss_function_of_X t Y X hk hk' e))
  obtain ⟨c1, c2, c3⟩ := mss_pair_renders_independent code hcode t hnn n hn X Y hX hY
    (fun o' => code (labelOf (mssClasses t Y X) (o'.take n))) _ t₂ rfl hfun h₂
  exact ⟨c1, c2, c3, b_le_pair_entropy code hcode t hnn hmass n hn X Y hX hY
    (fun o' => code (labelOf (mssClasses t Y X) (o'.take n))) _ t₂ rfl hfun h₂⟩

/-- The single statistic already bounds `B`: `B ≤ H(f(X))`, for the table
`t₁` with the mss label of `X` about `Y` appended as variable `n`. -/
theorem b_le_mss_entropy (code : Nat → σ) (hcode : Function.Injective code)
    (t : Tab (List σ) ℝ) (hnn : ∀ r ∈ t, 0 ≤ r.2) (hmass : (t.map (·.2)).sum = 1) (n : Nat)
    (hn : ∀ k ∈ keys t, k.length = n)
    (X Y : List Nat) (hX : ∀ i ∈ X, i < n) (hY : ∀ i ∈ Y, i < n) :
    Comb.eval (Rat.castHom ℝ) (entropyOf (Real.logb 2) t) (dtcC [X, Y] [])
      ≤ entropyOf (Real.logb 2)
          (insertRvf (fun o => [code (labelOf (mssClasses t X Y) o)]) none t) [n] :=
  b_le_of_renders t _ n (agree_insert (fun o => code (labelOf (mssClasses t X Y) o)) n t hn)
    (insertRvf_nonneg _ _ t hnn) ((insertRvf_mass _ _ t).trans hmass) X Y hX hY [n]
    (mss_renders_independent code hcode t hnn n hn X Y hX hY).1

/-- Non-vacuity of the theorems of this section (`X = [0]`, `Y = [1]`, `n = 2`). -/
example : Function.Injective (fun i : Nat => i)
    ∧ (∀ r ∈ ([([0, 0], 1 / 8), ([0, 1], 1 / 8), ([1, 0], 1 / 4), ([1, 1], 1 / 4),
        ([2, 0], 1 / 4)] : Tab (List Nat) ℝ), 0 ≤ r.2)
    ∧ (([([0, 0], 1 / 8), ([0, 1], 1 / 8), ([1, 0], 1 / 4), ([1, 1], 1 / 4),
        ([2, 0], 1 / 4)] : Tab (List Nat) ℝ).map (·.2)).sum = 1
    ∧ (∀ k ∈ keys ([([0, 0], 1 / 8), ([0, 1], 1 / 8), ([1, 0], 1 / 4), ([1, 1], 1 / 4),
        ([2, 0], 1 / 4)] : Tab (List Nat) ℝ), k.length = 2)
    ∧ (∀ i ∈ [0], i < 2) ∧ ∀ i ∈ [1], i < 2 := by
  refine ⟨fun _ _ h => h, ?_, by norm_num, by decide, by decide, by decide⟩
  intro r hr; simp at hr; rcases hr with rfl | rfl | rfl | rfl | rfl <;> norm_num

/-- The two-step construction over `ℚ` on that table: `f` merges `x = 0, 1`; `g` keeps `y`. -/
example : insertRvf (fun o => [labelOf (mssClasses
      (insertRvf (fun o => [labelOf (mssClasses ([([0, 0], 1 / 8), ([0, 1], 1 / 8),
        ([1, 0], 1 / 4), ([1, 1], 1 / 4), ([2, 0], 1 / 4)] : Tab (List Nat) Rat) [0] [1]) o]) none
        ([([0, 0], 1 / 8), ([0, 1], 1 / 8), ([1, 0], 1 / 4), ([1, 1], 1 / 4), ([2, 0], 1 / 4)] :
          Tab (List Nat) Rat)) [1] [0]) o]) none
      (insertRvf (fun o => [labelOf (mssClasses ([([0, 0], 1 / 8), ([0, 1], 1 / 8),
        ([1, 0], 1 / 4), ([1, 1], 1 / 4), ([2, 0], 1 / 4)] : Tab (List Nat) Rat) [0] [1]) o]) none
        ([([0, 0], 1 / 8), ([0, 1], 1 / 8), ([1, 0], 1 / 4), ([1, 1], 1 / 4), ([2, 0], 1 / 4)] :
          Tab (List Nat) Rat))
    = [([0, 0, 0, 0], 1 / 8), ([0, 1, 0, 1], 1 / 8), ([1, 0, 0, 0], 1 / 4),
        ([1, 1, 0, 1], 1 / 4), ([2, 0, 1, 0], 1 / 4)] := by decide +kernel

/-- The one-shot construction of `mss_joint_one_shot` on the same table. -/
example : insertRvf (fun o => [labelOf (mssClasses ([([0, 0], 1 / 8), ([0, 1], 1 / 8),
        ([1, 0], 1 / 4), ([1, 1], 1 / 4), ([2, 0], 1 / 4)] : Tab (List Nat) Rat) [0] [1]) o,
      labelOf (mssClasses ([([0, 0], 1 / 8), ([0, 1], 1 / 8),
        ([1, 0], 1 / 4), ([1, 1], 1 / 4), ([2, 0], 1 / 4)] : Tab (List Nat) Rat) [1] [0]) o]) none
      ([([0, 0], 1 / 8), ([0, 1], 1 / 8), ([1, 0], 1 / 4), ([1, 1], 1 / 4), ([2, 0], 1 / 4)] :
        Tab (List Nat) Rat)
    = [([0, 0, 0, 0], 1 / 8), ([0, 1, 0, 1], 1 / 8), ([1, 0, 0, 0], 1 / 4),
        ([1, 1, 0, 1], 1 / 4), ([2, 0, 1, 0], 1 / 4)] := by decide +kernel

end MssChain

end Dit.Props.C16Chain
