/-
C13 (Blahut–Arimoto part) — the rate–distortion iteration of
`dit.rate_distortion.blahut_arimoto._blahut_arimoto`, modelled in `Core/BA.lean`.

Theorems at `α := ℝ`, `exp2 := fun x => 2 ^ x`, `log2 := Real.logb 2`. A source `p` is
`IsLaw p n`; a test channel `W` is `IsChannel W n m`; a distortion matrix `d` is `IsMat d n m`;
entries are read with `vec`/`ent` (all defined in Lemmas/Channel.lean).

Sections 1–3 hold for any distortion function and stopping predicate; descent (4) and optimality
of fixed points (5) are for a FIXED matrix `d`, where the iteration is an alternating minimisation
of `baLagrangian`. Helper lemmas: Lemmas/BA.lean.
-/
import DitModel.Lemmas.BA

namespace Dit.Props.C13BA
open Dit Dit.Lemmas.Channel Finset

/-! ## 1. One update of the test channel -/

/-- **The channel update returns a channel**: for ANY output law `q` (no positivity needed: the
weights `2^{−β d}` are positive and `q` has a positive entry, so every normaliser is positive) and
any `n × m` matrix `d`, `baNextW` is an `n × m` row-stochastic matrix with entries
`q_y 2^{−β d_xy} / Σ_y' q_y' 2^{−β d_xy'}`. (`β` arbitrary.) -/
theorem baNextW_isChannel (β : ℝ) (q : List ℝ) (d : List (List ℝ)) (n m : ℕ) (hq : IsLaw q m)
    (hd : IsMat d n m) :
    IsChannel (baNextW (fun x => (2 : ℝ) ^ x) β q d) n m
    ∧ ∀ x < n, ∀ y < m, ent (baNextW (fun x => (2 : ℝ) ^ x) β q d) x y
        = vec q y * (2 : ℝ) ^ (-(β * ent d x y))
          / ∑ y' ∈ range m, vec q y' * (2 : ℝ) ^ (-(β * ent d x y')) :=
  ⟨Lemmas.BA.baNextW_isChannel β q d n m hq hd,
    fun x hx y hy => Lemmas.BA.ent_baNextW β q d n m hq.len hd x y hx hy⟩

example : IsLaw [(1 : ℝ) / 2, 1 / 2] 2 ∧ IsMat (hammingDist 2 2 : List (List ℝ)) 2 2 :=
  ⟨half_law, Lemmas.BA.hammingDist_isMat 2 2⟩

/-- `baNextW` returns a channel under the weakest hypothesis: `q` any vector of `m` non-negative
weights such that every row normaliser `Σ_y q_y 2^{−β d_xy}` is positive. -/
theorem baNextW_isChannel_of_pos (β : ℝ) (q : List ℝ) (d : List (List ℝ)) (n m : ℕ)
    (hq : q.length = m) (hqnn : ∀ y < m, 0 ≤ vec q y) (hd : IsMat d n m)
    (hZ : ∀ x < n, 0 < ∑ y ∈ range m, vec q y * (2 : ℝ) ^ (-(β * ent d x y))) :
    IsChannel (baNextW (fun x => (2 : ℝ) ^ x) β q d) n m :=
  Lemmas.BA.baNextW_isChannel_of_pos β q d n m hq hqnn hd hZ

example : ([(3 : ℝ), 0]).length = 2 ∧ (∀ y < 2, 0 ≤ vec [(3 : ℝ), 0] y)
    ∧ ∀ x < 2, 0 < ∑ y ∈ range 2,
        vec [(3 : ℝ), 0] y * (2 : ℝ) ^ (-(1 * ent (hammingDist 2 2) x y)) := by
  refine ⟨rfl, fun y hy => ?_, fun x _ => ?_⟩
  · interval_cases y <;> simp only [vec, List.getD_cons_zero, List.getD_cons_succ] <;> norm_num
  · simp only [sum_range_succ, sum_range_zero, vec, List.getD_cons_zero, List.getD_cons_succ]
    positivity

/-! ## 2. Every iterate is a channel; what the loop returns -/

/-- **One step returns a channel**: from a channel `W`, for a source law `p` and a distortion
function whose value at `W` is an `n × m` matrix. -/
theorem baStep_isChannel (β : ℝ) (p : List ℝ) (distFn : List (List ℝ) → List (List ℝ))
    (W : List (List ℝ)) (n m : ℕ) (hp : IsLaw p n) (hW : IsChannel W n m)
    (hdist : IsMat (distFn W) n m) :
    IsChannel (baStep (fun x => (2 : ℝ) ^ x) β p distFn W).1 n m :=
  Lemmas.BA.baStep_isChannel β p distFn W n m hp hW hdist

example : IsLaw [(1 : ℝ) / 2, 1 / 2] 2 ∧ IsChannel (bsc (1 / 4)) 2 2
    ∧ IsMat ((fun _ => hammingDist 2 2 : List (List ℝ) → List (List ℝ)) (bsc (1 / 4))) 2 2 :=
  ⟨half_law, bsc_quarter, Lemmas.BA.hammingDist_isMat 2 2⟩

/-- **All iterates are channels** (and each carries its own distortion value), for any
distortion function returning `n × m` matrices on channels — Hamming, residual entropy, the
information-bottleneck distortion — starting from ANY channel (strict positivity of the start is
not needed). -/
theorem baIterates_all_channels (β : ℝ) (p : List ℝ) (distFn : List (List ℝ) → List (List ℝ))
    (n m : ℕ) (hp : IsLaw p n) (hdist : ∀ V, IsChannel V n m → IsMat (distFn V) n m) (k : ℕ)
    (W : List (List ℝ)) (hW : IsChannel W n m) :
    (baIterates (fun x => (2 : ℝ) ^ x) β p distFn k W).length = k + 1
    ∧ ∀ e ∈ baIterates (fun x => (2 : ℝ) ^ x) β p distFn k W,
        IsChannel e.1 n m ∧ e.2 = baAvDist p e.1 (distFn e.1) := by
  rw [Lemmas.BA.baIterates_eq_map]
  refine ⟨by rw [List.length_map, List.length_range], ?_⟩
  intro e he
  obtain ⟨j, _, rfl⟩ := List.mem_map.mp he
  exact ⟨Lemmas.BA.baIter_isChannel β p distFn n m hp hdist j W hW, rfl⟩

example : IsLaw [(1 : ℝ) / 2, 1 / 2] 2 ∧ IsChannel (bsc (1 / 4)) 2 2
    ∧ ∀ V, IsChannel V 2 2 →
        IsMat ((fun _ => hammingDist 2 2 : List (List ℝ) → List (List ℝ)) V) 2 2 :=
  ⟨half_law, bsc_quarter,
    fun _ _ => Lemmas.BA.hammingDist_isMat 2 2⟩

/-- **The loop returns a channel**, from any state (`prev`, `dv`, `it` arbitrary), for any `close`
predicate and any amount of fuel. -/
theorem baLoop_isChannel (β : ℝ) (p : List ℝ) (distFn : List (List ℝ) → List (List ℝ))
    (close : ℝ → ℝ → Bool) (n m : ℕ) (hp : IsLaw p n)
    (hdist : ∀ V, IsChannel V n m → IsMat (distFn V) n m) (fuel : ℕ) (W : List (List ℝ))
    (hW : IsChannel W n m) (prev dv : ℝ) (it : ℕ) :
    IsChannel (baLoop (fun x => (2 : ℝ) ^ x) β p distFn close fuel W prev dv it).1 n m := by
  obtain ⟨k, _, h⟩ := Lemmas.BA.baLoop_spec β p distFn close fuel W prev dv it
  rw [h]
  exact Lemmas.BA.baIter_isChannel β p distFn n m hp hdist k W hW

example : IsLaw [(1 : ℝ) / 2, 1 / 2] 2 ∧ IsChannel (bsc (1 / 4)) 2 2
    ∧ ∀ V, IsChannel V 2 2 →
        IsMat ((fun _ => hammingDist 2 2 : List (List ℝ) → List (List ℝ)) V) 2 2 :=
  ⟨half_law, bsc_quarter,
    fun _ _ => Lemmas.BA.hammingDist_isMat 2 2⟩

/-- **`_blahut_arimoto` returns a channel**: `baRun` is `baLoop` from the initial state. -/
theorem baRun_isChannel (β : ℝ) (p : List ℝ) (distFn : List (List ℝ) → List (List ℝ))
    (close : ℝ → ℝ → Bool) (n m : ℕ) (hp : IsLaw p n)
    (hdist : ∀ V, IsChannel V n m → IsMat (distFn V) n m) (maxIters : ℕ) (W0 : List (List ℝ))
    (hW : IsChannel W0 n m) :
    IsChannel (baRun (fun x => (2 : ℝ) ^ x) β p distFn close maxIters W0).1 n m :=
  baLoop_isChannel β p distFn close n m hp hdist maxIters W0 hW _ _ _

example : IsLaw [(1 : ℝ) / 2, 1 / 2] 2 ∧ IsChannel (bsc (1 / 4)) 2 2
    ∧ ∀ V, IsChannel V 2 2 →
        IsMat ((fun _ => hammingDist 2 2 : List (List ℝ) → List (List ℝ)) V) 2 2 :=
  ⟨half_law, bsc_quarter,
    fun _ _ => Lemmas.BA.hammingDist_isMat 2 2⟩

/-- **Iteration count**: the number of iterations returned is at most `max_iters`
(no hypotheses at all). -/
theorem baRun_iters_le (β : ℝ) (p : List ℝ) (distFn : List (List ℝ) → List (List ℝ))
    (close : ℝ → ℝ → Bool) (maxIters : ℕ) (W0 : List (List ℝ)) :
    (baRun (fun x => (2 : ℝ) ^ x) β p distFn close maxIters W0).2.2 ≤ maxIters := by
  obtain ⟨k, hk, he⟩ := Lemmas.BA.baRun_spec β p distFn close maxIters W0
  rw [he]; exact hk

/-- **What is returned** (no hypotheses): with `k` the returned iteration count, the returned
channel is the `k`-th iterate of the step map from `W0`, and the returned distortion value is
`av_dist` of THAT channel under ITS OWN distortion matrix. -/
theorem baRun_is_iterate (β : ℝ) (p : List ℝ) (distFn : List (List ℝ) → List (List ℝ))
    (close : ℝ → ℝ → Bool) (maxIters : ℕ) (W0 : List (List ℝ)) :
    ∀ r, r = baRun (fun x => (2 : ℝ) ^ x) β p distFn close maxIters W0 →
      r.1 = (fun V => (baStep (fun x => (2 : ℝ) ^ x) β p distFn V).1)^[r.2.2] W0
      ∧ r.2.1 = baAvDist p r.1 (distFn r.1) := by
  intro r hr
  obtain ⟨k, _, he⟩ := Lemmas.BA.baRun_spec β p distFn close maxIters W0
  rw [hr, he]
  exact ⟨rfl, rfl⟩

/-! ## 3. The returned joint -/

/-- **"A joint whose input marginal is the source"**: for a source law `p` and a channel `W`, the
joint `baJoint p W` has row sums exactly `p`, non-negative entries, total mass `1`, and column sums
equal to the output law. -/
theorem baJoint_rowSums (p : List ℝ) (W : List (List ℝ)) (n m : ℕ) (hp : IsLaw p n)
    (hW : IsChannel W n m) :
    rowSums (baJoint p W) = p
    ∧ (∀ row ∈ baJoint p W, ∀ a ∈ row, 0 ≤ a)
    ∧ (rowSums (baJoint p W)).sum = 1
    ∧ ∀ y < m, vec (colSums (baJoint p W)) y = vec (outputLaw p W) y := by
  have hM := Lemmas.BA.baJoint_isMat p W n m hp.len hW.isMat
  have he := Lemmas.BA.ent_baJoint p W n m hp.len hW.isMat
  have h := rowSums_eq p W _ n m hp.len hW.isMat (fun row hr => (hW.row row hr).sum_one) hM he
  exact ⟨h, Lemmas.BA.baJoint_nonneg p W n m hp hW, by rw [h]; exact hp.sum_one,
    colSums_getD p W _ n m hp.len hW.isMat hM he⟩

example : IsLaw [(1 : ℝ) / 2, 1 / 2] 2 ∧ IsChannel (bsc (1 / 4)) 2 2 :=
  ⟨half_law, bsc_quarter⟩
example : baJoint [(1 : ℚ) / 2, 1 / 2] [[3 / 4, 1 / 4], [1 / 4, 3 / 4]]
    = [[3 / 8, 1 / 8], [1 / 8, 3 / 8]] := by decide +kernel

/-- **"Reported rate is that joint's mutual information"**: `jointMI` of the returned joint (what
the code computes with `nansum(q log2(q / (q.sum(0) q.sum(1))))`) is `channelMI p W`. -/
theorem baJoint_MI (p : List ℝ) (W : List (List ℝ)) (n m : ℕ) (hp : p.length = n)
    (hW : IsChannel W n m) :
    jointMI (Real.logb 2) (baJoint p W) = channelMI (Real.logb 2) p W :=
  Lemmas.BA.jointMI_joint p W n m hp hW

example : ([(1 : ℝ) / 2, 1 / 2]).length = 2 ∧ IsChannel (bsc (1 / 4)) 2 2 :=
  ⟨rfl, bsc_quarter⟩

/-- **"Reported distortion is that joint's expected distortion"**: `av_dist` is
`Σ_x Σ_y Q_xy d_xy` for the joint `Q = baJoint p W` (shapes only). -/
theorem baJoint_distortion (p : List ℝ) (W d : List (List ℝ)) (n m : ℕ) (hp : p.length = n)
    (hW : IsMat W n m) (hd : IsMat d n m) :
    baAvDist p W d = expDistortion (baJoint p W) d :=
  (Lemmas.BA.expDistortion_joint p W d n m hp hW hd).symm

example : ([(1 : ℝ) / 2, 1 / 2]).length = 2 ∧ IsMat (bsc (1 / 4)) 2 2
    ∧ IsMat (hammingDist 2 2 : List (List ℝ)) 2 2 :=
  ⟨rfl, bsc_quarter.isMat, Lemmas.BA.hammingDist_isMat 2 2⟩
example : baAvDist [(1 : ℚ) / 2, 1 / 2] [[3 / 4, 1 / 4], [1 / 4, 3 / 4]] (hammingDist 2 2)
    = 1 / 4 := by decide +kernel

/-- **The whole return value of `_blahut_arimoto`**: started from a channel, with a distortion
function returning `n × m` matrices, the run `r = (W, d, iters)` satisfies: `W` is a channel; the
joint `baJoint p W` has input marginal `p`; the reported distortion `d` is that joint's expected
distortion under `distFn W`; the rate computed from the joint is `channelMI p W`; and
`iters ≤ maxIters`. -/
theorem baRun_reports (β : ℝ) (p : List ℝ) (distFn : List (List ℝ) → List (List ℝ))
    (close : ℝ → ℝ → Bool) (n m : ℕ) (hp : IsLaw p n)
    (hdist : ∀ V, IsChannel V n m → IsMat (distFn V) n m) (maxIters : ℕ) (W0 : List (List ℝ))
    (hW : IsChannel W0 n m) :
    ∀ r, r = baRun (fun x => (2 : ℝ) ^ x) β p distFn close maxIters W0 →
      IsChannel r.1 n m
      ∧ rowSums (baJoint p r.1) = p
      ∧ r.2.1 = expDistortion (baJoint p r.1) (distFn r.1)
      ∧ jointMI (Real.logb 2) (baJoint p r.1) = channelMI (Real.logb 2) p r.1
      ∧ r.2.2 ≤ maxIters := by
  intro r hr
  have hc : IsChannel r.1 n m := by
    rw [hr]; exact baRun_isChannel β p distFn close n m hp hdist maxIters W0 hW
  refine ⟨hc, (baJoint_rowSums p r.1 n m hp hc).1, ?_, baJoint_MI p r.1 n m hp.len hc, ?_⟩
  · rw [(baRun_is_iterate β p distFn close maxIters W0 r hr).2]
    exact baJoint_distortion p r.1 _ n m hp.len hc.isMat (hdist _ hc)
  · rw [hr]; exact baRun_iters_le β p distFn close maxIters W0

example : IsLaw [(1 : ℝ) / 2, 1 / 2] 2 ∧ IsChannel (bsc (1 / 4)) 2 2
    ∧ ∀ V, IsChannel V 2 2 →
        IsMat ((fun _ => hammingDist 2 2 : List (List ℝ) → List (List ℝ)) V) 2 2 :=
  ⟨half_law, bsc_quarter,
    fun _ _ => Lemmas.BA.hammingDist_isMat 2 2⟩

/-! ## 4. Descent for a fixed distortion matrix -/

/-- **The Lagrangian at the channel's own output law is `R + βD`**:
`L(W, pW) = I(p;W) + β·E[d]` (shapes only; `n ≥ 1` so that the output law has `m` entries). -/
theorem baLagrangian_at_outputLaw (β : ℝ) (p : List ℝ) (W d : List (List ℝ)) (n m : ℕ)
    (hp : p.length = n) (hn : 0 < n) (hW : IsMat W n m) (hd : IsMat d n m) :
    baLagrangian (Real.logb 2) β p W d (outputLaw p W)
      = channelMI (Real.logb 2) p W + β * baAvDist p W d :=
  Lemmas.BA.baLagrangian_outputLaw β p W d n m hp hn hW hd

example : ([(1 : ℝ) / 2, 1 / 2]).length = 2 ∧ 0 < 2 ∧ IsMat (bsc (1 / 4)) 2 2
    ∧ IsMat (hammingDist 2 2 : List (List ℝ)) 2 2 :=
  ⟨rfl, by norm_num, bsc_quarter.isMat,
    Lemmas.BA.hammingDist_isMat 2 2⟩

/-- **Minimisation in `q`** (Gibbs): for a channel `W`, its own output law is the best
second argument: `L(W, pW) ≤ L(W, q)` for every law `q` that dominates the rows of positive
source probability (`q_y = 0 → W_xy = 0`; automatic for positive `q`; needed because `klRow`-style
sums only represent finite divergences). -/
theorem lagrangian_outputLaw_le (β : ℝ) (p q : List ℝ) (W d : List (List ℝ)) (n m : ℕ)
    (hp : IsLaw p n) (hW : IsChannel W n m) (hd : IsMat d n m) (hq : IsLaw q m)
    (hdom : ∀ x < n, vec p x ≠ 0 → ∀ y < m, vec q y = 0 → ent W x y = 0) :
    baLagrangian (Real.logb 2) β p W d (outputLaw p W)
      ≤ baLagrangian (Real.logb 2) β p W d q := by
  rw [Lemmas.BA.baLagrangian_outputLaw β p W d n m hp.len hp.pos_len hW.isMat hd]
  exact Lemmas.BA.baF_le_lagrangian β p q W d n m hp hW hd hq hdom

example : IsLaw [(1 : ℝ) / 2, 1 / 2] 2 ∧ IsChannel (bsc (1 / 4)) 2 2
    ∧ IsMat (hammingDist 2 2 : List (List ℝ)) 2 2 ∧ IsLaw [(3 : ℝ) / 4, 1 / 4] 2
    ∧ ∀ x < 2, vec [(1 : ℝ) / 2, 1 / 2] x ≠ 0 → ∀ y < 2, vec [(3 : ℝ) / 4, 1 / 4] y = 0 →
        ent (bsc (1 / 4)) x y = 0 := by
  refine ⟨half_law, bsc_quarter, Lemmas.BA.hammingDist_isMat 2 2,
    Lemmas.BA.ex_law34, ?_⟩
  intro x _ _ y hy h0
  interval_cases y <;> simp only [vec, List.getD_cons_zero, List.getD_cons_succ] at h0 <;>
    norm_num at h0

/-- **Minimisation in `W`** (log-sum / Gibbs): for a law `q`, the updated channel
`W' = baNextW q d` has the closed-form value `L(W', q) = −Σ_x p_x log₂ Σ_y q_y 2^{−β d_xy}`, and
`L(W', q) ≤ L(W, q)` for every channel `W` whose rows of positive source probability are
dominated by `q`. -/
theorem lagrangian_nextW_le (β : ℝ) (p q : List ℝ) (d : List (List ℝ)) (n m : ℕ)
    (hp : IsLaw p n) (hd : IsMat d n m) (hq : IsLaw q m) :
    baLagrangian (Real.logb 2) β p (baNextW (fun x => (2 : ℝ) ^ x) β q d) d q
        = -∑ x ∈ range n, vec p x *
            Real.logb 2 (∑ y ∈ range m, vec q y * (2 : ℝ) ^ (-(β * ent d x y)))
    ∧ ∀ W, IsChannel W n m →
        (∀ x < n, vec p x ≠ 0 → ∀ y < m, vec q y = 0 → ent W x y = 0) →
        baLagrangian (Real.logb 2) β p (baNextW (fun x => (2 : ℝ) ^ x) β q d) d q
          ≤ baLagrangian (Real.logb 2) β p W d q :=
  ⟨Lemmas.BA.lagrangian_nextW β p q d n m hp.len hq hd, fun W hW hdom => by
    rw [Lemmas.BA.lagrangian_nextW β p q d n m hp.len hq hd]
    exact Lemmas.BA.lagrangian_ge β p q W d n m hp hW hd hq hdom⟩

example : IsLaw [(1 : ℝ) / 2, 1 / 2] 2 ∧ IsMat (hammingDist 2 2 : List (List ℝ)) 2 2
    ∧ IsLaw [(3 : ℝ) / 4, 1 / 4] 2 :=
  ⟨half_law, Lemmas.BA.hammingDist_isMat 2 2, Lemmas.BA.ex_law34⟩

/-- **One step never increases `R + βD`**: for a fixed `n × m` matrix `d`, any source law `p`,
ANY channel `W` (no positivity of `W` or of its output marginal is needed) and any real `β`,
`I(p;W') + β·E_{W'}[d] ≤ I(p;W) + β·E_W[d]` with `W'` the next channel. -/
theorem baStep_descent (β : ℝ) (p : List ℝ) (W d : List (List ℝ)) (n m : ℕ) (hp : IsLaw p n)
    (hW : IsChannel W n m) (hd : IsMat d n m) :
    channelMI (Real.logb 2) p (baStep (fun x => (2 : ℝ) ^ x) β p (fun _ => d) W).1
        + β * baAvDist p (baStep (fun x => (2 : ℝ) ^ x) β p (fun _ => d) W).1 d
      ≤ channelMI (Real.logb 2) p W + β * baAvDist p W d :=
  Lemmas.BA.baStep_descent β p W d n m hp hW hd

example : IsLaw [(1 : ℝ) / 2, 1 / 2] 2 ∧ IsChannel (bsc (1 / 4)) 2 2
    ∧ IsMat (hammingDist 2 2 : List (List ℝ)) 2 2 :=
  ⟨half_law, bsc_quarter, Lemmas.BA.hammingDist_isMat 2 2⟩

/-- **`R + βD` is non-increasing along the whole trajectory**: in `baIterates` (fixed matrix) every
later iterate has an objective value no larger than every earlier one. -/
theorem baIterates_antitone (β : ℝ) (p : List ℝ) (d : List (List ℝ)) (n m : ℕ) (hp : IsLaw p n)
    (hd : IsMat d n m) (k : ℕ) (W : List (List ℝ)) (hW : IsChannel W n m) :
    List.Pairwise (fun a b : List (List ℝ) × ℝ =>
        channelMI (Real.logb 2) p b.1 + β * baAvDist p b.1 d
          ≤ channelMI (Real.logb 2) p a.1 + β * baAvDist p a.1 d)
      (baIterates (fun x => (2 : ℝ) ^ x) β p (fun _ => d) k W) := by
  rw [Lemmas.BA.baIterates_eq_map, List.pairwise_map]
  exact List.pairwise_lt_range.imp fun h => Lemmas.BA.baIter_antitone β p d n m hp hd W hW _ _ h.le

example : IsLaw [(1 : ℝ) / 2, 1 / 2] 2 ∧ IsChannel (bsc (1 / 4)) 2 2
    ∧ IsMat (hammingDist 2 2 : List (List ℝ)) 2 2 :=
  ⟨half_law, bsc_quarter, Lemmas.BA.hammingDist_isMat 2 2⟩

/-- **The run does not end above where it started**: for a fixed matrix, whatever the stopping
predicate and `maxIters`, the returned channel has `R + βD` at most that of the initial channel. -/
theorem baRun_descent (β : ℝ) (p : List ℝ) (d : List (List ℝ)) (close : ℝ → ℝ → Bool) (n m : ℕ)
    (hp : IsLaw p n) (hd : IsMat d n m) (maxIters : ℕ) (W0 : List (List ℝ))
    (hW : IsChannel W0 n m) :
    ∀ r, r = baRun (fun x => (2 : ℝ) ^ x) β p (fun _ => d) close maxIters W0 →
      channelMI (Real.logb 2) p r.1 + β * baAvDist p r.1 d
        ≤ channelMI (Real.logb 2) p W0 + β * baAvDist p W0 d := by
  intro r hr
  obtain ⟨k, _, he⟩ := Lemmas.BA.baRun_spec β p (fun _ => d) close maxIters W0
  rw [hr, he]
  exact Lemmas.BA.baIter_antitone β p d n m hp hd W0 hW 0 k (Nat.zero_le k)

example : IsLaw [(1 : ℝ) / 2, 1 / 2] 2 ∧ IsChannel (bsc (1 / 4)) 2 2
    ∧ IsMat (hammingDist 2 2 : List (List ℝ)) 2 2 :=
  ⟨half_law, bsc_quarter, Lemmas.BA.hammingDist_isMat 2 2⟩

/-! ## 5. Fixed points are optimal -/

/-- **KKT form**: let `W` be a fixed point of the step for the fixed matrix `d`, with output law
`q = pW` and normalisers `Z_x = Σ_y q_y 2^{−β d_xy}`. If on every output letter of zero
probability the column constraint `c_y = Σ_x p_x 2^{−β d_xy} / Z_x ≤ 1` holds (on the letters
of positive probability the fixed-point equation forces `c_y = 1`), then `R + βD` at `W` is no
larger than at ANY test channel `V`. The hypothesis is needed: a fixed point that ignores an output
letter can be a non-optimal stationary point. -/
theorem ba_kkt_optimal (β : ℝ) (p : List ℝ) (W d : List (List ℝ)) (n m : ℕ) (hp : IsLaw p n)
    (hW : IsChannel W n m) (hd : IsMat d n m)
    (hfix : (baStep (fun x => (2 : ℝ) ^ x) β p (fun _ => d) W).1 = W)
    (hkkt : ∀ y < m, vec (outputLaw p W) y = 0 → ∑ x ∈ range n, vec p x
      * (1 / ∑ y' ∈ range m, vec (outputLaw p W) y' * (2 : ℝ) ^ (-(β * ent d x y')))
      * (2 : ℝ) ^ (-(β * ent d x y)) ≤ 1)
    (V : List (List ℝ)) (hV : IsChannel V n m) :
    channelMI (Real.logb 2) p W + β * baAvDist p W d
      ≤ channelMI (Real.logb 2) p V + β * baAvDist p V d := by
  refine (Lemmas.BA.baF_fixed β p W d n m hp hW hd hfix).trans_le ?_
  apply Lemmas.BA.baF_ge_of_constraints β p (outputLaw p W) V d n m hp hV hd
    (outputLaw_isLaw p W n m hp hW)
  intro y hy
  by_cases h0 : vec (outputLaw p W) y = 0
  · exact hkkt y hy h0
  · exact le_of_eq (Lemmas.BA.fixed_constraint β p W d n m hp hW hd hfix y hy h0)

example : IsLaw [(3 : ℝ) / 4, 1 / 4] 2 ∧ IsChannel [[(1 : ℝ), 0], [1, 0]] 2 2
    ∧ IsMat (hammingDist 2 2 : List (List ℝ)) 2 2
    ∧ (baStep (fun x => (2 : ℝ) ^ x) 1 [3 / 4, 1 / 4] (fun _ => hammingDist 2 2)
        [[1, 0], [1, 0]]).1 = [[1, 0], [1, 0]]
    ∧ ∀ y < 2, vec (outputLaw [(3 : ℝ) / 4, 1 / 4] [[1, 0], [1, 0]]) y = 0 →
        ∑ x ∈ range 2, vec [(3 : ℝ) / 4, 1 / 4] x
          * (1 / ∑ y' ∈ range 2, vec (outputLaw [(3 : ℝ) / 4, 1 / 4] [[1, 0], [1, 0]]) y'
              * (2 : ℝ) ^ (-(1 * ent (hammingDist 2 2) x y')))
          * (2 : ℝ) ^ (-(1 * ent (hammingDist 2 2) x y)) ≤ 1 :=
  ⟨Lemmas.BA.ex_law34, Lemmas.BA.ex_collapse, Lemmas.BA.hammingDist_isMat 2 2,
    Lemmas.BA.ex_kkt_fix, Lemmas.BA.ex_kkt_c⟩

/-- **"R + βD is no larger than for any other test channel"**: a fixed point of the step (fixed
matrix `d`) whose output marginal is strictly positive minimises `I(p;V) + β·E_V[d]` over ALL
`n × m` test channels `V`. Positivity of the output marginal is what makes every column
constraint tight (`c_y = 1`); without it see `ba_kkt_optimal`. Its value is
`−Σ_x p_x log₂ Σ_y q_y 2^{−β d_xy}`. -/
theorem ba_fixed_point_optimal (β : ℝ) (p : List ℝ) (W d : List (List ℝ)) (n m : ℕ)
    (hp : IsLaw p n) (hW : IsChannel W n m) (hd : IsMat d n m)
    (hfix : (baStep (fun x => (2 : ℝ) ^ x) β p (fun _ => d) W).1 = W)
    (hpos : ∀ y < m, 0 < vec (outputLaw p W) y) :
    (channelMI (Real.logb 2) p W + β * baAvDist p W d
      = -∑ x ∈ range n, vec p x *
          Real.logb 2 (∑ y ∈ range m, vec (outputLaw p W) y * (2 : ℝ) ^ (-(β * ent d x y))))
    ∧ ∀ V, IsChannel V n m →
        channelMI (Real.logb 2) p W + β * baAvDist p W d
          ≤ channelMI (Real.logb 2) p V + β * baAvDist p V d :=
  ⟨Lemmas.BA.baF_fixed β p W d n m hp hW hd hfix,
    fun V hV => ba_kkt_optimal β p W d n m hp hW hd hfix
      (fun y hy h0 => absurd h0 (hpos y hy).ne') V hV⟩

example : IsLaw [(1 : ℝ) / 2, 1 / 2] 2 ∧ IsChannel (bsc (1 / 3)) 2 2
    ∧ IsMat (hammingDist 2 2 : List (List ℝ)) 2 2
    ∧ (baStep (fun x => (2 : ℝ) ^ x) 1 [1 / 2, 1 / 2] (fun _ => hammingDist 2 2)
        (bsc (1 / 3))).1 = bsc (1 / 3)
    ∧ ∀ y < 2, 0 < vec (outputLaw [(1 : ℝ) / 2, 1 / 2] (bsc (1 / 3))) y :=
  ⟨half_law, bsc_isChannel _ (by norm_num) (by norm_num), Lemmas.BA.hammingDist_isMat 2 2,
    Lemmas.BA.ex_fix, Lemmas.BA.ex_fix_pos⟩

/-! ## 6. The distortion functions -/

/-- **Hamming distortion**: `hammingDist n m` is the `n × m` matrix `1 − eye(n, m)`. -/
theorem hammingDist_spec (n m : ℕ) :
    IsMat (hammingDist n m : List (List ℝ)) n m
    ∧ ∀ x < n, ∀ y < m, ent (hammingDist n m : List (List ℝ)) x y = if x = y then 0 else 1 :=
  ⟨Lemmas.BA.hammingDist_isMat n m, fun x hx y hy => Lemmas.BA.ent_hammingDist n m x y hx hy⟩

example : (hammingDist 2 3 : List (List ℚ)) = [[0, 1, 1], [1, 0, 1]] := by decide +kernel

/-- **`next_q_y_t`**: for a non-negative `n × k` joint matrix `p(x,y)` (`n ≥ 1`) and an `n × m`
channel `W(t|x)`, `ibQyt pxy W` is `m × k`; with `Q(t,y) = Σ_x p(x,y) W(t|x)` and
`q(t) = Σ_y Q(t,y)`: the row of a bottleneck value with `q(t) ≠ 0` is the probability vector
`Q(t,·)/q(t)`; the all-ones row appears exactly on the values with `q(t) = 0` (and is NOT a
probability vector unless `k = 1`). -/
theorem ibQyt_isChannel (pxy W : List (List ℝ)) (n m k : ℕ) (hn : 0 < n) (hP : IsMat pxy n k)
    (hPnn : ∀ x < n, ∀ y < k, 0 ≤ ent pxy x y) (hW : IsChannel W n m) :
    IsMat (ibQyt pxy W) m k
    ∧ ∀ t < m,
      ((∑ y ∈ range k, ∑ x ∈ range n, ent pxy x y * ent W x t) ≠ 0 →
        IsLaw ((ibQyt pxy W).getD t []) k
        ∧ ∀ y < k, ent (ibQyt pxy W) t y = (∑ x ∈ range n, ent pxy x y * ent W x t)
            / ∑ y' ∈ range k, ∑ x ∈ range n, ent pxy x y' * ent W x t)
      ∧ ((∑ y ∈ range k, ∑ x ∈ range n, ent pxy x y * ent W x t) = 0 →
        ∀ y < k, ent (ibQyt pxy W) t y = 1) := by
  refine ⟨Lemmas.BA.ibQyt_isMat pxy W n m k hn hP hW.isMat, ?_⟩
  intro t ht
  refine ⟨fun hne => ⟨Lemmas.BA.ibQyt_row_isLaw pxy W n m k hn hP hPnn hW t ht hne, ?_⟩, ?_⟩
  · intro y hy
    rw [Lemmas.BA.ent_ibQyt pxy W n m k hn hP hW.isMat t y ht hy]
    exact if_neg hne
  · intro h0 y hy
    rw [Lemmas.BA.ent_ibQyt pxy W n m k hn hP hW.isMat t y ht hy]
    exact if_pos h0

example : 0 < 2 ∧ IsMat [[(1 : ℝ) / 4, 1 / 4], [0, 1 / 2]] 2 2
    ∧ (∀ x < 2, ∀ y < 2, 0 ≤ ent [[(1 : ℝ) / 4, 1 / 4], [0, 1 / 2]] x y)
    ∧ IsChannel (bsc (1 / 4)) 2 2 :=
  ⟨by norm_num, Lemmas.BA.ex_pxy.1, Lemmas.BA.ex_pxy.2, bsc_quarter⟩
example : ibQyt [[(1 : ℚ) / 4, 1 / 4], [0, 1 / 2]] [[1, 0], [1, 0]]
    = [[1 / 4, 3 / 4], [1, 1]] := by decide +kernel

/-- **The IB distortion is a divergence** (Gibbs): `ibDist` is `n × m`, its entry `(x,t)` is
`Σ_y p(y|x) log₂ (p(y|x)/q(y|t))`, and it is non-negative whenever `p(x) > 0`, `q(t) > 0` and
`q(·|t)` dominates `p(·|x)` — in particular wherever `W(t|x) > 0`. (On a bottleneck value of
probability zero the all-ones row gives `−H(Y|x) ≤ 0` instead; such `t` carry no weight.) -/
theorem ibDist_nonneg (pxy W : List (List ℝ)) (n m k : ℕ) (hn : 0 < n) (hP : IsMat pxy n k)
    (hPnn : ∀ x < n, ∀ y < k, 0 ≤ ent pxy x y) (hW : IsChannel W n m) :
    IsMat (ibDist (Real.logb 2) pxy W) n m
    ∧ (∀ x < n, ∀ t < m, (∑ y ∈ range k, ent pxy x y) ≠ 0 →
        (∑ y ∈ range k, ∑ x' ∈ range n, ent pxy x' y * ent W x' t) ≠ 0 →
        (∀ y < k, ent (ibQyt pxy W) t y = 0 → ent pxy x y = 0) →
        0 ≤ ent (ibDist (Real.logb 2) pxy W) x t)
    ∧ ∀ x < n, ∀ t < m, (∑ y ∈ range k, ent pxy x y) ≠ 0 → ent W x t ≠ 0 →
        0 ≤ ent (ibDist (Real.logb 2) pxy W) x t := by
  refine ⟨Lemmas.BA.ibDist_isMat pxy W n m k hn hP hW.isMat, ?_, ?_⟩
  · intro x hx t ht hpx hqt hdom
    exact Lemmas.BA.ibDist_nonneg pxy W n m k hn hP hPnn hW x t hx ht hpx hqt hdom
  · intro x hx t ht hpx hw
    obtain ⟨hqt, hdom⟩ := Lemmas.BA.ibQyt_dom pxy W n m k hn hP hPnn hW x t hx ht hpx hw
    exact Lemmas.BA.ibDist_nonneg pxy W n m k hn hP hPnn hW x t hx ht hpx hqt hdom

example : 0 < 2 ∧ IsMat [[(1 : ℝ) / 4, 1 / 4], [0, 1 / 2]] 2 2
    ∧ (∀ x < 2, ∀ y < 2, 0 ≤ ent [[(1 : ℝ) / 4, 1 / 4], [0, 1 / 2]] x y)
    ∧ IsChannel (bsc (1 / 4)) 2 2
    ∧ (∑ y ∈ range 2, ent [[(1 : ℝ) / 4, 1 / 4], [0, 1 / 2]] 0 y) ≠ 0
    ∧ ent (bsc (1 / 4)) 0 1 ≠ 0 := by
  refine ⟨by norm_num, Lemmas.BA.ex_pxy.1, Lemmas.BA.ex_pxy.2,
    bsc_quarter, ?_, ?_⟩
  · simp only [sum_range_succ, sum_range_zero, ent, vec, List.getD_cons_zero, List.getD_cons_succ]
    norm_num
  · simp only [bsc, ent, vec, List.getD_cons_zero, List.getD_cons_succ]
    norm_num

/-- **Expected IB distortion is `I(X;Y) − I(T;Y)`**: for a non-negative joint matrix `p(x,y)`
(`n × k`, `n ≥ 1`; rows of zero mass are allowed), source `p(x) = rowSums pxy`, a channel `W(t|x)`
and the `(T,Y)` joint `Q(t,y) = Σ_x p(x,y) W(t|x)` of `q(x,y,t) = p(x,y) W(t|x)`,
`av_dist` of the information-bottleneck distortion equals `jointMI pxy − jointMI Q`. -/
theorem ib_expected_distortion (pxy W Q : List (List ℝ)) (n m k : ℕ) (hn : 0 < n)
    (hP : IsMat pxy n k) (hPnn : ∀ x < n, ∀ y < k, 0 ≤ ent pxy x y) (hW : IsChannel W n m)
    (hQ : IsMat Q m k)
    (hQe : ∀ t < m, ∀ y < k, ent Q t y = ∑ x ∈ range n, ent pxy x y * ent W x t) :
    baAvDist (rowSums pxy) W (ibDist (Real.logb 2) pxy W)
      = jointMI (Real.logb 2) pxy - jointMI (Real.logb 2) Q := by
  have hqt : ∀ t < m, vec (rowSums Q) t = Lemmas.BA.ibQt pxy W n k t := fun t ht => by
    rw [vec_rowSums Q m k hQ t ht]
    exact sum_congr rfl fun y hy => hQe t ht y (mem_range.mp hy)
  rw [Lemmas.BA.baAvDist_eq _ W _ n m (by simp [rowSums, hP.len]) hW.isMat
    (Lemmas.BA.ibDist_isMat pxy W n m k hn hP hW.isMat), jointMI_eq pxy n k hP, jointMI_eq Q m k hQ]
  refine (sum_congr rfl fun x hx => ?_).trans (Lemmas.BA.ib_core (range n) (range m) (range k)
    (ent pxy) (ent W) (ent (ibQyt pxy W)) (ent Q) (vec (rowSums pxy)) (vec (colSums pxy))
    (vec (colSums Q)) (vec (rowSums Q))
    (fun x hx y hy => hPnn x (mem_range.mp hx) y (mem_range.mp hy))
    (fun x _ t _ => hW.ent_nonneg x t) (fun x hx => hW.sum_ent (mem_range.mp hx))
    (fun x hx => vec_rowSums pxy n k hP x (mem_range.mp hx))
    (fun y hy => vec_colSums pxy n k hP y (mem_range.mp hy))
    (fun t ht y hy => hQe t (mem_range.mp ht) y (mem_range.mp hy))
    (fun t ht => vec_rowSums Q m k hQ t (mem_range.mp ht))
    (fun y hy => vec_colSums Q m k hQ y (mem_range.mp hy))
    (fun t ht y hy hne => ?_))
  · congr 1
    exact sum_congr rfl fun t ht => by
      rw [Lemmas.BA.ent_ibDist pxy W n m k hn hP hW.isMat x t (mem_range.mp hx) (mem_range.mp ht)]
  · rw [hqt t (mem_range.mp ht)] at hne ⊢
    rw [Lemmas.BA.ent_ibQyt pxy W n m k hn hP hW.isMat t y (mem_range.mp ht) (mem_range.mp hy),
      if_neg hne, hQe t (mem_range.mp ht) y (mem_range.mp hy)]
    rfl

example : 0 < 2 ∧ IsMat [[(1 : ℝ) / 4, 1 / 4], [0, 1 / 2]] 2 2
    ∧ (∀ x < 2, ∀ y < 2, 0 ≤ ent [[(1 : ℝ) / 4, 1 / 4], [0, 1 / 2]] x y)
    ∧ IsChannel (bsc (1 / 4)) 2 2
    ∧ IsMat (Lemmas.BA.ibJointTY [[(1 : ℝ) / 4, 1 / 4], [0, 1 / 2]] (bsc (1 / 4)) 2 2 2) 2 2
    ∧ ∀ t < 2, ∀ y < 2,
        ent (Lemmas.BA.ibJointTY [[(1 : ℝ) / 4, 1 / 4], [0, 1 / 2]] (bsc (1 / 4)) 2 2 2) t y
          = ∑ x ∈ range 2, ent [[(1 : ℝ) / 4, 1 / 4], [0, 1 / 2]] x y * ent (bsc (1 / 4)) x t :=
  ⟨by norm_num, Lemmas.BA.ex_pxy.1, Lemmas.BA.ex_pxy.2,
    bsc_quarter, Lemmas.BA.ibJointTY_isMat _ _ 2 2 2,
    fun t ht y hy => Lemmas.BA.ent_ibJointTY _ _ 2 2 2 t y ht hy⟩

end Dit.Props.C13BA
