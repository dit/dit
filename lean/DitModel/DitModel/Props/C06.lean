/-
C06 — Cross entropy, Kullback–Leibler divergence, Jensen–Shannon divergence with arbitrary
weights, variational distance, Hellinger distance, Bhattacharyya coefficient, the
Rényi/Tsallis/Hellinger/alpha-divergences, earth mover's distance, maximum correlation equal
their textbook definitions on linear distributions, matching outcomes by label rather than by
storage position. Hence D(p‖p)=0, KL is non-negative and infinite exactly when the first support
is not inside the second, symmetric ones are symmetric, JSD is at most the entropy of the
weights, Pinsker's inequality holds and maximum correlation lies in [0,1] and vanishes for
independent variables.

All theorems are about the definitions of `Core/Diverge.lean` at `α := ℝ`, `log := Real.logb 2`,
`sqrt := Real.sqrt`, `R := realOps`, on lists `pq : List (ℝ × ℝ)` of label-aligned pairs
(`alignPair` / `alignUnion` produce them from tables). `none` is `+∞`.
Companions: Props/C06Chernoff.lean (Chernoff information, lautum information), Props/C06FDiv.lean
(the generic f-divergence), Props/C06MaxCorr.lean (trace of the companion matrix and independence;
its header says what about the maximum correlation is trusted linear algebra).
-/
import DitModel.Lemmas.Diverge

namespace Dit.Props.C06
open Dit Dit.Lemmas.Table Dit.Lemmas.InfoReal Dit.Lemmas.Diverge

/-! ## Definitions and the support condition -/

/-- **KL definition.** When the first support is inside the second, the Kullback–Leibler
divergence is `Σ p log₂(p/q)`; the guard for `p = 0` is harmless (`0 · log 0 = 0`). -/
theorem kl_eq_def (pq : List (ℝ × ℝ)) (h : absCont pq = true) :
    klVals (Real.logb 2) pq = some (pq.map (fun r => r.1 * Real.logb 2 (r.1 / r.2))).sum :=
  klVals_of_absCont h

/-- **Cross-entropy definition.** When finite, the cross entropy is `−Σ p log₂ q`. -/
theorem xent_eq_def (pq : List (ℝ × ℝ)) (h : absCont pq = true) :
    crossEntropyVals (Real.logb 2) pq = some (-(pq.map (fun r => r.1 * Real.logb 2 r.2)).sum) := by
  rw [xentVals_eq, if_pos h]; rfl

/-- **Support condition.** `absCont` says: wherever `q = 0`, also `p = 0`. -/
theorem absCont_iff_support (pq : List (ℝ × ℝ)) :
    absCont pq = true ↔ ∀ r ∈ pq, r.2 = 0 → r.1 = 0 :=
  absCont_iff pq

/-- **KL is infinite exactly when the first support is not inside the second.** -/
theorem kl_top_iff_support (pq : List (ℝ × ℝ)) :
    klVals (Real.logb 2) pq = none ↔ ∃ r ∈ pq, r.1 ≠ 0 ∧ r.2 = 0 := by
  rw [klVals_eq_none_iff, absCont_false_iff]

/-- **Cross entropy is infinite exactly when the first support is not inside the second.** -/
theorem xent_top_iff_support (pq : List (ℝ × ℝ)) :
    crossEntropyVals (Real.logb 2) pq = none ↔ ∃ r ∈ pq, r.1 ≠ 0 ∧ r.2 = 0 := by
  rw [xentVals_eq_none_iff, absCont_false_iff]

/-- **Cross entropy = KL + entropy** whenever KL is finite (no sign or normalisation hypothesis
is needed: the identity holds term by term on the common support). -/
theorem xent_eq_kl_add_entropy (pq : List (ℝ × ℝ)) (d : ℝ)
    (h : klVals (Real.logb 2) pq = some d) :
    crossEntropyVals (Real.logb 2) pq
      = some (d + entropyVals (Real.logb 2) (pq.map Prod.fst)) := by
  obtain ⟨hac, rfl⟩ := klVals_eq_some h
  rw [xentVals_eq, if_pos hac, xentSum_eq pq hac]

example : absCont [((1 : ℚ) / 2, (1 : ℚ) / 3), (1 / 2, 2 / 3), (0, 0)] = true := by decide +kernel
example : absCont [((1 : ℚ) / 2, (0 : ℚ)), (1 / 2, 1)] = false := by decide +kernel

/-! ## Non-negativity, `D(p‖p) = 0`, equality case -/

/-- **Gibbs.** KL is non-negative for non-negative vectors with `Σq ≤ Σp` (in particular for a
probability vector `p` and a sub-probability vector `q`). The sum hypothesis is needed: for
`p = (1/2)`, `q = (1)` the value is `−1/2`. -/
theorem kl_nonneg (pq : List (ℝ × ℝ)) (d : ℝ) (hnn : ∀ r ∈ pq, 0 ≤ r.1 ∧ 0 ≤ r.2)
    (hs : (pq.map Prod.snd).sum ≤ (pq.map Prod.fst).sum)
    (h : klVals (Real.logb 2) pq = some d) : 0 ≤ d := by
  obtain ⟨hac, rfl⟩ := klVals_eq_some h
  exact klSum_nonneg pq hnn hac hs

/-- **`D(p‖p) = 0`** (for any real vector). -/
theorem kl_self (ps : List ℝ) :
    klVals (Real.logb 2) (ps.map (fun p => (p, p))) = some 0 := by
  rw [klVals_of_absCont (absCont_self ps), klSum_self]

/-- **Equality case.** For non-negative vectors of equal total mass with finite KL, the
divergence vanishes exactly when the two vectors agree at every label. -/
theorem kl_eq_zero_iff (pq : List (ℝ × ℝ)) (d : ℝ) (hnn : ∀ r ∈ pq, 0 ≤ r.1 ∧ 0 ≤ r.2)
    (hs : (pq.map Prod.fst).sum = (pq.map Prod.snd).sum)
    (h : klVals (Real.logb 2) pq = some d) : d = 0 ↔ ∀ r ∈ pq, r.1 = r.2 := by
  obtain ⟨hac, rfl⟩ := klVals_eq_some h
  exact klSum_eq_zero_iff pq hnn hac hs

/-- Non-vacuity of `hnn`, `hs` of `kl_eq_zero_iff`; the same pairs have a finite KL (below). -/
example : (∀ r ∈ [((1 : ℝ) / 2, (1 : ℝ) / 4), (1 / 2, 3 / 4)], 0 ≤ r.1 ∧ 0 ≤ r.2) ∧
    (([((1 : ℝ) / 2, (1 : ℝ) / 4), (1 / 2, 3 / 4)].map Prod.fst).sum
      = ([((1 : ℝ) / 2, (1 : ℝ) / 4), (1 / 2, 3 / 4)].map Prod.snd).sum) := by
  constructor
  · intro r hr
    rcases List.mem_pair.1 hr with rfl | rfl <;> norm_num
  · norm_num

/-- Non-vacuity: an infinite KL divergence (first support not inside the second). -/
example : klVals (Real.logb 2) [((1 : ℝ) / 2, (0 : ℝ)), (1 / 2, 1)] = none :=
  (kl_top_iff_support _).mpr ⟨(1 / 2, 0), List.mem_cons_self, by norm_num, rfl⟩

/-- Non-vacuity: a finite KL divergence, to which `kl_nonneg`, `kl_eq_zero_iff`, `pinsker`
apply. -/
example : ∃ d, klVals (Real.logb 2) [((1 : ℝ) / 2, (1 : ℝ) / 4), (1 / 2, 3 / 4)] = some d :=
  ⟨_, kl_eq_def _ ((absCont_iff_support _).mpr fun r hr h => by
    rcases List.mem_pair.1 hr with rfl | rfl <;> norm_num at h)⟩

/-! ## Label alignment and invariance under the stored order -/

section Align
variable {κ : Type} [DecidableEq κ]

/-- **Order of the second table is irrelevant.** With duplicate-free keys, permuting the stored
order of `t2` does not change the aligned pair list at all. -/
theorem alignPair_right_irrelevant_order (t1 : Tab κ ℝ) {t2 t2' : Tab κ ℝ} (h : t2.Perm t2')
    (hnd : (keys t2).Nodup) : alignPair t1 t2 = alignPair t1 t2' :=
  alignPair_right_perm t1 h hnd

/-- **Order of the first table.** Permuting `t1` permutes the pair list. -/
theorem alignPair_perm_left {t1 t1' : Tab κ ℝ} (t2 : Tab κ ℝ) (h : t1.Perm t1') :
    (alignPair t1 t2).Perm (alignPair t1' t2) :=
  alignPair_left_perm t2 h

/-- **Outcomes only `t2` has are invisible** to the alignment along `t1`. -/
theorem align_extra_right (t1 t2 : Tab κ ℝ) (k : κ) (v : ℝ) (hk : k ∉ keys t1) :
    alignPair t1 ((k, v) :: t2) = alignPair t1 t2 :=
  List.map_congr_left fun r hr => by
    have : k ≠ r.1 := fun e => hk (e ▸ mem_keys_of_mem hr)
    rw [lookupD_cons_ne (k, v) t2 r.1 this]

/-- **A stored zero of `t1`** adds the pair `(0, q)`, `q` the value of `t2` at that label. -/
theorem align_extra_left_zero (t1 t2 : Tab κ ℝ) (k : κ) :
    alignPair (t1 ++ [(k, 0)]) t2 = alignPair t1 t2 ++ [(0, lookupD 0 t2 k)] := by
  unfold alignPair
  rw [List.map_append, List.map_singleton]

/-- **Union alignment = alignment along `t1` plus the `(0, q)` pairs** of the labels only `t2`
has (duplicate-free keys in `t1`). -/
theorem alignUnion_eq_alignPair_append (t1 t2 : Tab κ ℝ) (hnd : (keys t1).Nodup) :
    alignUnion t1 t2 = alignPair t1 t2
      ++ ((dedup (keys t2)).filter (fun x => decide (x ∉ keys t1))).map
          (fun k => (0, lookupD 0 t2 k)) :=
  alignUnion_eq t1 t2 hnd

/-- **The union alignment is symmetric**: exchanging the tables exchanges the components of
every pair, up to the order of the pairs. -/
theorem alignUnion_swap (t1 t2 : Tab κ ℝ) :
    (alignUnion t2 t1).Perm ((alignUnion t1 t2).map Prod.swap) := by
  unfold alignUnion
  rw [List.map_map]
  exact (dedup_perm_of_mem_iff fun a => by
    rw [List.mem_append, List.mem_append, or_comm]).map _

end Align

/-- **Sums over the pair list do not depend on its order**: KL (including the value `+∞`). -/
theorem klVals_perm (log : ℝ → ℝ) {pq pq' : List (ℝ × ℝ)} (h : pq.Perm pq') :
    klVals log pq = klVals log pq' :=
  Lemmas.Diverge.klVals_perm log h

/-- Cross entropy does not depend on the order of the pairs. -/
theorem xentVals_perm (log : ℝ → ℝ) {pq pq' : List (ℝ × ℝ)} (h : pq.Perm pq') :
    crossEntropyVals log pq = crossEntropyVals log pq' :=
  Lemmas.Diverge.xentVals_perm log h

/-- The variational distance does not depend on the order of the pairs. -/
theorem tvVals_perm (two : ℝ) {pq pq' : List (ℝ × ℝ)} (h : pq.Perm pq') :
    tvVals two pq = tvVals two pq' :=
  Lemmas.Diverge.tvVals_perm two h

/-- The Bhattacharyya coefficient does not depend on the order of the pairs. -/
theorem bcVals_perm (sqrt : ℝ → ℝ) {pq pq' : List (ℝ × ℝ)} (h : pq.Perm pq') :
    bcVals sqrt pq = bcVals sqrt pq' :=
  Lemmas.Diverge.bcVals_perm sqrt h

/-- The power sum does not depend on the order of the pairs. -/
theorem powerSum_perm (R : RealOps ℝ) (a b : ℝ) {pq pq' : List (ℝ × ℝ)} (h : pq.Perm pq') :
    powerSum R a b pq = powerSum R a b pq' :=
  Lemmas.Diverge.powerSum_perm R a b h

/-- **Pairs `(0, q)` contribute nothing** to KL and cross entropy (nor to their finiteness). -/
theorem align_extra_zero (log : ℝ → ℝ) (pq zs : List (ℝ × ℝ)) (h : ∀ r ∈ zs, r.1 = 0) :
    klVals log (pq ++ zs) = klVals log pq
      ∧ crossEntropyVals log (pq ++ zs) = crossEntropyVals log pq :=
  ⟨klVals_append_zero log pq zs h, xentVals_append_zero log pq zs h⟩

/-- **A pair `(0, q)` contributes `|q|/2` to the variational distance** (and nothing to KL,
`align_extra_zero`). -/
theorem tv_extra_zero (q : ℝ) (pq : List (ℝ × ℝ)) :
    tvVals 2 ((0, q) :: pq) = |q| / 2 + tvVals 2 pq := by
  rw [tvVals_eq, tvVals_eq, List.map_cons, List.sum_cons, zero_sub, abs_neg, add_div]

section AlignConsequences
variable {κ : Type} [DecidableEq κ]

/-- **KL matches outcomes by label**: with duplicate-free keys in `t2`, storing either table in
another order does not change `D(t1‖t2)`. -/
theorem kl_label_invariant (log : ℝ → ℝ) {t1 t1' t2 t2' : Tab κ ℝ} (h1 : t1.Perm t1')
    (h2 : t2.Perm t2') (hnd : (keys t2).Nodup) :
    klVals log (alignPair t1 t2) = klVals log (alignPair t1' t2') := by
  rw [← alignPair_right_perm t1' h2 hnd]
  exact Lemmas.Diverge.klVals_perm log (alignPair_left_perm t2 h1)

/-- **KL over the union alignment** equals KL along `t1`: labels only `t2` has do not matter. -/
theorem kl_alignUnion (log : ℝ → ℝ) (t1 t2 : Tab κ ℝ) (hnd : (keys t1).Nodup) :
    klVals log (alignUnion t1 t2) = klVals log (alignPair t1 t2) := by
  rw [alignUnion_eq t1 t2 hnd]
  apply klVals_append_zero
  intro r hr
  obtain ⟨k, _, rfl⟩ := List.mem_map.mp hr
  rfl

/-- **The variational distance matches outcomes by label**: with duplicate-free keys, storing
either table in another order does not change it. -/
theorem tv_label_invariant {t1 t1' t2 t2' : Tab κ ℝ} (h1 : t1.Perm t1') (h2 : t2.Perm t2')
    (hnd1 : (keys t1).Nodup) (hnd2 : (keys t2).Nodup) :
    tvVals 2 (alignUnion t1 t2) = tvVals 2 (alignUnion t1' t2') :=
  Lemmas.Diverge.tvVals_perm 2 (alignUnion_perm h1 h2 hnd1 hnd2)

end AlignConsequences

example : alignPair [("a", (1 : ℚ) / 2), ("b", 1 / 2)] [("b", (1 : ℚ) / 4), ("c", 1 / 4), ("a", 1 / 2)]
    = [(1 / 2, 1 / 2), (1 / 2, 1 / 4)] := by decide +kernel
example : alignUnion [("a", (1 : ℚ) / 2), ("b", 1 / 2)] [("b", (1 : ℚ) / 4), ("c", 1 / 4), ("a", 1 / 2)]
    = [(1 / 2, 1 / 2), (1 / 2, 1 / 4), (0, 1 / 4)] := by decide +kernel
example : tvVals (2 : ℚ) (alignUnion [("a", (1 : ℚ) / 2), ("b", 1 / 2)]
    [("b", (1 : ℚ) / 4), ("c", 1 / 4), ("a", 1 / 2)]) = 1 / 4 := by decide +kernel

/-! ## Symmetry -/

/-- **The variational distance is symmetric.** -/
theorem tv_symm (pq : List (ℝ × ℝ)) : tvVals 2 (pq.map Prod.swap) = tvVals 2 pq := by
  rw [tvVals_eq, tvVals_eq, List.map_map]
  exact congrArg (· / 2) (congrArg _ (List.map_congr_left fun r _ => abs_sub_comm r.2 r.1))

section
variable {κ : Type} [DecidableEq κ]

/-- **The variational distance of two tables is symmetric.** -/
theorem tv_table_symm (t1 t2 : Tab κ ℝ) :
    tvVals 2 (alignUnion t2 t1) = tvVals 2 (alignUnion t1 t2) := by
  rw [tvVals_perm 2 (alignUnion_swap t1 t2), tv_symm]

end

/-- **The Bhattacharyya coefficient is symmetric.** -/
theorem bc_symm (pq : List (ℝ × ℝ)) :
    bcVals Real.sqrt (pq.map Prod.swap) = bcVals Real.sqrt pq := by
  rw [bcVals_eq, bcVals_eq, List.map_map]
  exact congrArg _ (List.map_congr_left fun r _ => congrArg _ (mul_comm r.2 r.1))

/-- **The Hellinger distance is symmetric.** -/
theorem hellinger_symm (pq : List (ℝ × ℝ)) :
    hellingerVals Real.sqrt (pq.map Prod.swap) = hellingerVals Real.sqrt pq := by
  unfold hellingerVals; rw [bc_symm]

/-- **JSD is symmetric**: permuting the components together with their weights leaves it
unchanged (components of a common length `n`). -/
theorem jsd_perm (log : ℝ → ℝ) {l l' : List (List ℝ × ℝ)} (h : l.Perm l') (n : Nat)
    (hlen : ∀ r ∈ l, r.1.length = n) :
    jsdVals log (l.map Prod.fst) (l.map Prod.snd)
      = jsdVals log (l'.map Prod.fst) (l'.map Prod.snd) := by
  rw [jsdVals_eq, jsdVals_eq, (h.map _).sum_eq]
  congr 2
  by_cases hne : l = []
  · subst hne
    rw [List.nil_perm.mp h]
  · have hne' : l' ≠ [] := fun e => hne (List.perm_nil.mp (e ▸ h))
    have hlen' : ∀ r ∈ l', r.1.length = n := fun r hr => hlen r (h.mem_iff.mpr hr)
    rw [mixVals_eq l n hne hlen, mixVals_eq l' n hne' hlen']
    exact List.map_congr_left fun x _ => mixCol_perm h x

/-- **JSD of two components is symmetric.** -/
theorem jsd_symm (log : ℝ → ℝ) (p1 p2 : List ℝ) (w1 w2 : ℝ) (hlen : p1.length = p2.length) :
    jsdVals log [p1, p2] [w1, w2] = jsdVals log [p2, p1] [w2, w1] := by
  have := jsd_perm log (List.Perm.swap (p2, w2) (p1, w1) []) p2.length
    (by intro r hr; simp at hr; rcases hr with rfl | rfl <;> simp [hlen])
  simpa using this

/-! ## Variational distance, Bhattacharyya coefficient, Hellinger distance -/

/-- **Variational distance definition**: `½ Σ |p − q|`. -/
theorem tv_eq_def (pq : List (ℝ × ℝ)) :
    tvVals 2 pq = (pq.map (fun r => |r.1 - r.2|)).sum / 2 :=
  tvVals_eq pq

/-- The variational distance is non-negative. -/
theorem tv_nonneg (pq : List (ℝ × ℝ)) : 0 ≤ tvVals 2 pq := by
  rw [tvVals_eq]
  exact div_nonneg (sum_map_nonneg _ _ fun r _ => abs_nonneg _) (by norm_num)

/-- **`TV ≤ 1`** for non-negative vectors of total mass at most one. -/
theorem tv_le_one (pq : List (ℝ × ℝ)) (hnn : ∀ r ∈ pq, 0 ≤ r.1 ∧ 0 ≤ r.2)
    (hp : (pq.map Prod.fst).sum ≤ 1) (hq : (pq.map Prod.snd).sum ≤ 1) : tvVals 2 pq ≤ 1 :=
  (tvVals_le pq hnn).trans (half_add_le_one hp hq)

/-- **`TV = 0` exactly when the vectors agree** at every label. -/
theorem tv_eq_zero_iff (pq : List (ℝ × ℝ)) : tvVals 2 pq = 0 ↔ ∀ r ∈ pq, r.1 = r.2 := by
  rw [tvVals_eq, div_eq_zero_iff, or_iff_left two_ne_zero,
    sum_map_eq_zero_iff _ _ fun r _ => abs_nonneg _]
  exact forall₂_congr fun r _ => by rw [abs_eq_zero, sub_eq_zero]

/-- **Bhattacharyya coefficient definition**: `Σ √(p q)`. -/
theorem bc_eq_def (pq : List (ℝ × ℝ)) :
    bcVals Real.sqrt pq = (pq.map (fun r => Real.sqrt (r.1 * r.2))).sum :=
  bcVals_eq pq

/-- The Bhattacharyya coefficient is non-negative. -/
theorem bc_nonneg (pq : List (ℝ × ℝ)) : 0 ≤ bcVals Real.sqrt pq := by
  rw [bcVals_eq]
  exact sum_map_nonneg _ _ fun r _ => Real.sqrt_nonneg _

/-- **`BC ≤ 1`** (termwise AM–GM) for non-negative vectors of total mass at most one. -/
theorem bc_le_one (pq : List (ℝ × ℝ)) (hnn : ∀ r ∈ pq, 0 ≤ r.1 ∧ 0 ≤ r.2)
    (hp : (pq.map Prod.fst).sum ≤ 1) (hq : (pq.map Prod.snd).sum ≤ 1) :
    bcVals Real.sqrt pq ≤ 1 :=
  (bcVals_le pq hnn).trans (half_add_le_one hp hq)

/-- **The Hellinger distance `√(1 − BC)` is well defined and lies in `[0, 1]`**, and its square
is `1 − BC`. -/
theorem hellinger_mem_unit (pq : List (ℝ × ℝ)) (hnn : ∀ r ∈ pq, 0 ≤ r.1 ∧ 0 ≤ r.2)
    (hp : (pq.map Prod.fst).sum ≤ 1) (hq : (pq.map Prod.snd).sum ≤ 1) :
    0 ≤ hellingerVals Real.sqrt pq ∧ hellingerVals Real.sqrt pq ≤ 1
      ∧ (hellingerVals Real.sqrt pq) ^ 2 = 1 - bcVals Real.sqrt pq := by
  unfold hellingerVals
  refine ⟨Real.sqrt_nonneg _, ?_, Real.sq_sqrt (sub_nonneg.2 (bc_le_one pq hnn hp hq))⟩
  rw [Real.sqrt_le_one]
  exact sub_le_self 1 (bc_nonneg pq)

/-- **Hellinger distance, textbook form**: `√(½ Σ (√p − √q)²)` for probability vectors. -/
theorem hellinger_eq_def (pq : List (ℝ × ℝ)) (hnn : ∀ r ∈ pq, 0 ≤ r.1 ∧ 0 ≤ r.2)
    (hp : (pq.map Prod.fst).sum = 1) (hq : (pq.map Prod.snd).sum = 1) :
    hellingerVals Real.sqrt pq
      = Real.sqrt ((pq.map (fun r => (Real.sqrt r.1 - Real.sqrt r.2) ^ 2)).sum / 2) := by
  unfold hellingerVals; rw [one_sub_bc pq hnn hp hq]

example : tvVals (2 : ℚ) [((1 : ℚ) / 2, (1 : ℚ) / 4), (1 / 2, 3 / 4)] = 1 / 4 := by decide +kernel

/-! ## Jensen–Shannon divergence -/

section JSD
variable (pmfs : List (List ℝ)) (w : List ℝ) (n : Nat)

/-- **`JSD = Σ_i w_i · KL(p_i ‖ m)`** with `m = Σ_i w_i p_i` the mixture (`mixVals`), for aligned
non-negative pmfs of a common length and non-negative weights; every KL with `w_i > 0` is finite
because the mixture dominates `w_i p_i`; a component of weight `0` (whose KL may be infinite)
contributes `0`, which is what `getD 0` expresses. -/
theorem jsd_eq_sum_kl (hlw : pmfs.length = w.length) (hlen : ∀ pm ∈ pmfs, pm.length = n)
    (hnn : ∀ pm ∈ pmfs, ∀ p ∈ pm, 0 ≤ p) (hw : ∀ x ∈ w, 0 ≤ x) :
    jsdVals (Real.logb 2) pmfs w
        = ((pmfs.zip w).map (fun r =>
            r.2 * (klVals (Real.logb 2) (r.1.zip (mixVals pmfs w))).getD 0)).sum
      ∧ ∀ r ∈ pmfs.zip w, 0 < r.2 → klVals (Real.logb 2) (r.1.zip (mixVals pmfs w)) ≠ none := by
  have e1 : (pmfs.zip w).map Prod.fst = pmfs := List.map_fst_zip hlw.le
  have e2 : (pmfs.zip w).map Prod.snd = w := List.map_snd_zip hlw.ge
  constructor
  · have := jsd_eq_sum_klVals _ (zip_nonneg hnn hw) n (forall_zip_fst w hlen)
    rwa [e1, e2] at this
  · intro r hr hpos
    have := absCont_zip_mix _ (zip_nonneg hnn hw) n (forall_zip_fst w hlen) r hr hpos
    rw [e1, e2] at this
    rw [klVals_of_absCont this]
    exact Option.some_ne_none _

/-- **`JSD ≥ 0`** for aligned pmfs (each of total mass 1) and a probability vector of weights. -/
theorem jsd_nonneg (hlw : pmfs.length = w.length) (hlen : ∀ pm ∈ pmfs, pm.length = n)
    (hnn : ∀ pm ∈ pmfs, ∀ p ∈ pm, 0 ≤ p) (hp1 : ∀ pm ∈ pmfs, pm.sum = 1)
    (hw : ∀ x ∈ w, 0 ≤ x) (hw1 : w.sum = 1) :
    0 ≤ jsdVals (Real.logb 2) pmfs w := by
  have e1 : (pmfs.zip w).map Prod.fst = pmfs := List.map_fst_zip hlw.le
  have e2 : (pmfs.zip w).map Prod.snd = w := List.map_snd_zip hlw.ge
  have := Lemmas.Diverge.jsd_nonneg (pmfs.zip w) (zip_nonneg hnn hw) n (forall_zip_fst w hlen)
    (forall_zip_fst w hp1) (e2.symm ▸ hw1)
  rwa [e1, e2] at this

/-- **`JSD ≤ H(w)`**: the Jensen–Shannon divergence is at most the entropy of the weights
(`w_i p_i(x) ≤ m(x)` gives `KL(p_i‖m) ≤ log₂(1/w_i)`). Weights need not sum to one here, and `hne`
is not needed. -/
theorem jsd_le_entropy_weights (hlw : pmfs.length = w.length) (hne : pmfs ≠ [])
    (hlen : ∀ pm ∈ pmfs, pm.length = n)
    (hnn : ∀ pm ∈ pmfs, ∀ p ∈ pm, 0 ≤ p) (hp1 : ∀ pm ∈ pmfs, pm.sum = 1)
    (hw : ∀ x ∈ w, 0 ≤ x) :
    jsdVals (Real.logb 2) pmfs w ≤ entropyVals (Real.logb 2) w := by
  have _ := hne  -- not needed
  have := jsd_le_entropy (pmfs.zip w) (zip_nonneg hnn hw) n (forall_zip_fst w hlen)
    (forall_zip_fst w hp1)
  rwa [List.map_fst_zip hlw.le, List.map_snd_zip hlw.ge] at this

end JSD

/-- Non-vacuity of the JSD hypotheses: two point masses with weights `1/4, 3/4`. -/
example : ([[1, 0], [0, 1]] : List (List ℝ)).length = ([1 / 4, 3 / 4] : List ℝ).length
    ∧ (∀ pm ∈ ([[1, 0], [0, 1]] : List (List ℝ)), pm.length = 2)
    ∧ (∀ pm ∈ ([[1, 0], [0, 1]] : List (List ℝ)), ∀ p ∈ pm, 0 ≤ p)
    ∧ (∀ pm ∈ ([[1, 0], [0, 1]] : List (List ℝ)), pm.sum = 1)
    ∧ (∀ x ∈ ([1 / 4, 3 / 4] : List ℝ), 0 ≤ x) ∧ ([1 / 4, 3 / 4] : List ℝ).sum = 1 := by
  refine ⟨rfl, ?_, ?_, ?_, ?_, ?_⟩
  · intro pm h
    rcases List.mem_pair.1 h with rfl | rfl <;> rfl
  · intro pm h p hp
    rcases List.mem_pair.1 h with rfl | rfl <;> rcases List.mem_pair.1 hp with rfl | rfl <;>
      norm_num
  · intro pm h
    rcases List.mem_pair.1 h with rfl | rfl <;> norm_num
  · intro x h
    rcases List.mem_pair.1 h with rfl | rfl <;> norm_num
  · norm_num

example : mixVals [[(1 : ℚ), 0], [0, 1]] [1 / 4, 3 / 4] = [1 / 4, 3 / 4] := by decide +kernel

/-! ## Pinsker's inequality -/

/-- **Pinsker**: `2 · TV² ≤ ln 2 · KL` (KL in bits) for probability vectors with finite KL. -/
theorem pinsker (pq : List (ℝ × ℝ)) (d : ℝ) (hnn : ∀ r ∈ pq, 0 ≤ r.1 ∧ 0 ≤ r.2)
    (hp : (pq.map Prod.fst).sum = 1) (hq : (pq.map Prod.snd).sum = 1)
    (h : klVals (Real.logb 2) pq = some d) :
    2 * (tvVals 2 pq) ^ 2 ≤ Real.log 2 * d := by
  obtain ⟨hac, rfl⟩ := klVals_eq_some h
  exact pinsker_list pq hnn hac hp hq

/-! ## The divergence family through the power sum (orders `a ≠ 1`) -/

/-- **Power sum**: `Σ p^a q^b` over the common support. -/
theorem powerSum_def (a b : ℝ) (pq : List (ℝ × ℝ)) :
    powerSum realOps a b pq
      = ((pq.filter (fun r => decide (r.1 ≠ 0 ∧ r.2 ≠ 0))).map
          (fun r => r.1 ^ a * r.2 ^ b)).sum :=
  powerSum_eq a b pq

/-- **Rényi divergence** of order `a`: `log₂(Σ p^a q^{1−a}) / (a − 1)` over the common support. -/
theorem renyiDiv_def (a : ℝ) (pq : List (ℝ × ℝ)) :
    renyiDiv realOps a pq
      = Real.logb 2 (((pq.filter (fun r => decide (r.1 ≠ 0 ∧ r.2 ≠ 0))).map
          (fun r => r.1 ^ a * r.2 ^ (1 - a))).sum) / (a - 1) := by
  unfold renyiDiv; rw [powerSum_eq]; rfl

/-- **Tsallis (= Hellinger) divergence** of order `a`: `(Σ p^a q^{1−a} − 1) / (a − 1)`. -/
theorem tsallisDiv_def (a : ℝ) (pq : List (ℝ × ℝ)) :
    tsallisDiv realOps a pq
      = (((pq.filter (fun r => decide (r.1 ≠ 0 ∧ r.2 ≠ 0))).map
          (fun r => r.1 ^ a * r.2 ^ (1 - a))).sum - 1) / (a - 1) := by
  unfold tsallisDiv; rw [powerSum_eq]

/-- **Alpha divergence**: `4 (1 − Σ p^{(1−a)/2} q^{(1+a)/2}) / (1 − a²)`. -/
theorem alphaDiv_def (a : ℝ) (pq : List (ℝ × ℝ)) :
    alphaDiv realOps 2 4 a pq
      = 4 * (1 - ((pq.filter (fun r => decide (r.1 ≠ 0 ∧ r.2 ≠ 0))).map
          (fun r => r.1 ^ ((1 - a) / 2) * r.2 ^ ((1 + a) / 2))).sum) / (1 - a * a) := by
  unfold alphaDiv; rw [powerSum_eq]

/-- **Power sum of a vector with itself**: exponents adding up to one give `Σ p`. -/
theorem powerSum_self (a b : ℝ) (hab : a + b = 1) (ps : List ℝ) (hnn : ∀ p ∈ ps, 0 ≤ p) :
    powerSum realOps a b (ps.map (fun p => (p, p))) = ps.sum :=
  Lemmas.Diverge.powerSum_self a b hab ps hnn

/-- **Rényi divergence of a probability vector from itself is 0.** -/
theorem renyiDiv_self (a : ℝ) (ps : List ℝ) (hnn : ∀ p ∈ ps, 0 ≤ p) (hs : ps.sum = 1) :
    renyiDiv realOps a (ps.map (fun p => (p, p))) = 0 := by
  unfold renyiDiv
  rw [Lemmas.Diverge.powerSum_self a (1 - a) (by ring) ps hnn, hs]
  simp [realOps]

/-- **Tsallis divergence of a probability vector from itself is 0.** -/
theorem tsallisDiv_self (a : ℝ) (ps : List ℝ) (hnn : ∀ p ∈ ps, 0 ≤ p) (hs : ps.sum = 1) :
    tsallisDiv realOps a (ps.map (fun p => (p, p))) = 0 := by
  unfold tsallisDiv
  rw [Lemmas.Diverge.powerSum_self a (1 - a) (by ring) ps hnn, hs]
  simp

/-- **Alpha divergence of a probability vector from itself is 0.** -/
theorem alphaDiv_self (a : ℝ) (ps : List ℝ) (hnn : ∀ p ∈ ps, 0 ≤ p) (hs : ps.sum = 1) :
    alphaDiv realOps 2 4 a (ps.map (fun p => (p, p))) = 0 := by
  unfold alphaDiv
  rw [Lemmas.Diverge.powerSum_self ((1 - a) / 2) ((1 + a) / 2) (by ring) ps hnn, hs]
  simp

/-- **Power-sum symmetry**: swapping the components and the exponents. -/
theorem powerSum_symm (R : RealOps ℝ) (a b : ℝ) (pq : List (ℝ × ℝ)) :
    powerSum R b a (pq.map Prod.swap) = powerSum R a b pq := by
  unfold powerSum
  rw [List.map_map]
  refine congrArg _ (List.map_congr_left fun r _ => ?_)
  rw [Function.comp_apply, Prod.fst_swap, Prod.snd_swap, Bool.or_comm, mul_comm]

/-- **Alpha divergence duality**: `D_a(p‖q) = D_{−a}(q‖p)`. -/
theorem alphaDiv_symm (R : RealOps ℝ) (two four a : ℝ) (pq : List (ℝ × ℝ)) :
    alphaDiv R two four (-a) (pq.map Prod.swap) = alphaDiv R two four a pq := by
  unfold alphaDiv
  rw [sub_neg_eq_add, ← sub_eq_add_neg, powerSum_symm, neg_mul_neg]

/-! ## Earth mover's distance -/

/-- **List matrices are matrices of entry functions**, so the statements below, written for
`mat n m D = [[D i j | j < m] | i < n]`, cover all rectangular lists of rows. -/
theorem emd_matrix_repr (M : List (List ℝ)) (n m : Nat) (hlen : M.length = n)
    (hrow : ∀ row ∈ M, row.length = m) :
    M = mat n m (fun i j => (M.getD i []).getD j 0) := by
  unfold mat
  apply List.ext_getElem
  · simp [hlen]
  · intro i h1 h2
    have e : M.getD i [] = M[i] := by
      rw [List.getD_eq_getElem?_getD, List.getElem?_eq_getElem h1]; rfl
    simp only [List.getElem_map, List.getElem_range, e]
    conv_lhs => rw [← Lemmas.ListBasics.map_range_getD M[i] 0, hrow _ (List.getElem_mem h1)]

/-- **Cost of a plan**: `planCost` is `Σ_i Σ_j D(i,j) π(i,j)`. -/
theorem planCost_eq (n m : Nat) (D π : Nat → Nat → ℝ) :
    planCost (mat n m D) (mat n m π) = rsum n (fun i => rsum m (fun j => D i j * π i j)) :=
  planCost_mat n m D π

/-- **Weak duality**: for a plan with non-negative entries, row sums `p` and column sums `q`,
and potentials with `f i + g j ≤ D i j`, the dual value is at most the cost of the plan. -/
theorem emd_weak_duality (n m : Nat) (D π : Nat → Nat → ℝ) (p q f g : Nat → ℝ)
    (hπ : ∀ i j, i < n → j < m → 0 ≤ π i j)
    (hrow : ∀ i, i < n → rsum m (fun j => π i j) = p i)
    (hcol : ∀ j, j < m → rsum n (fun i => π i j) = q j)
    (hfg : ∀ i j, i < n → j < m → f i + g j ≤ D i j) :
    rsum n (fun i => f i * p i) + rsum m (fun j => g j * q j)
      ≤ planCost (mat n m D) (mat n m π) :=
  Lemmas.Diverge.emd_weak_duality n m D π p q f g hπ hrow hcol hfg

/-- **Categorical EMD certificate.** For the 0–1 metric, every feasible plan from `p` to `q`
costs at least the variational distance (lower bound, via the potentials `f = 1_{p>q}`,
`g = −f`), and for non-negative `p`, `q` of equal total mass the explicit plan `catPlan` is
feasible and costs exactly the variational distance. Hence the optimum is `tvVals 2`, which is
what `emdCategorical` returns. -/
theorem emd_categorical_cert (n : Nat) (p q : Nat → ℝ) :
    (∀ π : Nat → Nat → ℝ, (∀ i j, i < n → j < n → 0 ≤ π i j) →
        (∀ i, i < n → rsum n (fun j => π i j) = p i) →
        (∀ j, j < n → rsum n (fun i => π i j) = q j) →
        emdCategorical 2 ((List.range n).map (fun i => (p i, q i)))
          ≤ planCost (mat n n (fun i j => if i = j then 0 else 1)) (mat n n π))
    ∧ ((∀ i, i < n → 0 ≤ p i) → (∀ i, i < n → 0 ≤ q i) → rsum n p = rsum n q →
        (∀ i j, i < n → j < n → 0 ≤ catPlan n p q i j)
        ∧ (∀ i, i < n → rsum n (fun j => catPlan n p q i j) = p i)
        ∧ (∀ j, j < n → rsum n (fun i => catPlan n p q i j) = q j)
        ∧ planCost (mat n n (fun i j => if i = j then 0 else 1)) (mat n n (catPlan n p q))
            = emdCategorical 2 ((List.range n).map (fun i => (p i, q i)))) := by
  refine ⟨fun π hπ hrow hcol => emd_categorical_lower n π p q hπ hrow hcol, ?_⟩
  intro hp hq hs
  exact ⟨fun i j hi _ => catPlan_nonneg n p q hp hq i j hi, catPlan_row n p q hs,
    catPlan_col n p q hs, catPlan_cost n p q hs⟩

/-- Non-vacuity of the categorical certificate: `p = (1/2, 1/2)`, `q = (1/4, 3/4)`. -/
example : (∀ i, i < 2 → (0 : ℝ) ≤ (fun _ => 1 / 2 : Nat → ℝ) i)
    ∧ (∀ i, i < 2 → (0 : ℝ) ≤ (fun i => if i = 0 then 1 / 4 else 3 / 4 : Nat → ℝ) i)
    ∧ rsum 2 (fun _ => 1 / 2 : Nat → ℝ)
        = rsum 2 (fun i => if i = 0 then 1 / 4 else 3 / 4 : Nat → ℝ) := by
  refine ⟨fun i _ => by norm_num, fun i _ => by dsimp only; split <;> norm_num, ?_⟩
  show (1 / 2 : ℝ) + (1 / 2 + 0) = 1 / 4 + (3 / 4 + 0)
  norm_num

example : planCost [[(0 : ℚ), 1], [1, 0]] [[(1 : ℚ) / 4, 1 / 4], [0, 1 / 2]] = 1 / 4 := by
  decide +kernel
example : emdCategorical (2 : ℚ) [((1 : ℚ) / 2, (1 : ℚ) / 4), (1 / 2, 3 / 4)] = 1 / 4 := by
  decide +kernel

/-! ## Maximum correlation -/

/-- **Entries of the companion matrix**:
`A[j][k] = Σ_i P[i][j] P[i][k] / (p_X(i) p_Y(k))`, rows or columns of zero marginal skipped. -/
theorem maxcorr_entry (P : List (List ℝ)) (j k : Nat)
    (hj : j < (P.head?.getD []).length) (hk : k < (P.head?.getD []).length) :
    ((maxcorrCompanion P).getD j []).getD k 0
      = (P.map (fun row => if row.sum = 0 ∨ colSum P k = 0 then 0
          else row.getD j 0 * row.getD k 0 / (row.sum * colSum P k))).sum :=
  maxcorrCompanion_getD P j k hj hk

/-- **The columns of the companion matrix sum to one** (rectangular non-negative `P`, column `k`
of positive marginal): the all-ones row vector is a left eigenvector for the eigenvalue `1`,
the top singular value of dit's `Q`. -/
theorem maxcorr_cols_sum_one (P : List (List ℝ))
    (hlen : ∀ row ∈ P, row.length = (P.head?.getD []).length)
    (hnn : ∀ row ∈ P, ∀ x ∈ row, 0 ≤ x) (k : Nat) (hk : k < (P.head?.getD []).length)
    (hk0 : colSum P k ≠ 0) :
    ((maxcorrCompanion P).map (fun row => row.getD k 0)).sum = 1 := by
  rw [maxcorrCompanion_eq, List.map_map, ← ccEntry_col_sum P _ hlen hnn k hk0]
  exact congrArg _ (List.map_congr_left fun j _ => Lemmas.ListBasics.getD_range_map _ 0 hk)

/-- **Eigenvalues lie in `[−1, 1]`**: every real eigenvalue `λ` (with an eigenvector `v ≠ 0`) of
the companion matrix of a rectangular non-negative `P` has `|λ| ≤ 1`. (dit's maximum correlation
is the square root of the second largest eigenvalue; see the header of Props/C06MaxCorr.lean.) -/
theorem maxcorr_eigen_abs_le_one (P : List (List ℝ)) (n : Nat) (hlen : ∀ row ∈ P, row.length = n)
    (hnn : ∀ row ∈ P, ∀ x ∈ row, 0 ≤ x) (v : Nat → ℝ) (lam : ℝ)
    (hv : ∃ j, j < n ∧ v j ≠ 0)
    (heig : ∀ j, j < n → rsum n (fun k => ccEntry P j k * v k) = lam * v j) :
    |lam| ≤ 1 :=
  eigen_abs_le_one n (ccEntry P) (fun j k _ _ => ccEntry_nonneg P hnn j k)
    (fun k _ => ccEntry_col_sum_le P n hlen hnn k) v lam hv heig

/-- **Independent variables**: if `P[i][j] = a_i b_j` (marginals `a`, `b`, all `b_j ≠ 0`) the
companion matrix has constant rows, `A[j][k] = b_j`: it has rank one. -/
theorem maxcorr_indep (a b : List ℝ) (hne : a ≠ []) (ha : a.sum = 1) (hb : b.sum = 1)
    (hb0 : ∀ x ∈ b, x ≠ 0) :
    maxcorrCompanion (outer a b) = b.map (fun bj => b.map (fun _ => bj)) := by
  have hk : ∀ k ∈ List.range b.length, b.getD k 0 ≠ 0 := fun k hk => by
    rw [List.getD_eq_getElem?_getD, List.getElem?_eq_getElem (List.mem_range.mp hk)]
    exact hb0 _ (List.getElem_mem _)
  have hrow : ∀ j, (List.range b.length).map (fun k => ccEntry (outer a b) j k)
      = b.map (fun _ => b.getD j 0) := fun j => by
    rw [List.map_const', List.map_congr_left (g := fun _ => b.getD j 0) fun k hk' =>
      ccEntry_outer a b ha hb j k (hk k hk'), List.map_const', List.length_range]
  rw [maxcorrCompanion_eq, head_outer a b hne]
  simp only [hrow]
  have := congrArg (List.map fun bj => b.map fun _ => bj) (Lemmas.ListBasics.map_range_getD b 0)
  rw [List.map_map] at this
  exact this

/-- **Independent variables**: a matrix with constant rows `A[j][k] = b_j`, `Σ b = 1` (the
companion matrix of `outer a b`, `maxcorr_indep`) has `1` as its only non-zero eigenvalue. -/
theorem maxcorr_indep_eigen (n : Nat) (b v : Nat → ℝ) (lam : ℝ) (hb : rsum n b = 1)
    (hv : ∃ j, j < n ∧ v j ≠ 0) (hlam : lam ≠ 0)
    (heig : ∀ j, j < n → rsum n (fun k => b j * v k) = lam * v j) : lam = 1 := by
  have h1 : ∀ j, j < n → b j * rsum n v = lam * v j := fun j hj => by
    rw [← heig j hj, rsum_mul_left]
  -- summing over `j`: `Σ v = λ Σ v`, and `Σ v ≠ 0` since `λ v_j ≠ 0` for some `j`
  have h2 : 1 * rsum n v = lam * rsum n v := by
    rw [← rsum_mul_left n lam, ← rsum_congr n _ _ h1, rsum_mul_right, hb]
  obtain ⟨j, hj, hvj⟩ := hv
  have hs : rsum n v ≠ 0 := fun hs =>
    mul_ne_zero hlam hvj (by rw [← h1 j hj, hs, mul_zero])
  exact (mul_right_cancel₀ hs h2).symm

/-- Non-vacuity of the hypotheses of `maxcorr_indep`. -/
example : ([1 / 4, 3 / 4] : List ℝ) ≠ [] ∧ ([1 / 4, 3 / 4] : List ℝ).sum = 1
    ∧ ([1 / 2, 1 / 2] : List ℝ).sum = 1 ∧ ∀ x ∈ ([1 / 2, 1 / 2] : List ℝ), x ≠ 0 := by
  refine ⟨List.cons_ne_nil _ _, by norm_num, by norm_num, fun x h => ?_⟩
  rcases List.mem_pair.1 h with rfl | rfl <;> norm_num

/-- Non-vacuity of the hypotheses of `maxcorr_cols_sum_one`. -/
example : (∀ row ∈ ([[3 / 8, 1 / 8], [1 / 8, 3 / 8]] : List (List ℝ)),
      row.length = (([[3 / 8, 1 / 8], [1 / 8, 3 / 8]] : List (List ℝ)).head?.getD []).length)
    ∧ (∀ row ∈ ([[3 / 8, 1 / 8], [1 / 8, 3 / 8]] : List (List ℝ)), ∀ x ∈ row, 0 ≤ x)
    ∧ colSum ([[3 / 8, 1 / 8], [1 / 8, 3 / 8]] : List (List ℝ)) 0 ≠ 0 := by
  refine ⟨?_, ?_, ?_⟩
  · intro row h
    rcases List.mem_pair.1 h with rfl | rfl <;> rfl
  · intro row h x hx
    rcases List.mem_pair.1 h with rfl | rfl <;> rcases List.mem_pair.1 hx with rfl | rfl <;>
      norm_num
  · show (3 / 8 : ℝ) + (1 / 8 + 0) ≠ 0
    norm_num

example : maxcorrCompanion [[(1 : ℚ) / 8, 1 / 8], [3 / 8, 3 / 8]]
    = [[1 / 2, 1 / 2], [1 / 2, 1 / 2]] := by decide +kernel
/-- Independent: characteristic polynomial `λ² − λ`, eigenvalues `1, 0`. -/
example : charPoly (fun n => (n : ℚ)) (maxcorrCompanion [[(1 : ℚ) / 8, 1 / 8], [3 / 8, 3 / 8]])
    = [-1, 0] := by decide +kernel
/-- Perfectly correlated: `λ² − 2λ + 1`, eigenvalues `1, 1`. -/
example : charPoly (fun n => (n : ℚ)) (maxcorrCompanion [[(1 : ℚ) / 2, 0], [0, 1 / 2]])
    = [-2, 1] := by decide +kernel
/-- A dependent pair: `λ² − (5/4)λ + 1/4 = (λ − 1)(λ − 1/4)`, maximum correlation `1/2`. -/
example : charPoly (fun n => (n : ℚ)) (maxcorrCompanion [[(3 : ℚ) / 8, 1 / 8], [1 / 8, 3 / 8]])
    = [-5 / 4, 1 / 4] := by decide +kernel

end Dit.Props.C06
