/-
Helper lemmas for the link between product-form feasibility (`blockIndep`) and entropy-level conditional
independence. Property theorems are in Props/C16FciBound.lean.
-/
import DitModel.Props.C16Fci
import DitModel.Lemmas.FciMss
import Mathlib.Tactic.LinearCombination

namespace Dit.Lemmas.FciBound
open Dit Dit.Lemmas.Table Dit.Lemmas.Meet Dit.Lemmas.InfoAlg Dit.Lemmas.InfoReal Dit.Lemmas.FciMss
open Dit.Props.C16Fci

section Factor
variable {σ : Type} [DecidableEq σ]
open Dit.Lemmas.SetPart

theorem mem_blockValueTuples_iff {B : List (List σ)} {gs : List (List Nat)} {vs : List (List σ)} :
    vs ∈ blockValueTuples B gs ↔ List.Forall₂ (fun g v => v ∈ B.map (project g)) gs vs := by
  induction gs generalizing vs with
  | nil => rw [blockValueTuples, List.mem_singleton, List.forall₂_nil_left_iff]
  | cons g gs ih =>
    simp only [blockValueTuples, List.mem_flatMap, List.mem_map, mem_dedup,
      List.forall₂_cons_left_iff, ih]
    constructor
    · rintro ⟨v, hv, vs', hvs', rfl⟩
      exact ⟨v, vs', hv, hvs', rfl⟩
    · rintro ⟨v, vs', hv, hvs', rfl⟩
      exact ⟨v, hv, vs', hvs', rfl⟩

/-- The values of `o`, with the value of one group replaced by any value seen in the block. -/
theorem mem_blockValueTuples_split {B : List (List σ)} {o : List σ} (ho : o ∈ B)
    (pre post : List (List Nat)) (g : List Nat) {v : List σ} (hv : v ∈ B.map (project g)) :
    pre.map (fun g' => project g' o) ++ v :: post.map (fun g' => project g' o)
      ∈ blockValueTuples B (pre ++ g :: post) := by
  have hself : ∀ gs : List (List Nat), List.Forall₂ (fun g v => v ∈ B.map (project g)) gs
      (gs.map (fun g' => project g' o)) := fun gs =>
    List.forall₂_map_right_iff.mpr (List.forall₂_same.mpr fun g _ => List.mem_map_of_mem ho)
  exact mem_blockValueTuples_iff.mpr (List.rel_append (hself pre) (List.Forall₂.cons hv (hself post)))

omit [DecidableEq σ] in
theorem map_split_eq_iff (pre post : List (List Nat)) (g : List Nat) (o x v : List σ) :
    (pre ++ g :: post).map (fun g' => project g' x)
        = pre.map (fun g' => project g' o) ++ v :: post.map (fun g' => project g' o)
      ↔ project g x = v
        ∧ (pre ++ post).map (fun g' => project g' x) = (pre ++ post).map (fun g' => project g' o) := by
  rw [List.map_append, List.map_cons, List.map_append, List.map_append]
  constructor
  · intro h
    obtain ⟨h1, h2⟩ := List.append_inj h (by simp)
    obtain ⟨h3, h4⟩ := List.cons.inj h2
    exact ⟨h3, by rw [h1, h4]⟩
  · rintro ⟨h3, h⟩
    obtain ⟨h1, h4⟩ := List.append_inj h (by simp)
    rw [h1, h3, h4]

theorem foldl_mul_zip_split {β γ : Type} (F : β × γ → ℝ) {l₁ : List β} {m₁ : List γ}
    (h : l₁.length = m₁.length) (b : β) (l₂ : List β) (c : γ) (m₂ : List γ) :
    (((l₁ ++ b :: l₂).zip (m₁ ++ c :: m₂)).map F).foldl (· * ·) 1
      = F (b, c) * (((l₁.zip m₁).map F).prod * ((l₂.zip m₂).map F).prod) := by
  rw [← List.prod_eq_foldl, List.zip_append h, List.map_append, List.prod_append,
    List.zip_cons_cons, List.map_cons, List.prod_cons, mul_left_comm]

theorem mul_sum_eq_of_proportional {ι : Type} {l : List ι} {J m : ι → ℝ} {X C R M : ℝ} (hX : X ≠ 0)
    (hM : (l.map m).sum = M) (hR : (l.map J).sum = R) (key : ∀ v ∈ l, J v * X = m v * C)
    {v₀ : ι} (h₀ : v₀ ∈ l) : J v₀ * M = m v₀ * R := by
  have hsum : R * X = M * C := by
    rw [← hM, ← hR, ← List.sum_map_mul_right, ← List.sum_map_mul_right]
    exact congrArg List.sum (List.map_congr_left key)
  apply mul_right_cancel₀ hX
  linear_combination M * key v₀ h₀ - m v₀ * hsum

/-- One group against the others inside a block `B` passing the product test: at every member `o`,
`P(g = g(o), others = others(o), B) · P(B) = P(g = g(o), B) · P(others = others(o), B)`. -/
theorem block_factor (t : Tab (List σ) ℝ) (hk : (keys t).Nodup) (B : List (List σ)) (hB : B.Nodup)
    (pre post : List (List Nat)) (g : List Nat)
    (hind : blockIndep t (pre ++ g :: post) B = true) (hM : blockMass t B ≠ 0)
    (o : List σ) (ho : o ∈ B) :
    wtBy (fun x => project g x = project g o
          ∧ (pre ++ post).map (fun g' => project g' x) = (pre ++ post).map (fun g' => project g' o)
          ∧ x ∈ B) t
        * wtBy (fun x => x ∈ B) t
      = wtBy (fun x => project g x = project g o ∧ x ∈ B) t
        * wtBy (fun x => (pre ++ post).map (fun g' => project g' x)
            = (pre ++ post).map (fun g' => project g' o) ∧ x ∈ B) t := by
  have hX : mpow (blockMass t B) ((pre ++ g :: post).length - 1) ≠ 0 := by
    rw [mpow_eq]
    exact pow_ne_zero _ hM
  -- the product of the margins at the tuple of `o` with `v` on `g`: the margin of `v` times a constant
  obtain ⟨C, hC⟩ : ∃ C, ∀ v, (((pre ++ g :: post).zip
        (pre.map (fun g' => project g' o) ++ v :: post.map (fun g' => project g' o))).map
        (fun gv => blockMargin t B gv.1 gv.2)).foldl (· * ·) 1 = blockMargin t B g v * C :=
    ⟨_, fun v => foldl_mul_zip_split _ (List.length_map _).symm g post v _⟩
  have hmem : ∀ x ∈ B, project g x ∈ dedup (B.map (project g)) := fun x hx =>
    mem_dedup.mpr (List.mem_map_of_mem hx)
  -- `P(B)` and `P(others = others(o), B)` disintegrated over the values of `g` seen in the block
  refine mul_sum_eq_of_proportional (C := C) hX
    (sum_wtBy_fibre_on (nodup_dedup _) (project g) _ t fun x _ hx => hmem x hx)
    (sum_wtBy_fibre_on (nodup_dedup _) (project g) _ t fun x _ hx => hmem x (And.right hx))
    (fun v hv => ?_) (hmem o ho)
  -- the test at that tuple, for each such value `v`
  have h := of_decide_eq_true (List.all_eq_true.mp hind _
    (mem_blockValueTuples_split ho pre post g (mem_dedup.mp hv)))
  rw [hC, blockJoint_eq_wtBy t hk B hB, blockMargin_eq_wtBy t hk B hB] at h
  refine Eq.trans (congrArg (· * _) (wtBy_congr' t fun x _ => ?_)) h
  rw [map_split_eq_iff, and_assoc]

end Factor

section Entropy
variable {κ κ₁ κ₂ κ₃ : Type} [DecidableEq κ₁] [DecidableEq κ₂] [DecidableEq κ₃]

theorem cm_atRow_eq_wtBy (f : κ → κ₁) (t : Tab κ ℝ) (i : Fin t.length) :
    cm (wOf t) (atRow f t) i = wtBy (fun o => f o = f (t[i.1]'i.2).1) t :=
  (wtBy_eq_fin (fun o => f o = f (t[i.1]'i.2).1) t).symm

/-- Product form ⇒ entropy form: if `P(W, a, b) · P(W) = P(W, a) · P(W, b)` at every stored outcome whose cell
of `W` has positive mass, then `I(a : b | W) = 0`. -/
theorem Hmap_cond_indep (W : κ → κ₃) (a : κ → κ₁) (b : κ → κ₂) (t : Tab κ ℝ)
    (hnn : ∀ r ∈ t, 0 ≤ r.2)
    (h : ∀ k ∈ keys t, 0 < wtBy (fun o => W o = W k) t →
      wtBy (fun o => (W o, a o, b o) = (W k, a k, b k)) t * wtBy (fun o => W o = W k) t
        = wtBy (fun o => (W o, a o) = (W k, a k)) t * wtBy (fun o => (W o, b o) = (W k, b k)) t) :
    Hmap (fun k => (W k, a k, b k)) t + Hmap W t
      = Hmap (fun k => (W k, a k)) t + Hmap (fun k => (W k, b k)) t := by
  have hw : ∀ i : Fin t.length, 0 ≤ wOf t i := fun i => hnn _ (List.getElem_mem i.2)
  rw [Hmap_fin, Hmap_fin, Hmap_fin, Hmap_fin, ← neg_add, ← neg_add, ← Finset.sum_add_distrib,
    ← Finset.sum_add_distrib]
  refine congrArg Neg.neg (Finset.sum_congr rfl fun i _ => ?_)
  rcases (hw i).eq_or_lt with h0 | hpos
  · rw [← h0, zero_mul, zero_mul, zero_mul, zero_mul]
  · have pos : ∀ {β : Type} [DecidableEq β] (f : κ → β), cm (wOf t) (atRow f t) i ≠ 0 :=
      fun f => (hpos.trans_le (le_cm hw _ i)).ne'
    rw [← mul_add, ← mul_add, ← Real.logb_mul (pos _) (pos _), ← Real.logb_mul (pos _) (pos _),
      cm_atRow_eq_wtBy, cm_atRow_eq_wtBy, cm_atRow_eq_wtBy, cm_atRow_eq_wtBy,
      h _ (mem_keys_getElem t i) (by rw [← cm_atRow_eq_wtBy]; exact hpos.trans_le (le_cm hw _ i))]

end Entropy

section Label
variable {σ : Type} [DecidableEq σ]

theorem labelOf_eq_index_iff {P : List (List (List σ))} {l : List (List σ)}
    (hP : IsSetPartition P l) {i : Nat} (hi : i < P.length) {o : List σ} (ho : o ∈ l) :
    labelOf P o = i ↔ o ∈ P[i] := by
  obtain ⟨j, ej, hj, hoj⟩ := labelOf_spec ((hP.cover o).mpr ho)
  rw [ej]
  constructor
  · intro e; subst e; exact hoj
  · intro hoi; exact index_unique hP.disjoint hj hi hoj hoi

theorem labelOf_eq_iff_mem {P : List (List (List σ))} {l : List (List σ)}
    (hP : IsSetPartition P l) {B : List (List σ)} (hB : B ∈ P) {k : List σ} (hkB : k ∈ B)
    {o : List σ} (ho : o ∈ l) : labelOf P o = labelOf P k ↔ o ∈ B := by
  obtain ⟨i, hi, rfl⟩ := List.getElem_of_mem hB
  have hk : k ∈ l := (hP.cover k).mp ⟨_, hB, hkB⟩
  rw [(labelOf_eq_index_iff hP hi hk).mpr hkB]
  exact labelOf_eq_index_iff hP hi ho

/-- The law of the label is the list of block masses, up to order. -/
theorem Hmap_label (code : Nat → σ) (hcode : Function.Injective code) (t : Tab (List σ) ℝ)
    (hk : (keys t).Nodup) (P : List (List (List σ))) (hP : IsSetPartition P (keys t)) :
    Hmap (fun o => code (labelOf P o)) t = entropyVals (Real.logb 2) (partMasses t P) := by
  unfold Hmap
  rw [pushforward_eq, vals, List.map_map]
  apply entropyVals_perm
  have hperm : (dedup (t.map (fun r => code (labelOf P r.1)))).Perm
      ((List.finRange P.length).map (fun i => code i.1)) := by
    rw [List.perm_ext_iff_of_nodup (nodup_dedup _)
      ((List.nodup_finRange _).map (fun a b e => Fin.ext (hcode e)))]
    intro x
    rw [mem_dedup, List.mem_map, List.mem_map]
    constructor
    · rintro ⟨r, hr, rfl⟩
      have hr1 : r.1 ∈ keys t := List.mem_map_of_mem hr
      obtain ⟨j, ej, hj, -⟩ := labelOf_spec ((hP.cover r.1).mpr hr1)
      exact ⟨⟨j, hj⟩, List.mem_finRange _, by rw [ej]⟩
    · rintro ⟨i, -, rfl⟩
      obtain ⟨k, hkB⟩ := List.exists_mem_of_ne_nil _ (hP.nonempty _ (List.getElem_mem i.2))
      have hkl : k ∈ keys t := (hP.cover k).mp ⟨_, List.getElem_mem i.2, hkB⟩
      obtain ⟨r, hr, rfl⟩ := List.mem_map.mp hkl
      exact ⟨r, hr, by rw [(labelOf_eq_index_iff hP i.2 hkl).mpr hkB]⟩
  refine (hperm.map _).trans (List.Perm.of_eq ?_)
  unfold partMasses
  conv_rhs => rw [← List.map_getElem_finRange P]
  rw [List.map_map, List.map_map]
  apply List.map_congr_left
  intro i _
  simp only [Function.comp_apply]
  rw [fibreSum_eq_ite, blockMass_eq_wtBy t hk _ (hP.nodup _ (List.getElem_mem i.2))]
  show wtBy (fun o => code (labelOf P o) = code i.1) t = _
  refine wtBy_congr' t (fun o ho => ?_)
  rw [hcode.eq_iff]
  exact labelOf_eq_index_iff hP i.2 ho

end Label

section CondIndep
variable {σ : Type} [DecidableEq σ]

omit [DecidableEq σ] in
theorem project_others_eq_iff (pre post : List (List Nat)) (g : List Nat)
    (hdisj : ∀ g' ∈ pre ++ post, ∀ v ∈ g', v ∉ g) (o x : List σ) :
    project (vdiff (vunions (pre ++ g :: post)) (vnorm g)) x
        = project (vdiff (vunions (pre ++ g :: post)) (vnorm g)) o
      ↔ (pre ++ post).map (fun g' => project g' x) = (pre ++ post).map (fun g' => project g' o) := by
  simp only [List.map_inj_left, project_eq_iff, mem_vdiff, mem_vunions, mem_vnorm, List.mem_append,
    List.mem_cons]
  constructor
  · intro H g' hg' i hi
    exact H i ⟨⟨g', hg'.imp_right Or.inr, hi⟩, hdisj g' (List.mem_append.mpr hg') i hi⟩
  · rintro H i ⟨⟨g', hg' | rfl | hg', hi⟩, hni⟩
    · exact H g' (Or.inl hg') i hi
    · exact absurd hi hni
    · exact H g' (Or.inr hg') i hi

/-- Entropy form of feasibility, on the original table: `H(ℓ, a, b) + H(ℓ) = H(ℓ, a) + H(ℓ, b)` for `ℓ` the
coded label of a feasible partition, `a` the values of one group, `b` those of all the others. -/
theorem Hmap_feasible (code : Nat → σ) (hcode : Function.Injective code) (t : Tab (List σ) ℝ)
    (hnn : ∀ r ∈ t, 0 ≤ r.2) (hk : (keys t).Nodup)
    (P : List (List (List σ))) (hP : IsSetPartition P (keys t))
    (pre post : List (List Nat)) (g : List Nat)
    (hdisj : ∀ g' ∈ pre ++ post, ∀ v ∈ g', v ∉ g)
    (hf : fciFeasible t (pre ++ g :: post) P = true) :
    Hmap (fun o => (code (labelOf P o), project g o,
        project (vdiff (vunions (pre ++ g :: post)) (vnorm g)) o)) t
        + Hmap (fun o => code (labelOf P o)) t
      = Hmap (fun o => (code (labelOf P o), project g o)) t
        + Hmap (fun o => (code (labelOf P o),
            project (vdiff (vunions (pre ++ g :: post)) (vnorm g)) o)) t := by
  refine Hmap_cond_indep _ _ _ t hnn fun k hkk hpos => ?_
  obtain ⟨B, hB, hkB⟩ := (hP.cover k).mpr hkk
  have hW : ∀ o ∈ keys t, code (labelOf P o) = code (labelOf P k) ↔ o ∈ B := fun o ho =>
    hcode.eq_iff.trans (labelOf_eq_iff_mem hP hB hkB ho)
  have hBnd := hP.nodup B hB
  rw [wtBy_congr' t hW] at hpos ⊢
  have hfac := block_factor t hk B hBnd pre post g (List.all_eq_true.mp hf B hB)
    (by rw [blockMass_eq_wtBy t hk B hBnd]; exact hpos.ne') k hkB
  refine Eq.trans ?_ (hfac.trans ?_)
  · refine congrArg (· * _) (wtBy_congr' t fun o ho => ?_)
    rw [Prod.mk.injEq, Prod.mk.injEq, hW o ho, project_others_eq_iff pre post g hdisj k o,
      and_rotate]
  · refine congrArg₂ (· * ·) (wtBy_congr' t fun o ho => ?_) (wtBy_congr' t fun o ho => ?_)
    · rw [Prod.mk.injEq, hW o ho, and_comm]
    · rw [Prod.mk.injEq, hW o ho, project_others_eq_iff pre post g hdisj k o, and_comm]

variable (ℓ : List σ → σ) (n : Nat) (t : Tab (List σ) ℝ) (hn : ∀ k ∈ keys t, k.length = n)
include hn

theorem entropyOf_with_new (S₀ : List Nat) (hS₀ : ∀ i ∈ S₀, i < n) (S : List Nat)
    (hS : ∀ v, v ∈ S ↔ v ∈ S₀ ∨ v = n) :
    entropyOf (Real.logb 2) (insertRvf (fun o => [ℓ o]) none t) S
      = Hmap (fun o => (ℓ o, project S₀ o)) t := by
  rw [entropyOf_congr _ (X' := S₀ ++ [n])
    (by intro v; rw [hS, List.mem_append, List.mem_singleton])]
  exact entropyOf_old_new ℓ n t hn S₀ hS₀

/-- `H(g | D, ℓ) = H(g | ℓ)`, with the label appended as variable `n`, as an identity between entropies of maps
on the original table. -/
theorem cond_indep_with_new_iff (g D : List Nat) (hg : ∀ i ∈ g, i < n) (hD : ∀ i ∈ D, i < n) :
    Hc (entropyOf (Real.logb 2) (insertRvf (fun o => [ℓ o]) none t)) g (vunion D [n])
        = Hc (entropyOf (Real.logb 2) (insertRvf (fun o => [ℓ o]) none t)) g [n]
      ↔ Hmap (fun o => (ℓ o, project g o, project D o)) t + Hmap ℓ t
        = Hmap (fun o => (ℓ o, project g o)) t + Hmap (fun o => (ℓ o, project D o)) t := by
  have e : Hmap (fun o => (ℓ o, project (g ++ D) o)) t
      = Hmap (fun o => (ℓ o, project g o, project D o)) t :=
    Hmap_equiv _ _ t fun k _ k' _ => by
      rw [Prod.mk.injEq, Prod.mk.injEq, Prod.mk.injEq, project_append_eq_iff]
  unfold Hc
  rw [entropyOf_with_new ℓ n t hn (g ++ D)
      (fun i hi => (List.mem_append.mp hi).elim (hg i) (hD i)) (vunion g (vunion D [n]))
      (fun v => by rw [mem_vunion, mem_vunion, List.mem_append, List.mem_singleton, or_assoc]),
    entropyOf_with_new ℓ n t hn D hD (vnorm (vunion D [n]))
      (fun v => by rw [mem_vnorm, mem_vunion, List.mem_singleton]),
    entropyOf_with_new ℓ n t hn g hg (vunion g [n])
      (fun v => by rw [mem_vunion, List.mem_singleton]),
    ← entropyOf_vnorm _ [n], entropyOf_new ℓ n t hn, e]
  exact sub_eq_sub_iff_add_eq_add

end CondIndep

end Dit.Lemmas.FciBound
