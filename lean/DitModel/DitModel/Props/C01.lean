/-
C01 — The constructor builds the specified probability table, or rejects the specification.

Theorems about `Dit.construct` (the model of `Distribution.__init__` /
`ScalarDistribution.__init__` with `sort=True`, `validate=True`) for every number type with a
commutative addition, every symbol type, arbitrary Boolean comparisons `symLt`/`outLt` (nothing is
assumed of them) and every operations configuration `cfg` (the base-dependent tolerances of dit):
the rejections, each characterised exactly, in the order the checks are made; the success
criterion; sample space, base and sparse flag of the result; lookups; the stored table; the
alphabets.

Vocabulary (defined in Lemmas/Construct.lean): `noSpace sp` — no sample space was passed; `ssArg outs sp`
— the list whose rows must have one length (the outcomes if no sample space was passed, the
passed list otherwise, nothing for a `CartesianProduct`); `spaceArg symLt outLt outs sp` — the
sample space that is built; `finish cfg space outs pmf base sparse trim` — the object that is
built (rows sorted by sample-space rank, then `make_sparse(trim)` or `make_dense`).
Helper lemmas: Lemmas/Construct.lean.
-/
import DitModel.Lemmas.Construct

namespace Dit.Props.C01
open Dit Dit.Lemmas.ListBasics Dit.Lemmas.Table Dit.Lemmas.Construct

variable {σ α : Type} [DecidableEq σ] [AddCommMonoid α]
variable (cfg : NumCfg α) (symLt : σ → σ → Bool) (outLt : List σ → List σ → Bool)
  (outs : List (List σ)) (pmf : List α) (sp : SpaceArg σ) (base : Base) (sparse trim : Bool)
  (d : Dist σ α)

/-! ## Rejections -/

/-- **`InvalidDistribution`, exactly.** The constructor raises `InvalidDistribution` iff the
lengths differ or there are neither outcomes nor a sample space. -/
theorem construct_rejects_distribution_iff :
    construct cfg symLt outLt outs pmf sp base sparse trim = .error .invalidDistribution ↔
      pmf.length ≠ outs.length ∨ (outs = [] ∧ noSpace sp = true) := by
  rw [construct_eq_checks]
  simp only [check_eq_error_iff, reduceCtorEq, and_false, and_true, or_false, false_or, not_not]
  by_cases h : pmf.length = outs.length <;> simp [h]

/-- **Length mismatch.** A pmf whose length differs from the number of outcomes is rejected
with `InvalidDistribution` (first check: nothing else is looked at). -/
theorem construct_rejects_length (h : pmf.length ≠ outs.length) :
    construct cfg symLt outLt outs pmf sp base sparse trim = .error .invalidDistribution :=
  (construct_rejects_distribution_iff ..).mpr (Or.inl h)

/-- **Empty specification.** No outcomes and no sample space: `InvalidDistribution`, whatever
the pmf. -/
theorem construct_rejects_empty :
    construct cfg symLt outLt [] pmf SpaceArg.none base sparse trim
      = .error .invalidDistribution :=
  (construct_rejects_distribution_iff ..).mpr (Or.inr ⟨rfl, rfl⟩)

/-- **Ragged.** The constructor raises `ditException` iff the first two checks pass and two
rows of the checked list (the outcomes, or the supplied sample space if there is one) have
different lengths. -/
theorem construct_rejects_ragged :
    construct cfg symLt outLt outs pmf sp base sparse trim = .error .ditException ↔
      pmf.length = outs.length ∧ ¬ (outs = [] ∧ noSpace sp = true) ∧
      ∃ x ∈ ssArg outs sp, ∃ y ∈ ssArg outs sp, x.length ≠ y.length := by
  rw [construct_eq_checks, ← raggedArg_eq_true_iff]
  simp only [check_eq_error_iff, reduceCtorEq, and_false, and_true, or_false, false_or,
    Bool.not_eq_false]

/-- **Outsider.** The constructor raises `InvalidOutcome` iff the first three checks pass and
some specified outcome is not a member of the sample space. (Only possible with a supplied
sample space: `construct_none_never_outsider`.) -/
theorem construct_rejects_outsider :
    construct cfg symLt outLt outs pmf sp base sparse trim = .error .invalidOutcome ↔
      pmf.length = outs.length ∧ ¬ (outs = [] ∧ noSpace sp = true) ∧
      (∀ x ∈ ssArg outs sp, ∀ y ∈ ssArg outs sp, x.length = y.length) ∧
      ∃ o ∈ outs, o ∉ (spaceArg symLt outLt outs sp).toList := by
  rw [construct_eq_checks, ← raggedArg_eq_false_iff]
  simp only [check_eq_error_iff, reduceCtorEq, and_false, and_true, or_false, false_or,
    not_forall, exists_prop]

/-- **Unnormalised.** The constructor raises `InvalidNormalization` iff the four argument
checks pass and the sequential sum of the stored values of the built object fails the
configuration's `normOK` for the base. -/
theorem construct_rejects_norm :
    construct cfg symLt outLt outs pmf sp base sparse trim = .error .invalidNormalization ↔
      pmf.length = outs.length ∧ ¬ (outs = [] ∧ noSpace sp = true) ∧
      (∀ x ∈ ssArg outs sp, ∀ y ∈ ssArg outs sp, x.length = y.length) ∧
      (∀ o ∈ outs, o ∈ (spaceArg symLt outLt outs sp).toList) ∧
      cfg.normOK base (lsum (vals
        (finish cfg (spaceArg symLt outLt outs sp) outs pmf base sparse trim).tab)) = false := by
  rw [construct_eq_checks, ← raggedArg_eq_false_iff]
  simp only [check_eq_error_iff, reduceCtorEq, and_false, and_true, or_false, false_or,
    Bool.not_eq_true]

/-- **Out of range.** The constructor raises `InvalidProbability` iff the four argument checks
and the normalisation check pass and some stored value of the built object fails the
configuration's `rangeOK` for the base. -/
theorem construct_rejects_range :
    construct cfg symLt outLt outs pmf sp base sparse trim = .error .invalidProbability ↔
      pmf.length = outs.length ∧ ¬ (outs = [] ∧ noSpace sp = true) ∧
      (∀ x ∈ ssArg outs sp, ∀ y ∈ ssArg outs sp, x.length = y.length) ∧
      (∀ o ∈ outs, o ∈ (spaceArg symLt outLt outs sp).toList) ∧
      cfg.normOK base (lsum (vals
        (finish cfg (spaceArg symLt outLt outs sp) outs pmf base sparse trim).tab)) = true ∧
      ∃ v ∈ vals (finish cfg (spaceArg symLt outLt outs sp) outs pmf base sparse trim).tab,
        cfg.rangeOK base v = false := by
  rw [construct_eq_checks, ← raggedArg_eq_false_iff]
  simp only [check_eq_error_iff, reduceCtorEq, and_false, and_true, or_false, false_or,
    Bool.not_eq_true, List.all_eq_false]

/-- **Success, exactly.** The constructor returns an object iff none of the six rejection
conditions holds, and then the object is `finish …`: the specified rows sorted by sample-space
rank, made sparse (trimmed or not) or dense. -/
theorem construct_total :
    construct cfg symLt outLt outs pmf sp base sparse trim = .ok d ↔
      pmf.length = outs.length ∧ ¬ (outs = [] ∧ noSpace sp = true) ∧
      (∀ x ∈ ssArg outs sp, ∀ y ∈ ssArg outs sp, x.length = y.length) ∧
      (∀ o ∈ outs, o ∈ (spaceArg symLt outLt outs sp).toList) ∧
      cfg.normOK base (lsum (vals
        (finish cfg (spaceArg symLt outLt outs sp) outs pmf base sparse trim).tab)) = true ∧
      (∀ v ∈ vals (finish cfg (spaceArg symLt outLt outs sp) outs pmf base sparse trim).tab,
        cfg.rangeOK base v = true) ∧
      d = finish cfg (spaceArg symLt outLt outs sp) outs pmf base sparse trim := by
  rw [construct_ok_iff, raggedArg_eq_false_iff]

/-- **Untrimmed totals.** In sparse untrimmed mode the stored values are a permutation of the
given pmf, so the total that `normOK` sees is the sum of the given pmf and the values that
`rangeOK` sees are the given ones. -/
theorem construct_untrimmed_vals (hlen : pmf.length = outs.length) :
    (vals (finish cfg (spaceArg symLt outLt outs sp) outs pmf base true false).tab).Perm pmf ∧
    lsum (vals (finish cfg (spaceArg symLt outLt outs sp) outs pmf base true false).tab)
      = pmf.sum := by
  have hp : (vals (finish cfg (spaceArg symLt outLt outs sp) outs pmf base true false).tab).Perm
      (vals (outs.zip pmf)) := (tab_finish_untrimmed_perm cfg _ outs pmf base).map _
  rw [vals_zip outs pmf hlen] at hp
  exact ⟨hp, (lsum_eq_sum _).trans hp.sum_eq⟩

/-- **No outsider without a sample space.** When no sample space is passed and the outcomes
have one common length, every outcome is a member of the derived Cartesian space, so
`InvalidOutcome` cannot be raised by the constructor. -/
theorem construct_none_inside
    (hrect : ∀ x ∈ outs, ∀ y ∈ outs, x.length = y.length) :
    ∀ o ∈ outs, o ∈ (spaceArg symLt outLt outs SpaceArg.none).toList := by
  intro o ho
  obtain ⟨hlen, hmem⟩ := mem_alphabets_of_mem_space (sp := .expl outs) hrect ho
  show o ∈ cartesian ((alphabetsOf outs).map (isort symLt))
  rw [mem_cartesian_iff_getElem]
  refine ⟨by rw [List.length_map]; exact hlen, fun i h1 h2 => ?_⟩
  rw [List.getElem_map, mem_isort]
  exact hmem i h1 (by rwa [List.length_map] at h2)

/-- **`InvalidOutcome` needs a supplied sample space.** Without one the constructor never
raises `InvalidOutcome`. -/
theorem construct_none_never_outsider :
    construct cfg symLt outLt outs pmf SpaceArg.none base sparse trim ≠ .error .invalidOutcome := by
  intro h
  obtain ⟨-, -, hrect, o, ho, hno⟩ := (construct_rejects_outsider ..).mp h
  exact hno (construct_none_inside symLt outLt outs hrect o ho)

/-! ## Sample space, base, sparse flag -/

/-- **Sample space.** No argument: the Cartesian product of the per-position alphabets of the
outcomes, each sorted. A plain sequence: that sequence, in the given order. A `SampleSpace`:
its outcomes, sorted. A `CartesianProduct`: the product of its alphabets, each sorted. -/
theorem construct_space (h : construct cfg symLt outLt outs pmf sp base sparse trim = .ok d) :
    d.space = match sp with
      | .none => .cart ((alphabetsOf outs).map (isort symLt))
      | .list l => .expl l
      | .sampleSpace l => .expl (isort outLt l)
      | .cartesian as => .cart (as.map (isort symLt)) := by
  obtain rfl := eq_finish_of_construct_ok h
  rw [finish_space]
  cases sp <;> rfl

/-- **Base and mode.** The result carries the requested base and sparse flag. -/
theorem construct_meta (h : construct cfg symLt outLt outs pmf sp base sparse trim = .ok d) :
    d.base = base ∧ d.sparse = sparse := by
  obtain rfl := eq_finish_of_construct_ok h
  exact ⟨finish_base .., finish_sparse ..⟩

/-- **Valid result.** The result passes `validate`: total and values satisfy the
configuration's checks, and every stored outcome is in the sample space. -/
theorem construct_valid (h : construct cfg symLt outLt outs pmf sp base sparse trim = .ok d) :
    d.validate cfg = none :=
  validate_of_construct_ok h

/-! ## Lookups -/

/-- **Specified outcomes, exact form.** For pairwise distinct outcomes, lookup of the `i`-th
specified outcome returns the `i`-th specified value, except that in sparse trimmed mode a
value the configuration deems null is read back as an exact zero. -/
theorem construct_lookup_specified_exact
    (h : construct cfg symLt outLt outs pmf sp base sparse trim = .ok d) (hnd : outs.Nodup)
    (i : Nat) (o : List σ) (p : α) (ho : outs[i]? = some o) (hp : pmf[i]? = some p) :
    d.get o = some (if sparse = true ∧ trim = true ∧ cfg.isNull base p = true then 0 else p) := by
  obtain ⟨-, -, -, h4, -, -, rfl⟩ := (construct_ok_iff ..).mp h
  exact get_finish_specified cfg _ outs pmf base sparse trim hnd
    (h4 o (List.mem_of_getElem? ho)) ho hp

/-- **Specified outcomes.** For pairwise distinct outcomes, lookup of a specified outcome
returns its specified value; or, only when trimming a sparse distribution and only for a null
value, zero. The hypothesis `outs.Nodup` is needed: with a repeated outcome the first stored
row wins and the sort reverses the order of equal keys. -/
theorem construct_lookup_specified
    (h : construct cfg symLt outLt outs pmf sp base sparse trim = .ok d) (hnd : outs.Nodup)
    (i : Nat) (o : List σ) (p : α) (ho : outs[i]? = some o) (hp : pmf[i]? = some p) :
    d.get o = some p ∨
      (sparse = true ∧ trim = true ∧ cfg.isNull base p = true ∧ d.get o = some 0) := by
  have := construct_lookup_specified_exact cfg symLt outLt outs pmf sp base sparse trim d h hnd
    i o p ho hp
  by_cases hc : sparse = true ∧ trim = true ∧ cfg.isNull base p = true
  · rw [if_pos hc] at this
    exact Or.inr ⟨hc.1, hc.2.1, hc.2.2, this⟩
  · rw [if_neg hc] at this
    exact Or.inl this

/-- **Other members.** Lookup of a member of the sample space that was not specified returns
the null probability. -/
theorem construct_lookup_rest
    (h : construct cfg symLt outLt outs pmf sp base sparse trim = .ok d)
    (o : List σ) (hmem : o ∈ d.space.toList) (ho : o ∉ outs) : d.get o = some 0 := by
  obtain rfl := eq_finish_of_construct_ok h
  rw [finish_space] at hmem
  exact get_finish_rest cfg _ outs pmf base sparse trim hmem ho

/-- **Outside.** Lookup of anything that is not in the sample space raises `InvalidOutcome`
(`none` in the model). This holds of every `d`, constructed or not. -/
theorem construct_lookup_outside
    (_h : construct cfg symLt outLt outs pmf sp base sparse trim = .ok d)
    (o : List σ) (hmem : o ∉ d.space.toList) : d.get o = none :=
  get_outside hmem

/-! ## The stored table -/

/-- **Stored outcomes are members.** Every stored outcome belongs to the sample space. -/
theorem construct_keys_mem
    (h : construct cfg symLt outLt outs pmf sp base sparse trim = .ok d) :
    ∀ k ∈ keys d.tab, k ∈ d.space.toList := by
  obtain ⟨-, -, -, h4, -, -, rfl⟩ := (construct_ok_iff ..).mp h
  intro k hk
  rw [finish_space]
  exact mem_space_of_mem_keys_finish cfg _ outs pmf base sparse trim h4 hk

/-- **Duplicate-free and ordered like the sample space.** For pairwise distinct outcomes the
stored outcomes are pairwise distinct and listed in strictly increasing sample-space rank
(index of the first occurrence in the enumeration of the sample space). In dense mode this
needs (and for the order, is equivalent to) a duplicate-free enumeration of the sample space,
because there the stored outcomes are that enumeration (`construct_dense`);
`construct_space_nodup` says when that holds. -/
theorem construct_aligned
    (h : construct cfg symLt outLt outs pmf sp base sparse trim = .ok d) (hnd : outs.Nodup)
    (hsp : sparse = true ∨ d.space.toList.Nodup) :
    (keys d.tab).Nodup ∧
      (keys d.tab).Pairwise (fun a b => d.space.rank a < d.space.rank b) := by
  obtain ⟨-, -, -, h4, -, -, rfl⟩ := (construct_ok_iff ..).mp h
  rw [finish_space] at hsp ⊢
  exact ⟨nodup_keys_finish cfg _ outs pmf base sparse trim hnd hsp,
    strict_keys_finish cfg _ outs pmf base sparse trim h4 hnd hsp⟩

/-- **Sparse order without hypotheses.** In sparse mode the stored outcomes are in
non-decreasing sample-space rank, whatever the input. -/
theorem construct_sorted_sparse
    (h : construct cfg symLt outLt outs pmf sp base true trim = .ok d) :
    (keys d.tab).Pairwise (fun a b => d.space.rank a ≤ d.space.rank b) := by
  obtain rfl := eq_finish_of_construct_ok h
  rw [finish_space]
  exact sorted_keys_finish_sparse cfg _ outs pmf base trim

/-- **When the sample space is duplicate-free.** Always when it is derived from the outcomes;
for a supplied one, when the supplied list (resp. each supplied alphabet) is. -/
theorem construct_space_nodup
    (hsp : match sp with
      | .none => True
      | .list l => l.Nodup
      | .sampleSpace l => l.Nodup
      | .cartesian as => ∀ a ∈ as, a.Nodup)
    (h : construct cfg symLt outLt outs pmf sp base sparse trim = .ok d) :
    d.space.toList.Nodup := by
  obtain rfl := eq_finish_of_construct_ok h
  rw [finish_space]
  exact spaceArg_toList_nodup symLt outLt outs sp hsp

/-- **Rows are aligned.** With pairwise distinct stored outcomes, the value stored beside an
outcome (`pmf[i]` beside `outcomes[i]`) is the value lookup returns for it. -/
theorem construct_rows
    (h : construct cfg symLt outLt outs pmf sp base sparse trim = .ok d)
    (hnd : (keys d.tab).Nodup) : ∀ r ∈ d.tab, d.get r.1 = some r.2 :=
  fun _ hr => get_of_mem_tab hnd
    (construct_keys_mem cfg symLt outLt outs pmf sp base sparse trim d h) hr

/-- **Dense.** A dense result stores every member of the sample space, in its order. -/
theorem construct_dense
    (h : construct cfg symLt outLt outs pmf sp base false trim = .ok d) :
    keys d.tab = d.space.toList := by
  obtain rfl := eq_finish_of_construct_ok h
  rw [finish_space]
  exact keys_finish_dense cfg _ outs pmf base trim

/-- **Sparse and trimmed.** No stored value is null. -/
theorem construct_trimmed
    (h : construct cfg symLt outLt outs pmf sp base true true = .ok d) :
    ∀ r ∈ d.tab, cfg.isNull base r.2 = false := by
  obtain rfl := eq_finish_of_construct_ok h
  exact fun r hr => finish_trimmed cfg _ outs pmf base hr

/-- **Sparse and trimmed, stored outcomes.** Exactly the specified outcomes that carry a
non-null value. -/
theorem construct_trimmed_keys
    (h : construct cfg symLt outLt outs pmf sp base true true = .ok d) (k : List σ) :
    k ∈ keys d.tab ↔ ∃ p, (k, p) ∈ outs.zip pmf ∧ cfg.isNull base p = false := by
  obtain rfl := eq_finish_of_construct_ok h
  exact mem_keys_finish_trimmed cfg _ outs pmf base

/-- **Sparse and untrimmed.** The stored rows are the specified pairs, reordered; in
particular the stored outcomes are exactly the specified outcomes. -/
theorem construct_untrimmed
    (h : construct cfg symLt outLt outs pmf sp base true false = .ok d) :
    d.tab.Perm (outs.zip pmf) ∧ (keys d.tab).Perm outs := by
  obtain ⟨h1, -, -, -, -, -, rfl⟩ := (construct_ok_iff ..).mp h
  exact ⟨tab_finish_untrimmed_perm cfg _ outs pmf base,
    keys_finish_untrimmed_perm cfg _ outs pmf base h1⟩

/-! ## Alphabets -/

/-- **Alphabets are the symbols of the sample space.** The `i`-th alphabet of the result holds
exactly the symbols that occur at position `i` of a member of the sample space. The hypothesis
excludes a `CartesianProduct` with an empty alphabet: then the sample space is empty while the
other alphabets are not. (With outcomes present such an argument is rejected anyway.) -/
theorem construct_alphabets
    (hne : match sp with
      | .cartesian as => ∀ a ∈ as, a ≠ []
      | _ => True)
    (h : construct cfg symLt outLt outs pmf sp base sparse trim = .ok d)
    (i : Nat) (a : List σ) (ha : d.space.alphabets[i]? = some a) (s : σ) :
    s ∈ a ↔ ∃ o ∈ d.space.toList, o[i]? = some s := by
  obtain rfl := eq_finish_of_construct_ok h
  rw [finish_space] at ha ⊢
  exact mem_alphabets_iff _ (spaceArg_alphabets_ne_nil symLt outLt outs sp hne) ha s

/-- **Alphabets without a sample space.** They hold exactly the symbols of the specified
outcomes, position by position. -/
theorem construct_alphabets_none
    (h : construct cfg symLt outLt outs pmf SpaceArg.none base sparse trim = .ok d)
    (i : Nat) (a : List σ) (ha : d.space.alphabets[i]? = some a) (s : σ) :
    s ∈ a ↔ ∃ o ∈ outs, o[i]? = some s := by
  obtain rfl := eq_finish_of_construct_ok h
  rw [finish_space] at ha
  exact mem_alphabets_none symLt outLt outs ha s

/-- **Alphabets are duplicate-free**, unless a `CartesianProduct` with a repeated symbol in an
alphabet was passed. -/
theorem construct_alphabets_nodup
    (hnd : match sp with
      | .cartesian as => ∀ a ∈ as, a.Nodup
      | _ => True)
    (h : construct cfg symLt outLt outs pmf sp base sparse trim = .ok d) :
    ∀ a ∈ d.space.alphabets, a.Nodup := by
  obtain rfl := eq_finish_of_construct_ok h
  rw [finish_space]
  exact spaceArg_alphabets_nodup symLt outLt outs sp hnd

/-- **One alphabet per variable.** Every member of the sample space has as many symbols as
there are alphabets. -/
theorem construct_alphabets_length
    (h : construct cfg symLt outLt outs pmf sp base sparse trim = .ok d) :
    ∀ o ∈ d.space.toList, o.length = d.space.alphabets.length := by
  obtain ⟨-, -, h3, -, -, -, rfl⟩ := (construct_ok_iff ..).mp h
  rw [finish_space]
  exact fun o ho => spaceArg_length symLt outLt outs sp h3 ho

/-! ## Non-vacuity -/

/-- Scalar distribution with an explicit zero, a custom list sample space (unsorted, with a
member `[3]` that is not specified), sparse and trimmed: the zero is dropped, the stored order
is that of the list, the alphabet is the list. -/
example :
    (construct ratCfg natLt lexLt [[2], [0], [1]] [(1 : Rat) / 2, 0, 1 / 2]
      (.list [[2], [1], [0], [3]]) .linear true true).toOption.map
        (fun d => (d.tab, d.space.alphabets, d.get [0], d.get [3], d.get [4]))
      = some ([([2], 1 / 2), ([1], 1 / 2)], [[2, 1, 0, 3]], some 0, some 0, none) := by
  decide +kernel

/-- The same, untrimmed: the explicit zero stays stored. -/
example :
    (construct ratCfg natLt lexLt [[2], [0], [1]] [(1 : Rat) / 2, 0, 1 / 2]
      (.list [[2], [1], [0], [3]]) .linear true false).toOption.map (fun d => d.tab)
      = some [([2], 1 / 2), ([1], 1 / 2), ([0], 0)] := by
  decide +kernel

/-- Dense joint distribution with heterogeneous alphabets and no sample space. -/
example :
    (construct ratCfg natLt lexLt [[1, 5], [0, 7]] [(1 : Rat) / 4, 3 / 4]
      .none .linear false false).toOption.map (fun d => (d.tab, d.space.alphabets))
      = some ([([0, 5], 0), ([0, 7], 3 / 4), ([1, 5], 1 / 4), ([1, 7], 0)], [[0, 1], [5, 7]]) := by
  decide +kernel

/-- A sorted `SampleSpace` and a `CartesianProduct` argument. -/
example :
    (construct ratCfg natLt lexLt [[1], [0]] [(1 : Rat) / 4, 3 / 4]
      (.sampleSpace [[2], [1], [0]]) .linear false false).toOption.map (fun d => d.tab)
      = some [([0], 3 / 4), ([1], 1 / 4), ([2], 0)] := by
  decide +kernel

example :
    (construct ratCfg natLt lexLt [[1, 0]] [(1 : Rat)]
      (.cartesian [[1, 0], [0]]) .linear false false).toOption.map (fun d => d.tab)
      = some [([0, 0], 0), ([1, 0], 1)] := by
  decide +kernel

/-- The hypotheses of the theorems above are jointly satisfiable on accepted specifications:
pairwise distinct outcomes, a duplicate-free supplied list, non-empty duplicate-free supplied
alphabets. -/
example :
    (construct ratCfg natLt lexLt [[2], [0], [1]] [(1 : Rat) / 2, 0, 1 / 2]
      (.list [[2], [1], [0], [3]]) .linear true true).toOption.isSome = true ∧
    [[2], [0], [1]].Nodup ∧ [[2], [1], [0], [3]].Nodup := by
  decide +kernel

example :
    (construct ratCfg natLt lexLt [[1, 0]] [(1 : Rat)]
      (.cartesian [[1, 0], [0]]) .linear false false).toOption.isSome = true ∧
    (∀ a ∈ [[1, 0], [0]], a ≠ []) ∧ (∀ a ∈ [[1, 0], [0]], a.Nodup) := by
  decide +kernel

/-- The theorems apply at `Rat` (the driver's number type): the explicit zero of the first
example is read back as zero. -/
example (d : Dist Nat Rat)
    (h : construct ratCfg natLt lexLt [[2], [0], [1]] [(1 : Rat) / 2, 0, 1 / 2]
      (.list [[2], [1], [0], [3]]) .linear true true = .ok d) : d.get [0] = some 0 := by
  have := construct_lookup_specified_exact ratCfg natLt lexLt _ _ _ _ _ _ d h (by decide)
    1 [0] 0 rfl rfl
  simpa using this

/-- Each rejection occurs: length mismatch, empty specification, ragged outcomes, ragged
sample space, outcome outside the supplied sample space, unnormalised, out of range (a
negative entry in a table that sums to one); and a valid one is accepted. -/
example :
    [errOf (construct ratCfg natLt lexLt [[0], [1]] [(1 : Rat)] .none .linear true true),
     errOf (construct ratCfg natLt lexLt [] ([] : List Rat) .none .linear true true),
     errOf (construct ratCfg natLt lexLt [[0], [1, 1]] [(1 : Rat) / 2, 1 / 2] .none .linear true true),
     errOf (construct ratCfg natLt lexLt [[0]] [(1 : Rat)] (.list [[0], [1, 1]]) .linear true true),
     errOf (construct ratCfg natLt lexLt [[0], [2]] [(1 : Rat) / 2, 1 / 2] (.list [[0], [1]])
       .linear true true),
     errOf (construct ratCfg natLt lexLt [[0], [1]] [(1 : Rat) / 2, 1 / 3] .none .linear true true),
     errOf (construct ratCfg natLt lexLt [[0], [1]] [(3 : Rat) / 2, -1 / 2] .none .linear true true),
     errOf (construct ratCfg natLt lexLt [[0], [1]] [(1 : Rat) / 2, 1 / 2] .none .linear true true)]
    = [some .invalidDistribution, some .invalidDistribution, some .ditException,
       some .ditException, some .invalidOutcome, some .invalidNormalization,
       some .invalidProbability, none] := by
  decide +kernel

end Dit.Props.C01
