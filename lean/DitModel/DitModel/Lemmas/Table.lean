/-
The table algebra of `Core/Table.lean` and the list utilities of `Core/Dist.lean`: keys, event
weights `wtBy` (the measure a table defines, in which most facts below are stated), `dedup`,
`accum`/`pushforward` as a push-forward of measures, `lookup?`, `sortBy`, `filter`, `cartesian`,
`project`, `indexOf?` and the rank of an outcome in a sample space, disintegration over the fibres
of a map, `Dist.get` under `makeDense`/`makeSparse`, and `finishPush`, the common tail of
`coalesce` and `coalesce1`.
-/
import DitModel.Core.Coalesce
import DitModel.Lemmas.ListBasics
import Mathlib.Algebra.BigOperators.Group.List.Basic
import Mathlib.Data.List.Forall2
import Mathlib.Data.List.Induction
import Mathlib.Data.List.Nodup
import Mathlib.Data.List.Perm.Basic

namespace Dit.Lemmas.Table
open Dit Dit.Lemmas.ListBasics

/-! ## Sequential sums -/

section Sums
variable {κ α : Type} [AddCommMonoid α]

theorem mass_eq_lsum_vals (t : Tab κ α) : mass t = lsum (vals t) := List.foldl_map.symm

theorem mass_eq_sum (t : Tab κ α) : mass t = (vals t).sum := by
  rw [mass_eq_lsum_vals, lsum_eq_sum]

end Sums

/-! ## Keys and values -/

section Keys
variable {κ κ' α β : Type}

@[simp] theorem keys_cons (r : κ × α) (t : Tab κ α) : keys (r :: t) = r.1 :: keys t := rfl
theorem keys_append (s t : Tab κ α) : keys (s ++ t) = keys s ++ keys t := List.map_append
theorem mem_keys {t : Tab κ α} {k : κ} : k ∈ keys t ↔ ∃ v, (k, v) ∈ t := by
  simp only [keys, List.mem_map, Prod.exists, exists_and_right, exists_eq_right]
theorem mem_keys_of_mem {t : Tab κ α} {r : κ × α} (h : r ∈ t) : r.1 ∈ keys t :=
  List.mem_map_of_mem h

theorem keys_map (g : κ → κ') (h : κ × α → β) (t : Tab κ α) :
    keys (t.map (fun r => (g r.1, h r))) = (keys t).map g := by
  simp only [keys, List.map_map, Function.comp_def]

theorem keys_map_val (h : κ × α → β) (t : Tab κ α) :
    keys (t.map (fun r => (r.1, h r))) = keys t := by
  simp only [keys, List.map_map, Function.comp_def]

theorem keys_map_graph (l : List κ) (F : κ → α) : keys (l.map (fun o => (o, F o))) = l := by
  simp [keys, Function.comp_def]

theorem vals_map_graph (l : List κ) (F : κ → α) : vals (l.map (fun o => (o, F o))) = l.map F := by
  simp [vals, Function.comp_def]

theorem mem_keys_filter_key (q : κ → Prop) [DecidablePred q] (t : Tab κ α) (k : κ) :
    k ∈ keys (t.filter (fun r => decide (q r.1))) ↔ k ∈ keys t ∧ q k := by
  simp only [keys, List.mem_map, List.mem_filter, decide_eq_true_eq]
  exact ⟨fun ⟨r, ⟨hr, hq⟩, e⟩ => ⟨⟨r, hr, e⟩, e ▸ hq⟩,
    fun ⟨⟨r, hr, e⟩, hq⟩ => ⟨r, ⟨hr, e ▸ hq⟩, e⟩⟩

theorem map_fst_eq_map_keys (l : Tab κ β) (F : κ → α) :
    l.map (fun r => (r.1, F r.1)) = (keys l).map (fun o => (o, F o)) := by
  simp only [keys, List.map_map, Function.comp_def]

theorem keys_zip_sublist (outs : List κ) (pmf : List α) :
    (keys (outs.zip pmf)).Sublist outs := by
  induction outs generalizing pmf with
  | nil => simp [keys]
  | cons o t ih =>
    cases pmf with
    | nil => simp [keys]
    | cons p ps =>
      show (o :: keys (t.zip ps)).Sublist (o :: t)
      exact (ih ps).cons_cons o

theorem nodup_keys_zip (outs : List κ) (pmf : List α) (h : outs.Nodup) :
    (keys (outs.zip pmf)).Nodup :=
  h.sublist (keys_zip_sublist outs pmf)

theorem keys_zip (outs : List κ) (pmf : List α) (h : pmf.length = outs.length) :
    keys (outs.zip pmf) = outs := by
  unfold keys
  exact List.map_fst_zip (by omega)

theorem vals_zip (outs : List κ) (pmf : List α) (h : pmf.length = outs.length) :
    vals (outs.zip pmf) = pmf := by
  unfold vals
  exact List.map_snd_zip (by omega)

theorem zip_keys_vals (t : Tab κ α) : (keys t).zip (vals t) = t := by
  induction t with
  | nil => rfl
  | cons r t ih =>
    show (r.1, r.2) :: (keys t).zip (vals t) = r :: t
    rw [ih]

end Keys

/-! ## Event weights -/

section Wt
variable {κ κ' ι α : Type} [AddCommMonoid α]

/-- Weight (probability) of the event `p`: sum of the values of the rows whose key satisfies
`p`. Rows with duplicate keys all count. -/
def wtBy (p : κ → Prop) [DecidablePred p] (t : Tab κ α) : α :=
  (t.map (fun r => if p r.1 then r.2 else 0)).sum

@[simp] theorem wtBy_nil (p : κ → Prop) [DecidablePred p] : wtBy p ([] : Tab κ α) = 0 := rfl

theorem wtBy_cons (p : κ → Prop) [DecidablePred p] (r : κ × α) (t : Tab κ α) :
    wtBy p (r :: t) = (if p r.1 then r.2 else 0) + wtBy p t :=
  List.sum_cons

theorem wtBy_append (p : κ → Prop) [DecidablePred p] (s t : Tab κ α) :
    wtBy p (s ++ t) = wtBy p s + wtBy p t := by
  rw [wtBy, List.map_append, List.sum_append]; rfl

theorem wtBy_perm (p : κ → Prop) [DecidablePred p] {s t : Tab κ α} (h : s.Perm t) :
    wtBy p s = wtBy p t :=
  (h.map _).sum_eq

theorem wtBy_congr (p q : κ → Prop) [DecidablePred p] [DecidablePred q] (t : Tab κ α)
    (h : ∀ k ∈ keys t, p k ↔ q k) : wtBy p t = wtBy q t :=
  congrArg List.sum <| List.map_congr_left fun r hr =>
    if_congr (h r.1 (List.mem_map_of_mem hr)) rfl rfl

/-- `wtBy_congr` with the decidability instances left to unification. -/
theorem wtBy_congr' {p q : κ → Prop} {ip : DecidablePred p} {iq : DecidablePred q}
    (t : Tab κ α) (h : ∀ k ∈ keys t, p k ↔ q k) : @wtBy κ α _ p ip t = @wtBy κ α _ q iq t :=
  wtBy_congr p q t h

theorem wtBy_eq_zero (p : κ → Prop) [DecidablePred p] (t : Tab κ α)
    (h : ∀ k ∈ keys t, ¬ p k) : wtBy p t = 0 :=
  List.sum_eq_zero fun x hx => by
    obtain ⟨r, hr, rfl⟩ := List.mem_map.mp hx
    exact if_neg (h r.1 (List.mem_map_of_mem hr))

theorem wtBy_true (t : Tab κ α) : wtBy (fun _ => True) t = mass t := by
  rw [mass_eq_sum]; simp only [wtBy, vals, if_true]

theorem wtBy_split (p q : κ → Prop) [DecidablePred p] [DecidablePred q] (t : Tab κ α) :
    wtBy p t = wtBy (fun k => p k ∧ q k) t + wtBy (fun k => p k ∧ ¬ q k) t := by
  rw [wtBy, wtBy, wtBy, ← List.sum_map_add]
  congr 1
  apply List.map_congr_left
  intro r _
  by_cases hp : p r.1 <;> by_cases hq : q r.1 <;> simp [hp, hq]

theorem wtBy_filter_key (p q : κ → Prop) [DecidablePred p] [DecidablePred q] (t : Tab κ α) :
    wtBy p (t.filter (fun r => decide (q r.1))) = wtBy (fun k => p k ∧ q k) t := by
  induction t with
  | nil => rfl
  | cons r t ih =>
    rw [List.filter_cons]
    by_cases hq : q r.1
    · simp only [hq, decide_true, if_true, wtBy_cons, ih, and_true]
    · simp only [hq, decide_false, Bool.false_eq_true, if_false, wtBy_cons, ih, and_false,
        zero_add]

theorem wtBy_map_key (p : κ' → Prop) [DecidablePred p] (g : κ → κ') (t : Tab κ α) :
    wtBy p (t.map (fun r => (g r.1, r.2))) = wtBy (fun k => p (g k)) t := by
  simp only [wtBy, List.map_map, Function.comp_def]

theorem wtBy_flatMap (p : κ → Prop) [DecidablePred p] (l : List ι) (F : ι → Tab κ α) :
    wtBy p (l.flatMap F) = (l.map (fun x => wtBy p (F x))).sum := by
  induction l with
  | nil => rfl
  | cons x l ih => rw [List.flatMap_cons, wtBy_append, ih, List.map_cons, List.sum_cons]

theorem wtBy_congr_fun (p : κ → Prop) [DecidablePred p] (q : κ → Prop) [DecidablePred q]
    (t : Tab κ α) (h : ∀ k, p k ↔ q k) : wtBy p t = wtBy q t :=
  wtBy_congr p q t (fun k _ => h k)

theorem wtBy_flatMap_pair (q : κ → Prop) [DecidablePred q] (A B : ι → κ × α)
    (l : List ι) :
    wtBy q (l.flatMap (fun r => [A r, B r])) = wtBy q (l.map A) + wtBy q (l.map B) := by
  induction l with
  | nil => exact (add_zero _).symm
  | cons r l ih =>
    rw [List.flatMap_cons, List.map_cons, List.map_cons, List.cons_append, List.cons_append,
      List.nil_append, wtBy_cons, wtBy_cons, wtBy_cons, wtBy_cons, ih, ← add_assoc,
      add_add_add_comm]

theorem wtBy_single (p : κ → Prop) [DecidablePred p] (k : κ) (v : α) :
    wtBy p [(k, v)] = if p k then v else 0 :=
  add_zero _

theorem wtBy_const (c : Prop) [Decidable c] (t : Tab κ α) :
    wtBy (fun _ => c) t = if c then mass t else 0 := by
  split
  · next h => rw [← wtBy_true]; exact wtBy_congr_fun _ _ t fun _ => iff_true_intro h
  · next h => exact wtBy_eq_zero _ t fun _ _ => h

theorem wtBy_eq_sum_filter (p : κ → Prop) [DecidablePred p] (t : Tab κ α) :
    wtBy p t = ((t.filter (fun r => p r.1)).map (·.2)).sum := by
  unfold wtBy
  rw [List.sum_map_ite]
  simp

end Wt

/-! ## `dedup` (first occurrences) -/

section Dedup
variable {κ : Type} [DecidableEq κ]

theorem mem_dedup {l : List κ} {x : κ} : x ∈ dedup l ↔ x ∈ l := by
  induction l with
  | nil => simp [dedup]
  | cons y l ih =>
    simp only [dedup, List.mem_cons, List.mem_filter, ih, decide_eq_true_eq]
    by_cases h : x = y <;> simp [h]

theorem nodup_dedup (l : List κ) : (dedup l).Nodup := by
  induction l with
  | nil => exact List.nodup_nil
  | cons y l ih =>
    refine List.nodup_cons.mpr ⟨fun h => ?_, ih.filter _⟩
    simpa using (List.mem_filter.mp h).2

theorem dedup_sublist (l : List κ) : (dedup l).Sublist l := by
  induction l with
  | nil => exact List.Sublist.refl _
  | cons y l ih => exact (List.filter_sublist.trans ih).cons_cons y

theorem length_dedup_le (l : List κ) : (dedup l).length ≤ l.length :=
  (dedup_sublist l).length_le

theorem dedup_eq_self {l : List κ} : dedup l = l ↔ l.Nodup := by
  refine ⟨fun h => h ▸ nodup_dedup l, fun h => ?_⟩
  induction l with
  | nil => rfl
  | cons y l ih =>
    rw [List.nodup_cons] at h
    rw [dedup, ih h.2, List.filter_eq_self.mpr]
    intro a ha
    simpa using fun e : a = y => h.1 (e ▸ ha)

/-- `len(set(rvs)) == len(rvs)`: the uniqueness test of `parse_rvs`. -/
theorem length_dedup_eq {l : List κ} : (dedup l).length = l.length ↔ l.Nodup :=
  ⟨fun h => dedup_eq_self.mp ((dedup_sublist l).eq_of_length h),
    fun h => by rw [dedup_eq_self.mpr h]⟩

theorem dedup_concat (l : List κ) (x : κ) :
    dedup (l ++ [x]) = if x ∈ l then dedup l else dedup l ++ [x] := by
  induction l with
  | nil => rfl
  | cons y l ih =>
    rw [List.cons_append, dedup, dedup, ih]
    by_cases hy : x = y
    · subst hy; split <;> simp
    · simp only [List.mem_cons, hy, false_or]
      split <;> simp [hy]

end Dedup

/-! ## `accum`, `pushforward` -/

section Push
variable {κ κ' α : Type} [DecidableEq κ] [DecidableEq κ'] [AddCommMonoid α]

set_option linter.unusedSectionVars false in
@[simp] theorem keys_nil : keys ([] : Tab κ α) = [] := rfl

theorem wtBy_accum (p : κ → Prop) [DecidablePred p] (t : Tab κ α) (k : κ) (v : α) :
    wtBy p (accum t k v) = wtBy p t + (if p k then v else 0) := by
  induction t with
  | nil => rw [accum, wtBy_cons, wtBy_nil, add_zero, zero_add]
  | cons r t ih =>
    obtain ⟨k', v'⟩ := r
    unfold accum
    split
    · rename_i h
      subst h
      rw [wtBy_cons, wtBy_cons, ite_add_zero, add_right_comm]
    · rw [wtBy_cons, wtBy_cons, ih, add_assoc]

theorem keys_accum (t : Tab κ α) (k : κ) (v : α) :
    keys (accum t k v) = if k ∈ keys t then keys t else keys t ++ [k] := by
  induction t with
  | nil => simp [accum]
  | cons r t ih =>
    obtain ⟨k', v'⟩ := r
    unfold accum
    by_cases h : k' = k
    · subst h; simp
    · have h' : ¬ k = k' := fun e => h e.symm
      simp only [h, if_false, keys_cons, ih, List.mem_cons, h', false_or]
      split <;> simp

omit [DecidableEq κ]

/-- `pushforward` is a left fold: its recursion equation is at the last row, and proofs about it
go by induction from the right. -/
theorem pushforward_concat (f : κ → κ') (t : Tab κ α) (r : κ × α) :
    pushforward f (t ++ [r]) = accum (pushforward f t) (f r.1) r.2 :=
  List.foldl_concat ..

/-- **Push-forward of measures**, for any table, also one with repeated keys. -/
theorem wtBy_pushforward (p : κ' → Prop) [DecidablePred p] (f : κ → κ') (t : Tab κ α) :
    wtBy p (pushforward f t) = wtBy (fun k => p (f k)) t := by
  induction t using List.reverseRecOn with
  | nil => rfl
  | append_singleton t r ih =>
    rw [pushforward_concat, wtBy_accum, ih, wtBy_append, wtBy_cons, wtBy_nil, add_zero]

theorem mass_pushforward (f : κ → κ') (t : Tab κ α) : mass (pushforward f t) = mass t := by
  rw [← wtBy_true, ← wtBy_true, wtBy_pushforward]

theorem lsum_vals_pushforward (f : κ → κ') (t : Tab κ α) :
    lsum (vals (pushforward f t)) = lsum (vals t) := by
  rw [← mass_eq_lsum_vals, ← mass_eq_lsum_vals, mass_pushforward]

/-- The stored keys of a push-forward are the distinct images, in order of first appearance
(the iteration order of the `defaultdict` that `coalesce` fills). -/
theorem keys_pushforward (f : κ → κ') (t : Tab κ α) :
    keys (pushforward f t) = dedup (t.map (fun r => f r.1)) := by
  induction t using List.reverseRecOn with
  | nil => rfl
  | append_singleton t r ih =>
    rw [pushforward_concat, keys_accum, ih, List.map_append, List.map_singleton, dedup_concat]
    exact if_congr mem_dedup rfl rfl

theorem keys_pushforward_nodup (f : κ → κ') (t : Tab κ α) :
    (keys (pushforward f t)).Nodup :=
  keys_pushforward f t ▸ nodup_dedup _

theorem mem_keys_pushforward (f : κ → κ') (t : Tab κ α) (x : κ') :
    x ∈ keys (pushforward f t) ↔ ∃ k ∈ keys t, f k = x := by
  rw [keys_pushforward, mem_dedup]
  simp only [keys, List.mem_map, exists_exists_and_eq_and]

end Push

theorem pushforward_map_key {κ κ₁ κ₂ α : Type} [Add α] [DecidableEq κ₂] (f : κ₁ → κ₂)
    (g : κ → κ₁) (t : Tab κ α) :
    pushforward f (t.map (fun r => (g r.1, r.2))) = pushforward (fun k => f (g k)) t := by
  unfold pushforward
  rw [List.foldl_map]

/-! ## `lookup?` / `lookupD` -/

section Lookup
variable {κ κ' α : Type} [DecidableEq κ] [DecidableEq κ']

theorem lookup?_cons (r : κ × α) (t : Tab κ α) (k : κ) :
    lookup? (r :: t) k = if r.1 = k then some r.2 else lookup? t k := by
  obtain ⟨k', v'⟩ := r; rfl

theorem lookup?_eq_none_iff {t : Tab κ α} {k : κ} : lookup? t k = none ↔ k ∉ keys t := by
  induction t with
  | nil => exact iff_of_true rfl List.not_mem_nil
  | cons r t ih =>
    rw [lookup?_cons]
    by_cases h : r.1 = k
    · simp [h]
    · have h' : ¬ k = r.1 := fun e => h e.symm
      simp [h, h', ih]

theorem lookup?_isSome_iff {t : Tab κ α} {k : κ} : (lookup? t k).isSome ↔ k ∈ keys t := by
  rw [← not_iff_not, Bool.not_eq_true, Option.isSome_eq_false_iff, Option.isNone_iff_eq_none,
    lookup?_eq_none_iff]

theorem mem_of_lookup?_eq_some {t : Tab κ α} {k : κ} {v : α} (h : lookup? t k = some v) :
    (k, v) ∈ t := by
  induction t with
  | nil => cases h
  | cons r t ih =>
    rw [lookup?_cons] at h
    by_cases hk : r.1 = k
    · simp only [hk, if_true, Option.some.injEq] at h
      subst hk; subst h; simp
    · simp only [hk, if_false] at h
      exact List.mem_cons_of_mem _ (ih h)

theorem lookup?_eq_some_iff {t : Tab κ α} (hnd : (keys t).Nodup) {k : κ} {v : α} :
    lookup? t k = some v ↔ (k, v) ∈ t := by
  refine ⟨mem_of_lookup?_eq_some, fun hm => ?_⟩
  cases hl : lookup? t k with
  | none => exact absurd (mem_keys_of_mem hm) (lookup?_eq_none_iff.mp hl)
  | some v' =>
    cases List.inj_on_of_nodup_map hnd (mem_of_lookup?_eq_some hl) hm rfl
    rfl

theorem lookupD_eq_of_mem {t : Tab κ α} (hnd : (keys t).Nodup) {k : κ} {v : α} (h : (k, v) ∈ t)
    (z : α) : lookupD z t k = v := by
  rw [lookupD, (lookup?_eq_some_iff hnd).mpr h]; rfl

theorem lookup?_zip (outs : List κ) (pmf : List α) (hnd : outs.Nodup) {i : Nat} {o : κ} {p : α}
    (ho : outs[i]? = some o) (hp : pmf[i]? = some p) : lookup? (outs.zip pmf) o = some p := by
  rw [lookup?_eq_some_iff (nodup_keys_zip outs pmf hnd)]
  exact List.mem_iff_getElem?.mpr ⟨i, List.getElem?_zip_eq_some.mpr ⟨ho, hp⟩⟩

/-- A table whose keys are the duplicate-free list `space` is the graph of its lookup function
over `space`. -/
theorem eq_graph {t : Tab κ α} {space : List κ} (hk : keys t = space) (hnd : space.Nodup)
    (z : α) : t = space.map (fun o => (o, lookupD z t o)) := by
  subst hk
  rw [keys, List.map_map]
  conv_lhs => rw [← List.map_id t]
  exact List.map_congr_left fun r hr => by
    rw [Function.comp_apply, lookupD_eq_of_mem hnd hr z]
    rfl

theorem vals_eq_map {t : Tab κ α} {space : List κ} (hk : keys t = space) (hnd : space.Nodup)
    (z : α) : vals t = space.map (fun o => lookupD z t o) := by
  conv_lhs => rw [eq_graph hk hnd z]
  exact List.map_map

theorem lookupD_nonneg [Zero α] [Preorder α] {t : Tab κ α} (h : ∀ r ∈ t, 0 ≤ r.2) (o : κ) :
    0 ≤ lookupD 0 t o := by
  unfold lookupD
  cases hl : lookup? t o with
  | none => exact le_rfl
  | some v => exact h (o, v) (mem_of_lookup?_eq_some hl)

theorem mem_iff_lookupD_eq {t : Tab κ α} (hnd : (keys t).Nodup) {k : κ} {v z : α} (hv : v ≠ z) :
    (k, v) ∈ t ↔ lookupD z t k = v := by
  rw [← lookup?_eq_some_iff hnd, lookupD]
  cases lookup? t k with
  | none => simpa using hv.symm
  | some v' => simp

theorem lookup?_perm {s t : Tab κ α} (h : s.Perm t) (hnd : (keys s).Nodup) (k : κ) :
    lookup? s k = lookup? t k := by
  have hnd' : (keys t).Nodup := (h.map _).nodup_iff.mp hnd
  exact Option.ext fun v => by
    rw [lookup?_eq_some_iff hnd, lookup?_eq_some_iff hnd', h.mem_iff]

theorem lookupD_perm {s t : Tab κ α} (h : s.Perm t) (hnd : (keys s).Nodup) (z : α) (k : κ) :
    lookupD z s k = lookupD z t k := by
  unfold lookupD; rw [lookup?_perm h hnd]

theorem lookupD_of_not_mem (z : α) {t : Tab κ α} {k : κ} (h : k ∉ keys t) :
    lookupD z t k = z := by
  unfold lookupD; rw [lookup?_eq_none_iff.mpr h]; rfl

theorem lookup?_append (s t : Tab κ α) (k : κ) :
    lookup? (s ++ t) k = (lookup? s k).or (lookup? t k) := by
  induction s with
  | nil => rfl
  | cons r s ih =>
    rw [List.cons_append, lookup?_cons, lookup?_cons, ih]
    split <;> rfl

theorem lookup?_map_graph (l : List κ) (F : κ → α) (k : κ) :
    lookup? (l.map (fun o => (o, F o))) k = if k ∈ l then some (F k) else none := by
  induction l with
  | nil => rfl
  | cons x l ih =>
    rw [List.map_cons, lookup?_cons, ih]
    by_cases h : x = k
    · subst h; simp
    · have h' : ¬ k = x := fun e => h e.symm
      simp [h, h']

theorem lookupD_map_graph (z : α) (l : List κ) (F : κ → α) (k : κ) :
    lookupD z (l.map (fun o => (o, F o))) k = if k ∈ l then F k else z := by
  unfold lookupD
  rw [lookup?_map_graph]
  split <;> rfl

/-- For any way of deciding membership: at `κ = List σ` there are two `BEq` instances. -/
theorem lookupD_map_keys {β : Type} (z : α) (l : Tab κ β) (F : κ → α)
    (k : κ) [Decidable (k ∈ keys l)] :
    lookupD z (l.map (fun r => (r.1, F r.1))) k = if k ∈ keys l then F k else z := by
  rw [map_fst_eq_map_keys, lookupD, lookup?_map_graph]
  by_cases h : k ∈ keys l
  · rw [if_pos h, if_pos h]
    rfl
  · rw [if_neg h, if_neg h]
    rfl

variable [AddCommMonoid α]

set_option linter.unusedSectionVars false in
@[simp] theorem lookup?_nil (k : κ) : lookup? ([] : Tab κ α) k = none := rfl

theorem lookupD_eq_wtBy {t : Tab κ α} (hnd : (keys t).Nodup) (k : κ) :
    lookupD 0 t k = wtBy (fun x => x = k) t := by
  induction t with
  | nil => rfl
  | cons r t ih =>
    rw [keys_cons, List.nodup_cons] at hnd
    unfold lookupD at ih ⊢
    rw [lookup?_cons, wtBy_cons]
    by_cases h : r.1 = k
    · subst h
      rw [wtBy_eq_zero _ t (fun x hx e => by subst e; exact hnd.1 hx)]
      simp
    · simp only [h, if_false, zero_add]
      exact ih hnd.2

theorem lookupD_zero_or_mem (t : Tab κ α) (k : κ) :
    lookupD 0 t k = 0 ∨ (k, lookupD 0 t k) ∈ t := by
  unfold lookupD
  cases h : lookup? t k with
  | none => exact Or.inl rfl
  | some v => exact Or.inr (mem_of_lookup?_eq_some h)

theorem lookup?_eq_of_lookupD_eq {t u : Tab κ α} (ht : ∀ r ∈ t, r.2 ≠ 0) (hu : ∀ r ∈ u, r.2 ≠ 0)
    {k : κ} (h : lookupD 0 t k = lookupD 0 u k) : lookup? t k = lookup? u k := by
  unfold lookupD at h
  cases h1 : lookup? t k with
  | none =>
    cases h2 : lookup? u k with
    | none => rfl
    | some w =>
      rw [h1, h2] at h
      exact absurd h.symm (hu _ (mem_of_lookup?_eq_some h2))
  | some v =>
    cases h2 : lookup? u k with
    | none =>
      rw [h1, h2] at h
      exact absurd h (ht _ (mem_of_lookup?_eq_some h1))
    | some w =>
      rw [h1, h2] at h
      exact congrArg some h

omit [DecidableEq κ]

theorem mass_map_graph (l : List κ) (F : κ → α) :
    mass (l.map (fun o => (o, F o))) = (l.map F).sum := by
  rw [mass_eq_sum, vals_map_graph]

theorem lookupD_pushforward (f : κ → κ') (t : Tab κ α) (k : κ') :
    lookupD 0 (pushforward f t) k = wtBy (fun o => f o = k) t := by
  rw [lookupD_eq_wtBy (keys_pushforward_nodup f t), wtBy_pushforward]

end Lookup

/-! ## `sortBy` (dit's `reorder`) -/

section SortBy
variable {κ κ' α : Type}

theorem insertBy_eq_ins (rank : κ → Nat) (r : κ × α) (t : Tab κ α) :
    insertBy rank r t = isort.ins (fun a b => decide (rank a.1 ≤ rank b.1)) r t := by
  induction t with
  | nil => rfl
  | cons s t ih =>
    rw [insertBy, isort.ins, ih, ← ite_not]
    exact if_congr (Nat.not_lt.trans decide_eq_true_iff.symm) rfl rfl

theorem sortBy_eq_isort (rank : κ → Nat) (t : Tab κ α) :
    sortBy rank t = isort (fun a b => decide (rank a.1 ≤ rank b.1)) t := by
  induction t with
  | nil => rfl
  | cons r t ih => rw [isort, ← ih, ← insertBy_eq_ins]; rfl

theorem sortBy_perm (rank : κ → Nat) (t : Tab κ α) : (sortBy rank t).Perm t :=
  sortBy_eq_isort rank t ▸ isort_perm _ t

theorem keys_sortBy_perm (rank : κ → Nat) (t : Tab κ α) :
    (keys (sortBy rank t)).Perm (keys t) :=
  (sortBy_perm rank t).map _

theorem mem_keys_sortBy (rank : κ → Nat) (t : Tab κ α) (k : κ) :
    k ∈ keys (sortBy rank t) ↔ k ∈ keys t :=
  (keys_sortBy_perm rank t).mem_iff

theorem nodup_keys_sortBy (rank : κ → Nat) (t : Tab κ α) :
    (keys (sortBy rank t)).Nodup ↔ (keys t).Nodup :=
  (keys_sortBy_perm rank t).nodup_iff

variable [DecidableEq κ] in
theorem lookup?_sortBy (rank : κ → Nat) (t : Tab κ α) (hnd : (keys t).Nodup) (k : κ) :
    lookup? (sortBy rank t) k = lookup? t k :=
  lookup?_perm (sortBy_perm rank t) ((nodup_keys_sortBy rank t).mpr hnd) k

variable [DecidableEq κ] in
theorem lookupD_sortBy (rank : κ → Nat) (t : Tab κ α) (hnd : (keys t).Nodup) (z : α) (k : κ) :
    lookupD z (sortBy rank t) k = lookupD z t k := by
  unfold lookupD; rw [lookup?_sortBy rank t hnd]

theorem sortBy_sorted (rank : κ → Nat) (t : Tab κ α) :
    (sortBy rank t).Pairwise (fun a b => rank a.1 ≤ rank b.1) :=
  sortBy_eq_isort rank t ▸ isort_pairwise (fun a b => decide (rank a.1 ≤ rank b.1)) _
    (fun _ _ h => of_decide_eq_true h) (fun _ _ h => Nat.le_of_not_le (of_decide_eq_false h))
    (fun _ _ _ => Nat.le_trans) t

theorem keys_sortBy_sorted (rank : κ → Nat) (t : Tab κ α) :
    (keys (sortBy rank t)).Pairwise (fun a b => rank a ≤ rank b) := by
  unfold keys
  rw [List.pairwise_map]
  exact sortBy_sorted rank t

theorem filter_insertBy (rank : κ → Nat) (n : Nat) (r : κ × α) (t : Tab κ α)
    (h : t.Pairwise (fun a b => rank a.1 ≤ rank b.1)) :
    (insertBy rank r t).filter (fun x => decide (rank x.1 = n))
      = t.filter (fun x => decide (rank x.1 = n)) ++ (if rank r.1 = n then [r] else []) := by
  induction t with
  | nil => by_cases hr : rank r.1 = n <;> simp [insertBy, hr]
  | cons s t ih =>
    rw [List.pairwise_cons] at h
    unfold insertBy
    split
    · rename_i hlt
      by_cases hr : rank r.1 = n
      · -- `r` goes in front, and nothing behind it has rank `n`
        have hnil : (s :: t).filter (fun x => decide (rank x.1 = n)) = [] :=
          List.filter_eq_nil_iff.mpr fun x hx => by
            have : rank s.1 ≤ rank x.1 := by
              rcases List.mem_cons.mp hx with rfl | hx
              exacts [Nat.le_refl _, h.1 x hx]
            exact fun e => absurd (hr ▸ of_decide_eq_true e ▸ this) (Nat.not_le_of_lt hlt)
        rw [List.filter_cons, hnil]
        simp only [hr, decide_true, if_true, List.nil_append]
      · rw [List.filter_cons]
        simp only [hr, decide_false, Bool.false_eq_true, if_false, List.append_nil]
    · rw [List.filter_cons, ih h.2, List.filter_cons]
      split <;> rfl

variable [DecidableEq κ] [AddCommMonoid α] in
set_option linter.unusedSectionVars false in
/-- **Order among equal ranks.** Rows of equal rank come out in the *reverse* of their input
order (`sortBy` folds from the right and `insertBy` inserts after equal ranks), so `sortBy` is
an anti-stable sort. With pairwise distinct keys of distinct ranks this is invisible. -/
theorem filter_sortBy (rank : κ → Nat) (n : Nat) (t : Tab κ α) :
    (sortBy rank t).filter (fun x => decide (rank x.1 = n))
      = (t.filter (fun x => decide (rank x.1 = n))).reverse := by
  induction t with
  | nil => rfl
  | cons r t ih =>
    show (insertBy rank r (sortBy rank t)).filter _ = _
    rw [filter_insertBy rank n r _ (sortBy_sorted rank t), ih, List.filter_cons]
    by_cases hr : rank r.1 = n <;> simp [hr]

variable [AddCommMonoid α]

theorem wtBy_sortBy (p : κ → Prop) [DecidablePred p] (rank : κ → Nat) (t : Tab κ α) :
    wtBy p (sortBy rank t) = wtBy p t :=
  wtBy_perm p (sortBy_perm rank t)

theorem mass_sortBy (rank : κ → Nat) (t : Tab κ α) : mass (sortBy rank t) = mass t := by
  rw [← wtBy_true, ← wtBy_true, wtBy_sortBy]

end SortBy

theorem isort_lexLt_perm {α : Type} {t₁ t₂ : Tab (List Nat) α} (hnd : (keys t₁).Nodup)
    (hp : t₁.Perm t₂) :
    isort (fun a b => lexLt a.1 b.1) t₁ = isort (fun a b => lexLt a.1 b.1) t₂ := by
  have hs : ∀ t : Tab (List Nat) α,
      (isort (fun a b => lexLt a.1 b.1) t).Pairwise (fun a b => a.1 ≤ b.1) :=
    isort_pairwise _ _ (fun a b h => List.le_of_lt ((lexLt_iff _ _).mp h))
      (fun a b h => List.not_lt.mp fun h' => by rw [(lexLt_iff _ _).mpr h'] at h; cases h)
      (fun a b c => List.le_trans)
  refine List.Perm.eq_of_pairwise (fun a b ha hb hab hba => ?_) (hs t₁) (hs t₂)
    ((isort_perm _ t₁).trans (hp.trans (isort_perm _ t₂).symm))
  exact List.inj_on_of_nodup_map hnd (mem_isort.mp ha)
    (hp.mem_iff.mpr (mem_isort.mp hb)) (List.le_antisymm hab hba)

/-! ## `filter` (the trimming of `make_sparse`) -/

section Filter
variable {κ κ' α : Type}

theorem keys_filter_sublist (q : κ × α → Bool) (t : Tab κ α) :
    (keys (t.filter q)).Sublist (keys t) :=
  List.filter_sublist.map _

theorem mem_keys_filter {q : κ × α → Bool} {t : Tab κ α} {k : κ} :
    k ∈ keys (t.filter q) ↔ ∃ v, (k, v) ∈ t ∧ q (k, v) = true := by
  simp only [mem_keys, List.mem_filter]

variable [DecidableEq κ] in
theorem mem_keys_filter_iff_lookupD (q : κ × α → Bool) {t : Tab κ α} (hnd : (keys t).Nodup)
    (z : α) (k : κ) : k ∈ keys (t.filter q) ↔ k ∈ keys t ∧ q (k, lookupD z t k) = true := by
  rw [mem_keys_filter]
  constructor
  · rintro ⟨v, hv, hq⟩
    exact ⟨mem_keys.mpr ⟨v, hv⟩, by rwa [lookupD_eq_of_mem hnd hv]⟩
  · rintro ⟨hk, hq⟩
    obtain ⟨v, hv⟩ := mem_keys.mp hk
    exact ⟨v, hv, by rwa [lookupD_eq_of_mem hnd hv] at hq⟩

theorem nodup_keys_filter (q : κ × α → Bool) {t : Tab κ α} (h : (keys t).Nodup) :
    (keys (t.filter q)).Nodup :=
  h.sublist (keys_filter_sublist q t)

theorem pairwise_keys_filter (R : κ → κ → Prop) (q : κ × α → Bool) {t : Tab κ α}
    (h : (keys t).Pairwise R) : (keys (t.filter q)).Pairwise R :=
  h.sublist (keys_filter_sublist q t)

variable [DecidableEq κ] in
theorem lookup?_filter (q : κ × α → Bool) {t : Tab κ α} (hnd : (keys t).Nodup) (k : κ) :
    lookup? (t.filter q) k = (lookup? t k).filter (fun v => q (k, v)) := by
  induction t with
  | nil => rfl
  | cons r t ih =>
    obtain ⟨k', v'⟩ := r
    rw [keys_cons, List.nodup_cons] at hnd
    rw [List.filter_cons]
    by_cases hq : q (k', v') = true
    · simp only [hq, if_true, lookup?_cons]
      by_cases hk : k' = k
      · subst hk; simp [Option.filter, hq]
      · simp only [hk, if_false]; exact ih hnd.2
    · simp only [hq, Bool.false_eq_true, if_false, lookup?_cons]
      by_cases hk : k' = k
      · subst hk
        rw [ih hnd.2, lookup?_eq_none_iff.mpr hnd.1]
        simp [Option.filter, hq]
      · simp only [hk, if_false]; exact ih hnd.2

variable [DecidableEq κ] in
theorem lookupD_filter (q : κ × α → Bool) {t : Tab κ α} (hnd : (keys t).Nodup) (z : α) (k : κ) :
    lookupD z (t.filter q) k
      = match lookup? t k with
        | some v => if q (k, v) then v else z
        | none => z := by
  unfold lookupD
  rw [lookup?_filter q hnd]
  cases lookup? t k with
  | none => rfl
  | some v => by_cases h : q (k, v) = true <;> simp [Option.filter, h]

variable [AddCommMonoid α]

theorem wtBy_filter_add (p : κ → Prop) [DecidablePred p] (q : κ × α → Bool) (t : Tab κ α) :
    wtBy p (t.filter q) + wtBy p (t.filter (fun r => !q r)) = wtBy p t := by
  induction t with
  | nil => simp
  | cons r t ih =>
    rw [List.filter_cons, List.filter_cons]
    by_cases hq : q r = true
    · simp only [hq, if_true, Bool.not_true, Bool.false_eq_true, if_false, wtBy_cons, add_assoc, ih]
    · simp only [hq, Bool.false_eq_true, if_false, Bool.not_false, if_true, wtBy_cons]
      rw [add_left_comm, ih]

theorem wtBy_filter_of_zero (p : κ → Prop) [DecidablePred p] (q : κ × α → Bool) (t : Tab κ α)
    (h : ∀ r ∈ t, q r = false → r.2 = 0) : wtBy p (t.filter q) = wtBy p t := by
  induction t with
  | nil => rfl
  | cons r t ih =>
    have ih' := ih (fun x hx => h x (List.mem_cons_of_mem _ hx))
    rw [List.filter_cons]
    by_cases hq : q r = true
    · simp only [hq, if_true, wtBy_cons, ih']
    · have h0 := h r (by simp) (by simpa using hq)
      simp only [hq, Bool.false_eq_true, if_false, wtBy_cons, ih', h0, ite_self, zero_add]

end Filter

/-! ## `cartesian` (`itertools.product`) -/

section Cartesian
variable {σ : Type}

theorem mem_cartesian {as : List (List σ)} {o : List σ} :
    o ∈ cartesian as ↔ List.Forall₂ (fun x a => x ∈ a) o as := by
  induction as generalizing o with
  | nil => simp [cartesian]
  | cons a rest ih =>
    simp only [cartesian, List.mem_flatMap, List.mem_map, List.forall₂_cons_right_iff]
    constructor
    · rintro ⟨x, hx, o', ho', rfl⟩
      exact ⟨x, o', hx, ih.mp ho', rfl⟩
    · rintro ⟨x, o', hx, ho', rfl⟩
      exact ⟨x, hx, o', ih.mpr ho', rfl⟩

theorem mem_cartesian_iff_getElem {as : List (List σ)} {o : List σ} :
    o ∈ cartesian as ↔
      o.length = as.length ∧ ∀ (i : Nat) (h1 : i < o.length) (h2 : i < as.length), o[i] ∈ as[i] := by
  rw [mem_cartesian, List.forall₂_iff_get]
  simp

theorem length_of_mem_cartesian {as : List (List σ)} {o : List σ} (h : o ∈ cartesian as) :
    o.length = as.length :=
  (mem_cartesian.mp h).length_eq

theorem mem_cartesian_pair {A B : List σ} {o : List σ} :
    o ∈ cartesian [A, B] ↔ ∃ i ∈ A, ∃ j ∈ B, o = [i, j] := by
  rw [mem_cartesian]
  constructor
  · rintro (_ | ⟨hi, _ | ⟨hj, _ | _⟩⟩)
    exact ⟨_, hi, _, hj, rfl⟩
  · rintro ⟨i, hi, j, hj, rfl⟩
    exact .cons hi (.cons hj .nil)

theorem length_cartesian (as : List (List σ)) :
    (cartesian as).length = (as.map List.length).prod := by
  induction as with
  | nil => simp [cartesian]
  | cons a rest ih =>
    simp only [cartesian, List.length_flatMap, List.length_map, ih, List.map_const',
      List.sum_replicate, Nat.nsmul_eq_mul, List.map_cons, List.prod_cons]

theorem nodup_cartesian {as : List (List σ)} (h : ∀ a ∈ as, a.Nodup) : (cartesian as).Nodup := by
  induction as with
  | nil => simp [cartesian]
  | cons a rest ih =>
    have hrest := ih (fun b hb => h b (List.mem_cons_of_mem _ hb))
    have ha := h a (by simp)
    unfold cartesian
    rw [List.nodup_flatMap]
    refine ⟨fun x _ => hrest.map (fun u v e => by injection e), ?_⟩
    refine ha.imp ?_
    intro x y hxy
    simp only [Function.onFun]
    rw [List.disjoint_left]
    intro z hz1 hz2
    rcases List.mem_map.mp hz1 with ⟨u, _, rfl⟩
    rcases List.mem_map.mp hz2 with ⟨v, _, e⟩
    injection e with e1 _
    exact hxy e1.symm

end Cartesian

/-! ## `project` / `projectGroups` -/

section Project
variable {σ : Type}

theorem forall₂_filterMap {α β : Type} {f : α → Option β} {l : List α}
    (h : ∀ a ∈ l, (f a).isSome) : List.Forall₂ (fun b a => f a = some b) (l.filterMap f) l := by
  induction l with
  | nil => exact List.Forall₂.nil
  | cons a l ih =>
    obtain ⟨b, hb⟩ := Option.isSome_iff_exists.mp (h a List.mem_cons_self)
    rw [List.filterMap_cons_some hb]
    exact List.Forall₂.cons hb (ih fun x hx => h x (List.mem_cons_of_mem _ hx))

theorem project_nil (o : List σ) : project [] o = [] := rfl

theorem project_cons (i : Nat) (g : List Nat) (o : List σ) :
    project (i :: g) o = match o[i]? with
      | some x => x :: project g o
      | none => project g o := by
  simp only [project, List.filterMap_cons]
  cases o[i]? <;> rfl

theorem forall₂_project {τ : Type} {R : σ → τ → Prop} {o : List σ} {as : List τ}
    (h : List.Forall₂ R o as) (g : List Nat) : List.Forall₂ R (project g o) (project g as) := by
  induction g with
  | nil => exact List.Forall₂.nil
  | cons i g ih =>
    rw [project_cons, project_cons]
    rcases Nat.lt_or_ge i o.length with hi | hi
    · have hi' : i < as.length := h.length_eq ▸ hi
      rw [List.getElem?_eq_getElem hi, List.getElem?_eq_getElem hi']
      exact List.Forall₂.cons (h.get hi hi') ih
    · rw [List.getElem?_eq_none hi, List.getElem?_eq_none (h.length_eq ▸ hi)]
      exact ih

theorem project_of_forall₂ {g : List Nat} {o xs : List σ}
    (h : List.Forall₂ (fun i x => o[i]? = some x) g xs) :
    (∀ i ∈ g, i < o.length) ∧ project g o = xs := by
  induction h with
  | nil => exact ⟨nofun, rfl⟩
  | cons hix _ ih =>
    exact ⟨List.forall_mem_cons.mpr ⟨(List.getElem?_eq_some_iff.mp hix).1, ih.1⟩,
      by rw [project_cons, hix, ih.2]⟩

theorem project_cons_of_lt {i : Nat} {o : List σ} (hi : i < o.length) (g : List Nat) :
    project (i :: g) o = o[i] :: project g o := by
  rw [project_cons, List.getElem?_eq_getElem hi]

theorem length_project {g : List Nat} {o : List σ} (h : ∀ i ∈ g, i < o.length) :
    (project g o).length = g.length := by
  induction g with
  | nil => rfl
  | cons i g ih =>
    rw [project_cons, List.getElem?_eq_getElem (h i (by simp))]
    simp [ih (fun j hj => h j (List.mem_cons_of_mem _ hj))]

theorem getElem?_project {I : List Nat} {o : List σ} (h : ∀ i ∈ I, i < o.length) (j : Nat) :
    (project I o)[j]? = (I[j]?).bind (fun i => o[i]?) := by
  induction I generalizing j with
  | nil => rfl
  | cons i I ih =>
    have hi := List.getElem?_eq_getElem (h i List.mem_cons_self)
    rw [project_cons, hi]
    cases j with
    | zero => exact hi.symm
    | succ j => exact ih (fun k hk => h k (List.mem_cons_of_mem _ hk)) j

theorem project_filter_lt (I : List Nat) (o : List σ) :
    project (I.filter (fun i => decide (i < o.length))) o = project I o := by
  induction I with
  | nil => rfl
  | cons i I ih =>
    rw [List.filter_cons]
    by_cases hi : i < o.length
    · simp only [hi, decide_true, if_true, project_cons, ih]
    · simp only [hi, decide_false, Bool.false_eq_true, if_false, project_cons, ih,
        List.getElem?_eq_none (Nat.le_of_not_lt hi)]

/-- **Staging on outcomes.** Validity of `I` is needed: an invalid index is dropped and shifts the
later positions. -/
theorem project_project {I : List Nat} {o : List σ} (h : ∀ i ∈ I, i < o.length) (J : List Nat) :
    project J (project I o) = project (J.filterMap (fun j => I[j]?)) o := by
  show J.filterMap (fun j => (project I o)[j]?) = (J.filterMap (fun j => I[j]?)).filterMap _
  rw [List.filterMap_filterMap]
  apply List.filterMap_congr
  intro j _
  exact getElem?_project h j

/-- Staging without a validity assumption: invalid indices of the first stage are dropped. -/
theorem project_project' (I J : List Nat) (o : List σ) :
    project J (project I o)
      = project (J.filterMap (fun j => (I.filter (fun i => decide (i < o.length)))[j]?)) o := by
  rw [← project_filter_lt I o]
  exact project_project (fun i hi => by simpa using (List.mem_filter.mp hi).2) J

theorem mem_filterMap_getElem?_lt {I J : List Nat} {n : Nat} (h : ∀ i ∈ I, i < n) :
    ∀ i ∈ J.filterMap (fun j => I[j]?), i < n := by
  intro i hi
  rcases List.mem_filterMap.mp hi with ⟨j, _, hj⟩
  exact h i (List.mem_of_getElem? hj)

theorem project_nil_right (g : List Nat) : project g ([] : List σ) = [] :=
  List.filterMap_eq_nil_iff.mpr fun _ _ => List.getElem?_nil

/-- **Variable order is kept.** Projecting onto strictly increasing indices (what `parse_rvs`
returns for `marginal`) selects a subsequence: the kept components appear in their original
order. -/
theorem project_sublist {g : List Nat} (h : g.Pairwise (· < ·)) (o : List σ) :
    (project g o).Sublist o := by
  -- the valid indices as positions of `o`, so that `List.map_getElem_sublist` applies
  let pos (i : Nat) : Option (Fin o.length) := if hi : i < o.length then some ⟨i, hi⟩ else none
  have hpos : ∀ i b, pos i = some b → b.1 = i := fun i b hb => by
    obtain ⟨_, hb⟩ := Option.dite_none_right_eq_some.mp hb
    cases hb
    rfl
  have e : project g o = (g.filterMap pos).map (o[·]) := by
    rw [List.map_filterMap]
    refine List.filterMap_congr fun i _ => ?_
    by_cases hi : i < o.length
    · simp only [pos, dif_pos hi, Option.map_some, List.getElem?_eq_getElem hi, Fin.getElem_fin]
    · simp only [pos, dif_neg hi, Option.map_none, List.getElem?_eq_none (Nat.le_of_not_lt hi)]
  rw [e]
  refine List.map_getElem_sublist (h.filterMap pos fun i i' hii b hb b' hb' => ?_)
  rwa [Fin.lt_def, hpos i b hb, hpos i' b' hb']

theorem projectGroups_eq (groups : List (List Nat)) (o : List σ) :
    projectGroups groups o = groups.map (fun g => project g o) := rfl

end Project

/-! ## `indexOf?` and the rank of an outcome in a sample space -/

section Rank
variable {κ σ : Type} [DecidableEq κ] [DecidableEq σ]

theorem indexOf?_cons (y : κ) (l : List κ) (x : κ) :
    indexOf? (y :: l) x = if y = x then some 0 else (indexOf? l x).map (· + 1) := rfl

theorem indexOf?_eq_none_iff {l : List κ} {x : κ} : indexOf? l x = none ↔ x ∉ l := by
  induction l with
  | nil => simp [indexOf?]
  | cons y l ih =>
    rw [indexOf?_cons]
    by_cases h : y = x
    · simp [h]
    · have h' : ¬ x = y := fun e => h e.symm
      simp [h, h', ih]

theorem indexOf?_isSome_iff {l : List κ} {x : κ} : (indexOf? l x).isSome ↔ x ∈ l := by
  rw [← not_iff_not, Bool.not_eq_true, Option.isSome_eq_false_iff, Option.isNone_iff_eq_none,
    indexOf?_eq_none_iff]

theorem indexOf?_eq_some {l : List κ} {x : κ} {i : Nat} (h : indexOf? l x = some i) :
    l[i]? = some x ∧ ∀ j, j < i → l[j]? ≠ some x := by
  induction l generalizing i with
  | nil => simp [indexOf?] at h
  | cons y l ih =>
    rw [indexOf?_cons] at h
    split at h
    · rename_i hy
      cases h
      exact ⟨congrArg some hy, fun j hj => absurd hj (Nat.not_lt_zero j)⟩
    · rename_i hy
      obtain ⟨i', hi', rfl⟩ := Option.map_eq_some_iff.mp h
      obtain ⟨h1, h2⟩ := ih hi'
      refine ⟨h1, fun j hj => ?_⟩
      cases j with
      | zero => exact fun e => hy (Option.some.inj e)
      | succ j => exact h2 j (Nat.lt_of_succ_lt_succ hj)

/-! The rank of `x` in the list `l` is `(indexOf? l x).getD l.length`: the index of its first
occurrence, `l.length` if absent (`Space.rank s` is the rank in `s.toList`). -/

theorem rank_cons_self (y : κ) (l : List κ) :
    (indexOf? (y :: l) y).getD (y :: l).length = 0 := by
  simp [indexOf?_cons]

theorem rank_cons_of_ne {y x : κ} (l : List κ) (h : y ≠ x) :
    (indexOf? (y :: l) x).getD (y :: l).length = (indexOf? l x).getD l.length + 1 := by
  rw [indexOf?_cons]
  simp only [h, if_false, List.length_cons]
  cases indexOf? l x <;> simp

theorem rank_lt_length_iff {l : List κ} {x : κ} :
    (indexOf? l x).getD l.length < l.length ↔ x ∈ l := by
  cases hi : indexOf? l x with
  | none => exact iff_of_false (Nat.lt_irrefl _) (indexOf?_eq_none_iff.mp hi)
  | some i =>
    have hx := (indexOf?_eq_some hi).1
    exact iff_of_true (List.getElem?_eq_some_iff.mp hx).1 (List.mem_of_getElem? hx)

theorem rank_inj {l : List κ} {x y : κ} (hx : x ∈ l) (hy : y ∈ l)
    (h : (indexOf? l x).getD l.length = (indexOf? l y).getD l.length) : x = y := by
  cases hi : indexOf? l x with
  | none => exact absurd hx (indexOf?_eq_none_iff.mp hi)
  | some i =>
    cases hj : indexOf? l y with
    | none => exact absurd hy (indexOf?_eq_none_iff.mp hj)
    | some j =>
      rw [hi, hj] at h
      simp only [Option.getD_some] at h
      subst h
      have h1 := (indexOf?_eq_some hi).1
      have h2 := (indexOf?_eq_some hj).1
      rw [h1] at h2
      exact Option.some.inj h2

theorem pairwise_rank_of_nodup {l : List κ} (h : l.Nodup) :
    l.Pairwise (fun a b => (indexOf? l a).getD l.length < (indexOf? l b).getD l.length) := by
  induction l with
  | nil => exact List.Pairwise.nil
  | cons y l ih =>
    rw [List.nodup_cons] at h
    refine List.pairwise_cons.mpr ⟨?_, ?_⟩
    · intro b hb
      have hne : y ≠ b := fun e => h.1 (e ▸ hb)
      rw [rank_cons_self, rank_cons_of_ne l hne]; exact Nat.succ_pos _
    · refine (ih h.2).imp_of_mem ?_
      intro a b ha hb hab
      have hna : y ≠ a := fun e => h.1 (e ▸ ha)
      have hnb : y ≠ b := fun e => h.1 (e ▸ hb)
      rw [rank_cons_of_ne l hna, rank_cons_of_ne l hnb]; exact Nat.succ_lt_succ hab

theorem Space.mem_iff (s : Space σ) (o : List σ) : s.mem o = true ↔ o ∈ s.toList := by
  simp [Space.mem]

/-- The rank is a position of the sample space exactly for its members. -/
theorem Space.rank_lt_iff (s : Space σ) (o : List σ) :
    s.rank o < s.toList.length ↔ o ∈ s.toList :=
  rank_lt_length_iff

theorem Space.pairwise_rank (s : Space σ) (h : s.toList.Nodup) :
    s.toList.Pairwise (fun a b => s.rank a < s.rank b) :=
  pairwise_rank_of_nodup h

theorem strict_of_sorted_nodup (space : Space σ) {l : List (List σ)} 
    (hmem : ∀ k ∈ l, k ∈ space.toList) (hnd : l.Nodup) (hs : l.Pairwise (fun a b => space.rank a ≤ space.rank b)) :
    l.Pairwise (fun a b => space.rank a < space.rank b) := by
  refine (hs.and hnd).imp_of_mem ?_
  intro a b ha hb ⟨hle, hne⟩
  refine Nat.lt_of_le_of_ne hle (fun e => hne ?_)
  exact rank_inj (hmem a ha) (hmem b hb) e

end Rank

/-! ## Disintegration: summing fibre weights over a duplicate-free list of keys -/

section Disint
variable {κ κ' α : Type} [DecidableEq κ] [DecidableEq κ'] [AddCommMonoid α]

theorem sum_map_ite_eq_of_nodup {l : List κ} (hl : l.Nodup) {a : κ} (ha : a ∈ l) (F : κ → α) :
    (l.map (fun x => if a = x then F x else 0)).sum = F a := by
  rw [List.sum_map_eq_nsmul_single a _ fun x hx _ => if_neg (Ne.symm hx),
    List.count_eq_one_of_mem hl ha, one_nsmul, if_pos rfl]

omit [DecidableEq κ] in
theorem wtBy_map_graph (q : κ → Prop) [DecidablePred q] (l : List κ) (F : κ → α) :
    wtBy q (l.map (fun x => (x, F x))) = (l.map (fun x => if q x then F x else 0)).sum := by
  simp [wtBy, Function.comp_def]

omit [DecidableEq κ] in
theorem sum_map_wtBy_fibre {l : List κ'} (hl : l.Nodup) (f : κ → κ') (q : κ' → Prop)
    [DecidablePred q] (t : Tab κ α) (h : ∀ k ∈ keys t, f k ∈ l) :
    (l.map (fun x => if q x then wtBy (fun k => f k = x) t else 0)).sum
      = wtBy (fun k => q (f k)) t := by
  induction t with
  | nil => simp
  | cons r t ih =>
    have ih' := ih (fun k hk => h k (List.mem_cons_of_mem _ hk))
    have hr : f r.1 ∈ l := h r.1 (by simp)
    have e : (fun x => if q x then wtBy (fun k => f k = x) (r :: t) else 0)
        = fun x => (if f r.1 = x then (if q x then r.2 else 0) else 0)
            + (if q x then wtBy (fun k => f k = x) t else 0) := by
      funext x
      rw [wtBy_cons]
      by_cases hx : f r.1 = x <;> simp [hx, ite_add_zero]
    rw [e, List.sum_map_add, ih', sum_map_ite_eq_of_nodup hl hr, wtBy_cons]

theorem sum_map_wtBy_singleton {l : List κ} (hl : l.Nodup) (t : Tab κ α)
    (h : ∀ k ∈ keys t, k ∈ l) :
    (l.map (fun x => wtBy (fun k => k = x) t)).sum = mass t := by
  have := sum_map_wtBy_fibre hl (fun k : κ => k) (fun _ => True) t h
  simpa [wtBy_true] using this

omit [DecidableEq κ] in
theorem sum_map_wtBy_fibre_and {l : List κ'} (hl : l.Nodup) (f : κ → κ')
    (q : κ → Prop) [DecidablePred q] (t : Tab κ α) :
    (l.map (fun x => wtBy (fun k => f k = x ∧ q k) t)).sum
      = wtBy (fun k => q k ∧ f k ∈ l) t := by
  induction l with
  | nil => exact (wtBy_eq_zero _ t fun k _ h => List.not_mem_nil h.2).symm
  | cons x l ih =>
    rw [List.nodup_cons] at hl
    rw [List.map_cons, List.sum_cons, ih hl.2,
      wtBy_split (fun k => q k ∧ f k ∈ x :: l) (fun k => f k = x)]
    exact congrArg₂ (· + ·)
      (wtBy_congr_fun _ _ t fun k =>
        ⟨fun h => ⟨⟨h.2, List.mem_cons.mpr (Or.inl h.1)⟩, h.1⟩, fun h => ⟨h.2, h.1.1⟩⟩)
      (wtBy_congr_fun _ _ t fun k =>
        ⟨fun h => ⟨⟨h.1, List.mem_cons_of_mem _ h.2⟩, fun e => hl.1 (e ▸ h.2)⟩,
          fun h => ⟨h.1.1, (List.mem_cons.mp h.1.2).resolve_left h.2⟩⟩)

theorem wtBy_retab (q : κ → Prop) [DecidablePred q]
    {l : List κ} (hl : l.Nodup) {t : Tab κ α} (ht : (keys t).Nodup) (hsub : ∀ k ∈ keys t, k ∈ l) :
    wtBy q (l.map (fun o => (o, lookupD 0 t o))) = wtBy q t := by
  rw [wtBy_map_graph, ← sum_map_wtBy_fibre hl (fun k => k) q t hsub]
  simp only [lookupD_eq_wtBy ht]

omit [DecidableEq κ] in
theorem sum_wtBy_fibre_on {l : List κ'} (hl : l.Nodup) (f : κ → κ') (E : κ → Prop)
    [DecidablePred E] (t : Tab κ α) (h : ∀ k ∈ keys t, E k → f k ∈ l) :
    (l.map (fun x => wtBy (fun k => f k = x ∧ E k) t)).sum = wtBy E t :=
  (sum_map_wtBy_fibre_and hl f E t).trans
    (wtBy_congr' t fun k hk => ⟨And.left, fun h' => ⟨h', h k hk h'⟩⟩)

theorem sum_lookupD (t : Tab κ α) (hk : (keys t).Nodup) {l : List κ} (hl : l.Nodup) :
    (l.map (fun o => lookupD 0 t o)).sum = wtBy (fun o => o ∈ l) t :=
  (congrArg List.sum (List.map_congr_left fun x hx => (lookupD_eq_wtBy hk x).trans
      (wtBy_congr' t fun _ _ => ⟨fun e => ⟨e, e ▸ hx⟩, And.left⟩))).trans
    (sum_wtBy_fibre_on hl id (fun o => o ∈ l) t fun _ _ h => h)

end Disint

/-! ## Distribution values: `get`, `makeDense`, `makeSparse` -/

section DistLemmas
variable {σ α : Type} [DecidableEq σ] [AddCommMonoid α]

theorem get_eq (d : Dist σ α) (o : List σ) :
    d.get o = if o ∈ d.space.toList then some (lookupD 0 d.tab o) else none := by
  simp only [Dist.get, Space.mem_iff]

theorem get_of_mem_space {d : Dist σ α} {o : List σ} (ho : o ∈ d.space.toList) :
    d.get o = some (lookupD 0 d.tab o) := by
  rw [get_eq, if_pos ho]

theorem get_outside {d : Dist σ α} {o : List σ} (ho : o ∉ d.space.toList) : d.get o = none := by
  rw [get_eq, if_neg ho]

theorem get_of_mem_tab {d : Dist σ α} (hnd : (keys d.tab).Nodup)
    (hmem : ∀ k ∈ keys d.tab, k ∈ d.space.toList) {r : List σ × α} (hr : r ∈ d.tab) :
    d.get r.1 = some r.2 := by
  rw [get_of_mem_space (hmem _ (mem_keys_of_mem hr)), lookupD, (lookup?_eq_some_iff hnd).mpr hr]
  rfl

theorem get_makeDense (d : Dist σ α) (o : List σ) : d.makeDense.get o = d.get o := by
  rw [get_eq, get_eq]
  show (if o ∈ d.space.toList then some (lookupD 0 (d.space.toList.map _) o) else none) = _
  split
  · rename_i h
    rw [lookupD, lookup?_map_graph, if_pos h]
    rfl
  · rfl

theorem keys_makeDense (d : Dist σ α) : keys d.makeDense.tab = d.space.toList :=
  keys_map_graph _ _

/-- `make_sparse(trim=True)` on a table with pairwise distinct keys: a stored null value
reads as an exact zero afterwards; everything else is unchanged. -/
theorem get_makeSparse_trim (cfg : NumCfg α) (d : Dist σ α) (hnd : (keys d.tab).Nodup)
    (o : List σ) :
    (d.makeSparse cfg true).get o
      = if o ∈ d.space.toList then
          some (if cfg.isNull d.base (lookupD 0 d.tab o) = true ∧ o ∈ keys d.tab then 0
                else lookupD 0 d.tab o)
        else none := by
  rw [get_eq]
  show (if o ∈ d.space.toList then some (lookupD 0 (d.tab.filter _) o) else none) = _
  refine if_congr Iff.rfl (congrArg some ?_) rfl
  rw [lookupD_filter _ hnd, lookupD]
  cases hl : lookup? d.tab o with
  | none => exact (if_neg fun h => lookup?_eq_none_iff.mp hl h.2).symm
  | some v =>
    have hk : o ∈ keys d.tab := lookup?_isSome_iff.mp (hl ▸ rfl)
    show (if (!cfg.isNull d.base v) = true then v else 0)
      = if cfg.isNull d.base v = true ∧ o ∈ keys d.tab then 0 else v
    cases cfg.isNull d.base v
    · exact (if_neg fun h => Bool.false_ne_true h.1).symm
    · exact (if_pos ⟨rfl, hk⟩).symm

end DistLemmas

/-! ## The common tail of `coalesce` and `coalesce1`

Both build `{space := sp, tab := sortBy sp.rank (pushforward f d.tab), …}` and finish with
`make_sparse(trim=True)` or `make_dense`.  `finishPush` is that tail; `coalesce1_eq_finishPush`
and `coalesce_eq_finishPush` hold by `rfl`, so nothing is re-modelled here. -/

section Finish
variable {κ σ σ' α : Type} [DecidableEq σ] [DecidableEq σ'] [AddCommMonoid α]

/-- Common tail of `Dist.coalesce` / `Dist.coalesce1` (proof device only). -/
def finishPush (cfg : NumCfg α) (sp : Space σ') (f : κ → List σ') (t : Tab κ α)
    (sparse : Bool) (base : Base) : Dist σ' α :=
  let d' : Dist σ' α :=
    { space := sp, tab := sortBy sp.rank (pushforward f t), sparse := sparse, base := base }
  if sparse then d'.makeSparse cfg true else d'.makeDense

theorem coalesce1_eq_finishPush (cfg : NumCfg α) (outLt : List σ → List σ → Bool)
    (d : Dist σ α) (g : List Nat) :
    d.coalesce1 cfg outLt g
      = finishPush cfg (d.space.extract outLt g) (project g) d.tab d.sparse d.base := rfl

theorem coalesce_eq_finishPush (cfg : NumCfg α) (outLt : List (List σ) → List (List σ) → Bool)
    (d : Dist σ α) (groups : List (List Nat)) :
    d.coalesce cfg outLt groups
      = finishPush cfg (d.space.coalesce outLt groups) (projectGroups groups) d.tab
          d.sparse d.base := rfl

theorem nodup_keys_sorted_pushforward (sp : Space σ') (f : κ → List σ') (t : Tab κ α) :
    (keys (sortBy sp.rank (pushforward f t))).Nodup :=
  (nodup_keys_sortBy _ _).mpr (keys_pushforward_nodup f t)

theorem lookupD_sorted_pushforward (sp : Space σ') (f : κ → List σ') (t : Tab κ α)
    (o : List σ') :
    lookupD 0 (sortBy sp.rank (pushforward f t)) o = wtBy (fun k => f k = o) t := by
  rw [lookupD_sortBy _ _ (keys_pushforward_nodup f t), lookupD_pushforward]

variable {cfg : NumCfg α} {sp : Space σ'} {f : κ → List σ'} {t : Tab κ α} {base : Base}

theorem finishPush_space (b : Bool) : (finishPush cfg sp f t b base).space = sp := by
  cases b <;> rfl

theorem finishPush_base (b : Bool) : (finishPush cfg sp f t b base).base = base := by
  cases b <;> rfl

theorem finishPush_sparse (b : Bool) : (finishPush cfg sp f t b base).sparse = b := by
  cases b <;> rfl

theorem finishPush_tab_dense :
    (finishPush cfg sp f t false base).tab
      = sp.toList.map (fun o => (o, wtBy (fun k => f k = o) t)) :=
  List.map_congr_left fun o _ => by rw [lookupD_sorted_pushforward]

theorem finishPush_tab_sparse :
    (finishPush cfg sp f t true base).tab
      = (sortBy sp.rank (pushforward f t)).filter (fun r => !cfg.isNull base r.2) := rfl

theorem finishPush_get_none (b : Bool) {o : List σ'} (ho : o ∉ sp.toList) :
    (finishPush cfg sp f t b base).get o = none := by
  rw [get_eq, finishPush_space, if_neg ho]

theorem finishPush_get_dense {o : List σ'} (ho : o ∈ sp.toList) :
    (finishPush cfg sp f t false base).get o = some (wtBy (fun k => f k = o) t) := by
  show (Dist.makeDense _).get o = _
  rw [get_makeDense, get_eq, if_pos ho, lookupD_sorted_pushforward]

theorem finishPush_get_sparse {o : List σ'} (ho : o ∈ sp.toList) :
    (finishPush cfg sp f t true base).get o
      = some (if cfg.isNull base (wtBy (fun k => f k = o) t) = true
                  ∧ o ∈ keys (pushforward f t) then 0
              else wtBy (fun k => f k = o) t) := by
  show (Dist.makeSparse cfg _ true).get o = _
  rw [get_makeSparse_trim cfg _ (nodup_keys_sorted_pushforward sp f t), if_pos ho]
  simp only [lookupD_sorted_pushforward, mem_keys_sortBy]

theorem finishPush_get (b : Bool) (o : List σ') :
    (o ∈ sp.toList →
      (finishPush cfg sp f t b base).get o = some (wtBy (fun k => f k = o) t)
      ∨ (b = true ∧ cfg.isNull base (wtBy (fun k => f k = o) t) = true
          ∧ (finishPush cfg sp f t b base).get o = some 0))
    ∧ (o ∉ sp.toList → (finishPush cfg sp f t b base).get o = none) := by
  refine ⟨fun ho => ?_, finishPush_get_none b⟩
  cases b with
  | false => exact Or.inl (finishPush_get_dense ho)
  | true =>
    rw [finishPush_get_sparse ho]
    split
    · rename_i hn
      exact Or.inr ⟨rfl, hn.1, rfl⟩
    · exact Or.inl rfl

theorem finishPush_keys_dense :
    keys (finishPush cfg sp f t false base).tab = sp.toList :=
  keys_makeDense _

theorem finishPush_keys_sparse_nodup :
    (keys (finishPush cfg sp f t true base).tab).Nodup :=
  nodup_keys_filter _ (nodup_keys_sorted_pushforward sp f t)

theorem finishPush_keys_sparse_sorted :
    (keys (finishPush cfg sp f t true base).tab).Pairwise (fun a b => sp.rank a ≤ sp.rank b) :=
  pairwise_keys_filter _ _ (keys_sortBy_sorted _ _)

theorem finishPush_keys_sorted (b : Bool) (h : b = false → sp.toList.Nodup) :
    (keys (finishPush cfg sp f t b base).tab).Nodup
      ∧ (keys (finishPush cfg sp f t b base).tab).Pairwise
          (fun a b => sp.rank a ≤ sp.rank b) := by
  cases b with
  | true => exact ⟨finishPush_keys_sparse_nodup, finishPush_keys_sparse_sorted⟩
  | false =>
    rw [finishPush_keys_dense]
    exact ⟨h rfl, (Space.pairwise_rank _ (h rfl)).imp Nat.le_of_lt⟩

theorem finishPush_mem_keys_sparse (o : List σ') :
    o ∈ keys (finishPush cfg sp f t true base).tab
      ↔ (∃ k ∈ keys t, f k = o) ∧ cfg.isNull base (wtBy (fun k => f k = o) t) = false := by
  rw [finishPush_tab_sparse,
    mem_keys_filter_iff_lookupD _ (nodup_keys_sorted_pushforward sp f t) 0, mem_keys_sortBy,
    mem_keys_pushforward, lookupD_sorted_pushforward, Bool.not_eq_true']

theorem finishPush_mem_sparse {o : List σ'} {v : α}
    (h : (o, v) ∈ (finishPush cfg sp f t true base).tab) : v = wtBy (fun k => f k = o) t := by
  rw [← lookupD_sorted_pushforward sp,
    lookupD_eq_of_mem (nodup_keys_sorted_pushforward sp f t) (List.mem_filter.mp h).1]

theorem finishPush_mass_dense (hl : sp.toList.Nodup) (h : ∀ k ∈ keys t, f k ∈ sp.toList) :
    mass (finishPush cfg sp f t false base).tab = mass t := by
  rw [finishPush_tab_dense, ← wtBy_true, wtBy_map_graph, ← wtBy_true]
  simpa only [if_true] using sum_map_wtBy_fibre hl f (fun _ => True) t h

theorem finishPush_mass_sparse :
    mass (finishPush cfg sp f t true base).tab
        + mass ((pushforward f t).filter (fun r => cfg.isNull base r.2))
      = mass t := by
  rw [finishPush_tab_sparse, ← wtBy_true, ← wtBy_true]
  have hp : ((sortBy sp.rank (pushforward f t)).filter (fun r => cfg.isNull base r.2)).Perm
      ((pushforward f t).filter (fun r => cfg.isNull base r.2)) :=
    (sortBy_perm sp.rank _).filter _
  rw [← wtBy_perm _ hp]
  have := wtBy_filter_add (fun _ => True) (fun r => !cfg.isNull base r.2)
    (sortBy sp.rank (pushforward f t))
  simp only [Bool.not_not] at this
  rw [this, wtBy_sortBy, wtBy_pushforward, wtBy_true]

end Finish

end Dit.Lemmas.Table
