/-
C05 — Co-information, interaction information, total correlation, dual total correlation,
residual entropy, CAEKL mutual information, O-information, TSE complexity and cohesion, for any
grouping of variables and any conditioning set, equal their defining combinations of conditional
joint entropies. Consequently conditional mutual information, total correlation, dual total
correlation and CAEKL mutual information are never negative, and for two groups co-information,
total correlation, dual total correlation and CAEKL mutual information all coincide with
I(X:Y|Z).

Part (a) is pure algebra about `Comb.eval cast H` for an arbitrary set function `H : VSet → R`
into a commutative ring (`cast : ℚ →+* R`; at `ℝ` this is `Rat.castHom ℝ`, i.e. `fun q => (q:ℝ)`).
`Hc H X Z` abbreviates the conditional entropy `H (vunion X Z) − H (vnorm Z)` (C04
`cond_entropy_def`). Part (b) is about `H := entropyOf (Real.logb 2) t` for a table `t` with
non-negative values (neither distinct keys nor total mass 1 is needed).
Helper lemmas: Lemmas/InfoAlg.lean, Lemmas/InfoReal.lean.
-/
import DitModel.Lemmas.InfoReal

namespace Dit.Props.C05
open Dit Dit.Lemmas.InfoAlg Dit.Lemmas.InfoReal

/-! ## (a) Algebra of entropy combinations -/

section Algebra
variable {R : Type} [CommRing R] (cast : ℚ →+* R) (H : VSet → R)

/-- `Comb.eval` is additive. -/
theorem eval_add (a b : Comb) :
    Comb.eval cast H (a ++ b) = Comb.eval cast H a + Comb.eval cast H b :=
  eval_append cast H a b

/-- `Comb.eval` is homogeneous. -/
theorem eval_smul (q : Rat) (c : Comb) :
    Comb.eval cast H (Comb.scale q c) = cast q * Comb.eval cast H c :=
  eval_scale cast H q c

/-- `Comb.eval` of a formal sum is the sum of the values. -/
theorem eval_sum_list (l : List Comb) :
    Comb.eval cast H (Comb.sum l) = (l.map (Comb.eval cast H)).sum :=
  eval_sum cast H l

/-- **Canonical forms are faithful**: `Comb.canon` (what the driver compares) preserves the
value, for every `H` with `H ∅ = 0` that depends only on the normalised set. Both hypotheses are
needed: `canon` drops the empty set and merges sets with equal normal forms. -/
theorem canon_eval (h0 : H [] = 0) (hn : ∀ s, H s = H (vnorm s)) (c : Comb) :
    Comb.eval cast H (Comb.canon c) = Comb.eval cast H c :=
  Lemmas.InfoAlg.canon_eval cast H h0 hn c

/-- **Co-information** is `Σ_{Xs ⊆ groups} (−1)^{|Xs|+1} H(⋃Xs | Z)`. -/
theorem coinfo_def (groups : List VSet) (Z : VSet) :
    Comb.eval cast H (coinfoC groups Z)
      = ((sublists groups).map (fun Xs =>
          (if Xs.length % 2 = 1 then (1 : R) else -1) * Hc H (vunions Xs) Z)).sum :=
  eval_coinfoC cast H groups Z

/-- **Interaction information** is `(−1)ⁿ ·` co-information (`n` groups). -/
theorem interaction_eq (groups : List VSet) (Z : VSet) :
    Comb.eval cast H (interactionC groups Z)
      = (-1) ^ groups.length * Comb.eval cast H (coinfoC groups Z) :=
  eval_interactionC cast H groups Z

/-- **Total correlation** is `Σᵢ H(Xᵢ|Z) − H(⋃X|Z)`. -/
theorem tc_def (groups : List VSet) (Z : VSet) :
    Comb.eval cast H (tcC groups Z)
      = (groups.map (fun g => Hc H g Z)).sum - Hc H (vunions groups) Z :=
  eval_tcC cast H groups Z

/-- **Residual entropy** is `Σᵢ H(Xᵢ | (⋃X ∖ Xᵢ) ∪ Z)`. -/
theorem residual_def (groups : List VSet) (Z : VSet) :
    Comb.eval cast H (residualC groups Z)
      = (groups.map (fun g =>
          Hc H g (vunion (vdiff (vunions groups) (vnorm g)) Z))).sum :=
  eval_residualC cast H groups Z

/-- **Dual total correlation** is `H(⋃X|Z) −` residual entropy. -/
theorem dtc_eq (groups : List VSet) (Z : VSet) :
    Comb.eval cast H (dtcC groups Z)
      = Hc H (vunions groups) Z - Comb.eval cast H (residualC groups Z) :=
  eval_dtcC cast H groups Z

/-- **O-information** is total correlation minus dual total correlation. -/
theorem oinfo_eq (groups : List VSet) (Z : VSet) :
    Comb.eval cast H (oinfoC groups Z)
      = Comb.eval cast H (tcC groups Z) - Comb.eval cast H (dtcC groups Z) :=
  eval_oinfoC cast H groups Z

/-- **CAEKL candidate** for a partition `P`: `(Σ_{B∈P} H(⋃B|Z) − H(⋃X|Z)) / (|P|−1)`. -/
theorem caekl_def (groups : List VSet) (Z : VSet) (P : List (List VSet)) :
    Comb.eval cast H (caeklCand groups Z P)
      = cast (1 / ((P.length : Rat) - 1))
        * ((P.map (fun B => Hc H (vunions B) Z)).sum - Hc H (vunions groups) Z) :=
  eval_caeklCand cast H groups Z P

/-- Every CAEKL candidate of a genuine set partition of the groups is `1/(|P|−1)` times the
total correlation of the merged blocks (the partition hypothesis gives `⋃⋃P = ⋃X`). -/
theorem caekl_eq_tc (groups : List VSet) (Z : VSet) (P : List (List VSet))
    (hP : P ∈ setPartitions groups) :
    Comb.eval cast H (caeklCand groups Z P)
      = cast (1 / ((P.length : Rat) - 1)) * Comb.eval cast H (tcC (P.map vunions) Z) := by
  rw [eval_caeklCand, eval_tcC, vunions_partition groups P hP, List.map_map]
  rfl

example : [[[0], [1]], [[2]]] ∈ setPartitions [[0], [1], [2]] := by decide +kernel

/-- **TSE complexity** is `Σ_{k=1}^{N−1} ( C(N,k)⁻¹ Σ_{|S|=k} H(X_S|Z) − (k/N) H(X|Z) )`. -/
theorem tse_def (groups : List VSet) (Z : VSet) :
    Comb.eval cast H (tseC groups Z)
      = ((List.range groups.length).tail.map (fun k =>
          cast (1 / (choose groups.length k : Rat))
            * ((combos k groups).map (fun S => Hc H (vunions S) Z)).sum
          + cast (-(k : Rat) / (groups.length : Rat)) * Hc H (vunions groups) Z)).sum :=
  eval_tseC cast H groups Z

/-- **Cohesion** of order `k` is `Σ_{|S|=k} H(X_S|Z) − C(N−1,k−1) · H(X|Z)`. -/
theorem cohesion_def (k : Nat) (groups : List VSet) (Z : VSet) :
    Comb.eval cast H (cohesionC k groups Z)
      = ((combos k groups).map (fun S => Hc H (vunions S) Z)).sum
        - (choose (groups.length - 1) (k - 1) : R) * Hc H (vunions groups) Z :=
  eval_cohesionC cast H k groups Z

/-- Cohesion of order 1 is the total correlation. -/
theorem cohesion_one (groups : List VSet) (Z : VSet) :
    Comb.eval cast H (cohesionC 1 groups Z) = Comb.eval cast H (tcC groups Z) := by
  rw [eval_cohesionC, eval_tcC, combos_one, List.map_map]
  have h1 : ((fun S => Hc H (vunions S) Z) ∘ fun x : VSet => [x]) = fun g => Hc H g Z := by
    funext g
    simp only [Function.comp_apply, vunions_singleton, Hc_vnorm_left]
  have h2 : choose (groups.length - 1) (1 - 1) = 1 := by
    cases (groups.length - 1) <;> rfl
  rw [h1, h2]; simp

/-! ### Two groups: everything is `I(X:Y|Z)` -/

/-- Co-information of two groups is the conditional mutual information. -/
theorem coinfo_two (X Y Z : VSet) :
    Comb.eval cast H (coinfoC [X, Y] Z) = Comb.eval cast H (cmiC X Y Z) := by
  rw [eval_coinfoC, eval_cmiC]
  simp [sublists, vunions_nil, Hc_nil, vunions_singleton, Hc_vnorm_left, vunions_pair]
  ring

/-- Total correlation of two groups is the conditional mutual information. -/
theorem tc_two (X Y Z : VSet) :
    Comb.eval cast H (tcC [X, Y] Z) = Comb.eval cast H (cmiC X Y Z) := by
  rw [eval_tcC, eval_cmiC]
  simp [vunions_pair]

/-- CAEKL mutual information of two groups: the only candidate (the partition `{X},{Y}`) is
the conditional mutual information. -/
theorem caekl_two (X Y Z : VSet) :
    (caeklCands [X, Y] Z).map (Comb.eval cast H) = [Comb.eval cast H (cmiC X Y Z)] := by
  have : caeklCands [X, Y] Z = [caeklCand [X, Y] Z [[X], [Y]]] := by
    simp [caeklCands, setPartitions]
  rw [this, List.map_cons, List.map_nil, eval_caeklCand, eval_cmiC]
  have h1 : (1 / ((([[X], [Y]] : List (List VSet)).length : ℚ) - 1)) = 1 := by norm_num
  rw [h1, map_one, one_mul]
  simp only [List.map_cons, List.map_nil, List.sum_cons, List.sum_nil, vunions_singleton,
    Hc_vnorm_left, vunions_pair, add_zero]

/-- Dual total correlation of two arbitrary groups:
`B = H((X∖Y)∪Z) + H((Y∖X)∪Z) − H(X∪Y∪Z) − H(Z)` (dit removes the *other* variables, so shared
variables outside `Z` are not conditioned on). -/
theorem dtc_two_general (X Y Z : VSet) :
    Comb.eval cast H (dtcC [X, Y] Z)
      = H (vunion (vdiff X Y) Z) + H (vunion (vdiff Y X) Z)
        - H (vunion (vunion X Y) Z) - H (vnorm Z) := by
  have eX : vunion (vdiff (vunion X Y) X) Z = vunion (vdiff Y X) Z :=
    vunion_congr fun x => by
      simp only [mem_vdiff, mem_vunion, or_and_right, and_not_self, false_or]
  have eY : vunion (vdiff (vunion X Y) Y) Z = vunion (vdiff X Y) Z :=
    vunion_congr fun x => by
      simp only [mem_vdiff, mem_vunion, or_and_right, and_not_self, or_false]
  rw [eval_dtcC, eval_residualC, vunions_pair]
  simp only [List.map_cons, List.map_nil, List.sum_cons, List.sum_nil, add_zero]
  rw [Hc_vdiff H (subset_vunion_left X Y),
    Hc_vdiff H (subset_vunion_right X Y), eX, eY]
  unfold Hc; ring

/-- Dual total correlation of two groups is the conditional mutual information, provided the
groups share no variable outside `Z` (in particular for disjoint groups, which dit requires).
Without the hypothesis the identity fails: see the example below. -/
theorem dtc_two (X Y Z : VSet) (hXY : ∀ v, v ∈ X → v ∈ Y → v ∈ Z) :
    Comb.eval cast H (dtcC [X, Y] Z) = Comb.eval cast H (cmiC X Y Z) := by
  rw [dtc_two_general, eval_cmiC, vunion_vdiff_of_inter_subset hXY,
    vunion_vdiff_of_inter_subset fun v hy hx => hXY v hx hy]
  unfold Hc; ring

example : ∀ v, v ∈ [0] → v ∈ [1] → v ∈ [2] := by decide
example : Comb.canon (coinfoC [[0], [1]] [2])
    = [(-1, [0, 1, 2]), (1, [0, 2]), (1, [1, 2]), (-1, [2])] := by decide +kernel
example : Comb.canon (dtcC [[0], [1]] [2]) = Comb.canon (cmiC [0] [1] [2]) := by decide +kernel
example : Comb.canon (tcC [[0], [1]] [2]) = Comb.canon (cmiC [0] [1] [2]) := by decide +kernel
/-- Overlapping groups: `B` is `H(0) + H(2) − H(012)`, not `I(01:12) = H(01) + H(12) − H(012)`. -/
example : Comb.canon (dtcC [[0, 1], [1, 2]] []) = [(1, [0]), (-1, [0, 1, 2]), (1, [2])]
    ∧ Comb.canon (cmiC [0, 1] [1, 2] []) = [(1, [0, 1]), (-1, [0, 1, 2]), (1, [1, 2])] := by
  decide +kernel
example : Comb.canon (coinfoC [[0], [1]] []) = [(1, [0]), (-1, [0, 1]), (1, [1])] := by
  decide +kernel
example : Comb.canon (oinfoC [[0], [1], [2]] [])
    = [(1, [0]), (-1, [0, 1]), (1, [0, 1, 2]), (-1, [0, 2]), (1, [1]), (-1, [1, 2]), (1, [2])] := by
  decide +kernel

end Algebra

/-! ## (b) Shannon inequalities -/

/-- **Gibbs' inequality** (bits): for non-negative `p, q` on a finite set with `Σq ≤ Σp`
(in particular `Σp = Σq`) and `q i = 0 → p i = 0`, `Σ pᵢ log₂ (pᵢ/qᵢ) ≥ 0`. -/
theorem gibbs {ι : Type} (s : Finset ι) (p q : ι → ℝ) (hp : ∀ i ∈ s, 0 ≤ p i)
    (hq : ∀ i ∈ s, 0 ≤ q i) (hsum : ∑ i ∈ s, q i ≤ ∑ i ∈ s, p i)
    (hac : ∀ i ∈ s, q i = 0 → p i = 0) :
    0 ≤ ∑ i ∈ s, p i * Real.logb 2 (p i / q i) :=
  Lemmas.InfoReal.gibbs s p q hp hq hsum hac

example : (∀ i ∈ (Finset.univ : Finset (Fin 2)), (0 : ℝ) ≤ ![1 / 4, 3 / 4] i)
    ∧ (∀ i ∈ (Finset.univ : Finset (Fin 2)), (0 : ℝ) ≤ ![1 / 2, 1 / 2] i)
    ∧ ∑ i, (![1 / 2, 1 / 2] i : ℝ) ≤ ∑ i, (![1 / 4, 3 / 4] i : ℝ)
    ∧ (∀ i ∈ (Finset.univ : Finset (Fin 2)),
        (![1 / 2, 1 / 2] i : ℝ) = 0 → (![1 / 4, 3 / 4] i : ℝ) = 0) := by
  simp only [Finset.mem_univ, forall_true_left, Fin.forall_fin_two, Fin.sum_univ_two,
    Matrix.cons_val_zero, Matrix.cons_val_one]
  norm_num

section Table
variable {σ : Type} [DecidableEq σ] (t : Tab (List σ) ℝ) (hnn : ∀ r ∈ t, 0 ≤ r.2)
include hnn

/-- **Conditional mutual information is non-negative**: for the marginals of any table with
non-negative values (no normalisation, keys may repeat, outcomes may be ragged),
`0 ≤ I(X:Y|Z) = H(X∪Z) + H(Y∪Z) − H(X∪Y∪Z) − H(Z)`. Non-negativity of the values is needed
(with a negative weight `−Σ p log p` is not concave). -/
theorem cmi_nonneg (X Y Z : VSet) :
    0 ≤ Comb.eval (Rat.castHom ℝ) (entropyOf (Real.logb 2) t) (cmiC X Y Z) := by
  rw [eval_cmiC]
  exact entropy_Submod t hnn X Y Z

/-- The same inequality spelled out on the entropies of the marginals. -/
theorem cmi_nonneg_explicit (X Y Z : List Nat) :
    0 ≤ entropyOf (Real.logb 2) t (vunion X Z) + entropyOf (Real.logb 2) t (vunion Y Z)
        - entropyOf (Real.logb 2) t (vunion (vunion X Y) Z)
        - entropyOf (Real.logb 2) t (vnorm Z) :=
  entropy_submod t hnn X Y Z

/-- **Mutual information is non-negative** (`Z = ∅`). -/
theorem mi_nonneg (X Y : VSet) :
    0 ≤ Comb.eval (Rat.castHom ℝ) (entropyOf (Real.logb 2) t) (cmiC X Y []) :=
  cmi_nonneg t hnn X Y []

/-- **Conditional entropy is non-negative** (`I(X:X|Z) = H(X|Z)`). -/
theorem cond_entropy_nonneg (X Z : VSet) :
    0 ≤ Comb.eval (Rat.castHom ℝ) (entropyOf (Real.logb 2) t) (condH X Z) := by
  rw [eval_condH]
  exact Hc_nonneg (entropy_Submod t hnn) X Z

/-- **Total correlation is non-negative**, for any list of groups (overlapping or not) and any
conditioning set: it is a sum of conditional mutual informations `I(Xᵢ : X_{>i} | Z)`. -/
theorem tc_nonneg (groups : List VSet) (Z : VSet) :
    0 ≤ Comb.eval (Rat.castHom ℝ) (entropyOf (Real.logb 2) t) (tcC groups Z) := by
  rw [eval_tcC]
  exact tc_sum_nonneg (entropy_Submod t hnn) groups Z

/-- **Dual total correlation is non-negative** for pairwise disjoint groups (any number of
them). Disjointness is needed: for `X₁ = X₂ = {0}`, `B = −H(0|Z)`. -/
theorem dtc_nonneg (groups : List VSet) (Z : VSet) (hdis : groups.Pairwise VDisj) :
    0 ≤ Comb.eval (Rat.castHom ℝ) (entropyOf (Real.logb 2) t) (dtcC groups Z) := by
  rw [eval_dtcC, eval_residualC]
  exact dtc_sum_nonneg (entropy_Submod t hnn) groups Z hdis

/-- **CAEKL mutual information is non-negative**: every candidate (one per partition of the
groups into at least two blocks) is a non-negative multiple of the total correlation of the
blocks, so their minimum is non-negative. -/
theorem caekl_nonneg (groups : List VSet) (Z : VSet) :
    ∀ c ∈ caeklCands groups Z,
      0 ≤ Comb.eval (Rat.castHom ℝ) (entropyOf (Real.logb 2) t) c := by
  intro c hc
  obtain ⟨P, hP, hlen, rfl⟩ := mem_caeklCands_iff.mp hc
  rw [caekl_eq_tc _ _ groups Z P hP]
  apply mul_nonneg
  · have : (0 : ℚ) ≤ 1 / ((P.length : ℚ) - 1) := by
      apply div_nonneg zero_le_one
      have : (1 : ℚ) < P.length := by exact_mod_cast hlen
      linarith
    exact (Rat.cast_nonneg (K := ℝ)).mpr this
  · exact tc_nonneg t hnn _ Z

end Table

/-- For a table of total mass 1, `H := entropyOf t` satisfies the hypotheses of `canon_eval`:
the canonical form of any combination has the same value on `t`. -/
theorem canon_eval_table {σ : Type} [DecidableEq σ] (t : Tab (List σ) ℝ)
    (hmass : (t.map (·.2)).sum = 1) (c : Comb) :
    Comb.eval (Rat.castHom ℝ) (entropyOf (Real.logb 2) t) (Comb.canon c)
      = Comb.eval (Rat.castHom ℝ) (entropyOf (Real.logb 2) t) c :=
  Lemmas.InfoAlg.canon_eval _ _ (entropyOf_nil t hmass) (entropyOf_vnorm t) c

/-- Non-vacuity: a concrete table (with a stored zero) satisfying the hypotheses. -/
example : ∀ r ∈ ([(["0", "0"], 1 / 2), (["0", "1"], 0), (["1", "1"], 1 / 2)] :
    Tab (List String) ℝ), 0 ≤ r.2 := by
  intro r hr; simp at hr; rcases hr with rfl | rfl | rfl <;> norm_num
example : (([(["0", "0"], 1 / 2), (["0", "1"], 0), (["1", "1"], 1 / 2)] :
    Tab (List String) ℝ).map (·.2)).sum = 1 := by norm_num
example : [[0], [1], [2]].Pairwise VDisj := by
  unfold VDisj; decide

end Dit.Props.C05
