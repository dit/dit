/-
C06 (companion) — maximum correlation vanishes exactly for independent variables.

dit computes the maximum correlation as the second singular value of `Q = P / √(p_X p_Y)`; the model's
companion matrix `A = maxcorrCompanion P` (`A[j][k] = Σ_i P[i][j] P[i][k] / (p_X(i) p_Y(k))`) is similar to
`QᵀQ`, so its eigenvalues are the squared singular values: real, in `[0, 1]` (`maxcorr_eigen_abs_le_one` in
Props/C06.lean and `maxcorr_eigen_nonneg` here), the largest being 1.  Their sum is the trace, and this file
proves the identity that ties the trace to independence:

  `tr A − 1 = Σ_{i,j} (P_ij − p_X(i) p_Y(j))² / (p_X(i) p_Y(j)) = χ²(P ‖ p_X ⊗ p_Y) ≥ 0`,

with equality iff `P_ij = p_X(i) p_Y(j)` everywhere.  Hence all eigenvalues besides the top one vanish — the
maximum correlation is 0 — exactly for independent variables, and `−tr A` is the first coefficient of the
characteristic polynomial `charPoly … A` (`charPoly_first`).  (That a matrix similar to a symmetric positive
semi-definite one is diagonalisable with eigenvalues summing to the trace is standard linear algebra and is
not re-proved here; everything that depends on the table `P` is.)
-/
import DitModel.Lemmas.MaxCorr

namespace Dit.Props.C06MaxCorr
open Dit Dit.Lemmas.Table Dit.Lemmas.InfoReal Dit.Lemmas.Diverge Dit.Lemmas.MaxCorr

/-- The `χ²` divergence of the joint table from the product of its marginals, cells of zero marginal skipped. -/
noncomputable def chi2 (P : List (List ℝ)) (n : Nat) : ℝ :=
  (P.map (fun row => rsum n (fun j => if row.sum = 0 ∨ colSum P j = 0 then 0
    else (row.getD j 0 - row.sum * colSum P j) ^ 2 / (row.sum * colSum P j)))).sum

/-- **The trace of the companion matrix** is the sum of its diagonal entries `ccEntry P j j`. -/
theorem maxcorr_trace (P : List (List ℝ)) (n : Nat) (hne : P ≠ [])
    (hlen : ∀ row ∈ P, row.length = n) :
    matTrace (maxcorrCompanion P) = rsum n (fun j => ccEntry P j j) := by
  have hn : (P.head?.getD []).length = n := by
    obtain ⟨r, t, rfl⟩ := List.exists_cons_of_ne_nil hne
    exact hlen r List.mem_cons_self
  have hl : (maxcorrCompanion P).length = n := by
    rw [maxcorrCompanion_eq, List.length_map, List.length_range, hn]
  unfold matTrace rsum
  rw [Lemmas.ListBasics.lsum_eq_sum, hl]
  refine congrArg _ (List.map_congr_left fun j hj => ?_)
  have hj' : j < (P.head?.getD []).length := hn ▸ List.mem_range.mp hj
  exact maxcorrCompanion_getD P j j hj' hj'

/-- Non-vacuity of the hypotheses of `maxcorr_trace`. -/
example : ([[1 / 2, 0], [1 / 4, 1 / 4]] : List (List ℝ)) ≠ []
    ∧ ∀ row ∈ ([[1 / 2, 0], [1 / 4, 1 / 4]] : List (List ℝ)), row.length = 2 := by
  simp

/-- **`tr A − 1 = χ²(P ‖ p_X ⊗ p_Y)`** for a non-negative table of total mass one. -/
theorem maxcorr_trace_chi2 (P : List (List ℝ)) (n : Nat) (hlen : ∀ row ∈ P, row.length = n)
    (hnn : ∀ row ∈ P, ∀ x ∈ row, 0 ≤ x) (hmass : (P.map List.sum).sum = 1) :
    rsum n (fun j => ccEntry P j j) - 1 = chi2 P n := by
  have hrow : ∀ row ∈ P,
      rsum n (fun j => (row.getD j 0 - row.sum * colSum P j) ^ 2 / (row.sum * colSum P j))
        = rsum n (fun j => row.getD j 0 * row.getD j 0 / (row.sum * colSum P j)) - row.sum := by
    intro row hrow
    rw [rsum_congr n _ _ fun j _ => sq_div_expand _ _ (cell_zero P hnn row hrow j), rsum_add, rsum_sub,
      rsum_mul_left, rsum_mul_left, ← rowsum_eq_rsum row n (hlen row hrow), rsum_colSum P n hlen, hmass]
    ring
  simp only [chi2, ite_div_mul, ccEntry_eq_sum]
  rw [List.map_congr_left hrow, Lemmas.ListBasics.sum_map_sub, hmass, rsum_list_comm]

/-- Non-vacuity of the hypotheses shared by `maxcorr_trace_chi2`, `maxcorr_trace_ge_one` and
`maxcorr_trace_eq_one_iff`: a dependent 2 × 2 joint table. -/
example : (∀ row ∈ ([[1 / 2, 0], [1 / 4, 1 / 4]] : List (List ℝ)), row.length = 2)
    ∧ (∀ row ∈ ([[1 / 2, 0], [1 / 4, 1 / 4]] : List (List ℝ)), ∀ x ∈ row, 0 ≤ x)
    ∧ (([[1 / 2, 0], [1 / 4, 1 / 4]] : List (List ℝ)).map List.sum).sum = 1 := by
  simp only [List.forall_mem_cons, List.not_mem_nil, false_imp_iff, implies_true, and_true,
    List.length_cons, List.length_nil]
  norm_num

/-- **`tr A ≥ 1`.** -/
theorem maxcorr_trace_ge_one (P : List (List ℝ)) (n : Nat) (hlen : ∀ row ∈ P, row.length = n)
    (hnn : ∀ row ∈ P, ∀ x ∈ row, 0 ≤ x) (hmass : (P.map List.sum).sum = 1) :
    1 ≤ rsum n (fun j => ccEntry P j j) := by
  rw [← sub_nonneg, maxcorr_trace_chi2 P n hlen hnn hmass]
  simp only [chi2, ite_div_mul]
  exact sum_map_nonneg _ _ fun row hrow => rsum_nonneg _ _ fun j _ => cell_nonneg P hnn row hrow j

/-- **`tr A = 1` exactly for independent variables**: every cell is the product of its marginals. -/
theorem maxcorr_trace_eq_one_iff (P : List (List ℝ)) (n : Nat) (hlen : ∀ row ∈ P, row.length = n)
    (hnn : ∀ row ∈ P, ∀ x ∈ row, 0 ≤ x) (hmass : (P.map List.sum).sum = 1) :
    rsum n (fun j => ccEntry P j j) = 1 ↔
      ∀ row ∈ P, ∀ j, j < n → row.getD j 0 = row.sum * colSum P j := by
  rw [← sub_eq_zero, maxcorr_trace_chi2 P n hlen hnn hmass]
  simp only [chi2, ite_div_mul]
  rw [sum_map_eq_zero_iff P _ fun row hrow => rsum_nonneg _ _ fun j _ => cell_nonneg P hnn row hrow j]
  refine forall₂_congr fun row hrow => ?_
  refine (sum_map_eq_zero_iff (List.range n) _ fun j _ => cell_nonneg P hnn row hrow j).trans ?_
  simp only [List.mem_range]
  exact forall₂_congr fun j _ => sq_div_eq_zero_iff _ _ (cell_zero P hnn row hrow j)

/-- **Real eigenvalues of the companion matrix are non-negative** (it is similar to `QᵀQ`): for a real
eigenpair, `lam · Σ_j v_j² / p_Y(j) = Σ_i (Σ_j P_ij v_j / p_Y(j))² / p_X(i) ≥ 0` (sums over columns of non-zero
marginal); the eigenvector must charge such a column.  `hlen` is not needed: entries past the end of a row read as 0. -/
theorem maxcorr_eigen_nonneg (P : List (List ℝ)) (n : Nat) (hlen : ∀ row ∈ P, row.length = n)
    (hnn : ∀ row ∈ P, ∀ x ∈ row, 0 ≤ x) (v : Nat → ℝ) (lam : ℝ)
    (hv : ∃ j, j < n ∧ colSum P j ≠ 0 ∧ v j ≠ 0)
    (heig : ∀ j, j < n → rsum n (fun k => ccEntry P j k * v k) = lam * v j) :
    0 ≤ lam := by
  have _ := hlen  -- not needed
  obtain ⟨j, hj, hc, hvj⟩ := hv
  have hterm : ∀ i, 0 ≤ v i * v i / colSum P i := fun i =>
    div_nonneg (mul_self_nonneg _) (colSum_nonneg P hnn i)
  have hD : 0 < rsum n (fun j => v j * v j / colSum P j) :=
    (rsum_nonneg n _ fun i _ => hterm i).lt_of_ne' fun h0 =>
      div_ne_zero (mul_self_ne_zero.mpr hvj) hc
        ((sum_map_eq_zero_iff _ _ fun i _ => hterm i).mp h0 j (List.mem_range.mpr hj))
  have hQ : lam * rsum n (fun j => v j * v j / colSum P j)
      = (P.map (fun row => (rsum n (fun k => row.getD k 0 * (v k / colSum P k))) ^ 2
          / row.sum)).sum := by
    rw [← cc_quad, ← rsum_mul_left]
    exact rsum_congr n _ _ fun j hj => by rw [heig j hj]; ring
  refine nonneg_of_mul_nonneg_left (hQ ▸ sum_map_nonneg _ _ fun row hrow => ?_) hD
  exact div_nonneg (sq_nonneg _) (List.sum_nonneg (hnn row hrow))

/-- Non-vacuity of the hypotheses of `maxcorr_eigen_nonneg`: the uniform 1 × 2 table has the companion
matrix `[[1/2, 1/2], [1/2, 1/2]]`, with eigenvector `(1, 1)` for the eigenvalue 1. -/
example : (∀ row ∈ ([[1 / 2, 1 / 2]] : List (List ℝ)), row.length = 2)
    ∧ (∀ row ∈ ([[1 / 2, 1 / 2]] : List (List ℝ)), ∀ x ∈ row, 0 ≤ x)
    ∧ (∃ j, j < 2 ∧ colSum [[1 / 2, 1 / 2]] j ≠ 0 ∧ (fun _ : Nat => (1 : ℝ)) j ≠ 0)
    ∧ ∀ j, j < 2 → rsum 2 (fun k => ccEntry [[1 / 2, 1 / 2]] j k * (fun _ : Nat => (1 : ℝ)) k)
        = 1 * (fun _ : Nat => (1 : ℝ)) j := by
  refine ⟨by simp, ?_, ⟨0, Nat.zero_lt_two, ?_, one_ne_zero⟩, fun j hj => ?_⟩
  · simp only [List.forall_mem_cons, List.not_mem_nil, false_imp_iff, implies_true, and_true]
    norm_num
  · simp only [colSum, List.map, List.sum_cons, List.sum_nil, List.getD_cons_zero]
    norm_num
  · obtain rfl | rfl : j = 0 ∨ j = 1 := by omega
    all_goals
      simp only [ccEntry_eq_sum, rsum, colSum, show List.range 2 = [0, 1] from rfl, List.map, List.sum_cons,
        List.sum_nil, List.getD_cons_zero, List.getD_cons_succ]
      norm_num

/-- **The first coefficient of the characteristic polynomial is minus the trace** (Faddeev–LeVerrier, first
step), for any non-empty square matrix given as a list of rows. -/
theorem charPoly_first (A : List (List ℝ)) (hne : A ≠ []) (hsq : ∀ row ∈ A, row.length = A.length) :
    (charPoly (fun k : Nat => (k : ℝ)) A).head? = some (-(matTrace A)) := by
  obtain ⟨m, hm⟩ : ∃ m, A.length = m + 1 :=
    Nat.exists_eq_add_one_of_ne_zero (List.length_pos_iff.mpr hne).ne'
  unfold charPoly
  simp only []
  rw [hm, List.range_succ_eq_map (n := m), List.foldl_cons, foldl_snd_head _ (fun _ _ => ⟨_, rfl⟩)]
  · rw [← List.range_succ_eq_map, ← hm]
    simp only [List.nil_append, List.head?_cons]
    rw [matMul_ident A A.length hsq]
    simp
  · simp

/-- Non-vacuity of the hypotheses of `charPoly_first`. -/
example : ([[1, 2], [3, 4]] : List (List ℝ)) ≠ []
    ∧ ∀ row ∈ ([[1, 2], [3, 4]] : List (List ℝ)), row.length = ([[1, 2], [3, 4]] : List (List ℝ)).length := by
  simp

/-- Independent example: the outer product of (1/4, 3/4) and (1/3, 2/3) has `χ² = 0`; a dependent one has
`χ² > 0`. -/
example : chi2 [[1 / 12, 1 / 6], [1 / 4, 1 / 2]] 2 = 0 := by
  simp only [chi2, ite_div_mul, rsum, colSum, show List.range 2 = [0, 1] from rfl, List.map, List.sum_cons,
    List.sum_nil, List.getD_cons_zero, List.getD_cons_succ]
  norm_num

example : 0 < chi2 [[1 / 2, 0], [1 / 4, 1 / 4]] 2 := by
  simp only [chi2, ite_div_mul, rsum, colSum, show List.range 2 = [0, 1] from rfl, List.map, List.sum_cons,
    List.sum_nil, List.getD_cons_zero, List.getD_cons_succ]
  norm_num

end Dit.Props.C06MaxCorr
