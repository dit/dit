/-
Helper lemmas for C07 (log-probability distributions and the operations objects of
`dit.math.ops`) over `ℝ`: the real instance `realBase b` of `LogBase`, the homomorphism
facts `b ^ (log-op) = linear-op`, the null value as a limit, base changes, and the scaling of
the entropy family with the base.  Property theorems are in Props/C07.lean.
-/
import DitModel.Core.Ops
import DitModel.Core.Info
import DitModel.Lemmas.InfoReal
import Mathlib.Analysis.SpecialFunctions.Log.Base
import Mathlib.Analysis.SpecialFunctions.Pow.Real
import Mathlib.Analysis.SpecialFunctions.Pow.Asymptotics
import Mathlib.Algebra.BigOperators.Group.List.Basic
import Mathlib.Tactic.NormNum

namespace Dit.Lemmas.LogOps
open Dit Dit.Lemmas.ListBasics Dit.Lemmas.InfoReal Filter

/-- The real instance of a logarithm base `b`: `exp x = b^x`, `log = log_b`, and the base-2
helpers of dit's generic-base code path. -/
noncomputable def realBase (b : ℝ) : LogBase ℝ :=
  ⟨fun x => b ^ x, Real.logb b, fun x => (2 : ℝ) ^ x, Real.logb 2, Real.logb 2 b, Real.logb b 2⟩

theorem logAdd_eq (b x y : ℝ) : logAdd (realBase b) x y = Real.logb b (b ^ x + b ^ y) := rfl

theorem logAddReduce_eq (b : ℝ) (xs : List ℝ) :
    logAddReduce (realBase b) xs = Real.logb b (xs.map (fun x => b ^ x)).sum :=
  congrArg (Real.logb b) (lsum_eq_sum _)

theorem linNormalize_sum (ps : List ℝ) (h : ps.sum ≠ 0) : (linNormalize ps).sum = 1 := by
  rw [linNormalize, lsum_eq_sum]
  exact (list_sum_map_div ps id _).trans (by rw [List.map_id, div_self h])

theorem ne_neg_one {b : ℝ} (hb : 0 < b) : b ≠ -1 := (lt_trans (by norm_num) hb).ne'

theorem sum_rpow_pos {b : ℝ} (hb : 0 < b) {xs : List ℝ} (hne : xs ≠ []) :
    0 < (xs.map (fun x => b ^ x)).sum :=
  List.sum_pos _ (List.forall_mem_map.mpr fun x _ => Real.rpow_pos_of_pos hb x)
    (mt List.map_eq_nil_iff.mp hne)

theorem rpow_mul_logb {b c : ℝ} (hb : 0 < b) (hc : 0 < c) (hc1 : c ≠ 1) (x : ℝ) :
    c ^ (x * Real.logb c b) = b ^ x := by
  rw [mul_comm, Real.rpow_mul hc.le, Real.rpow_logb hc hc1 hb]

/-! ### The operations -/

section Ops
variable (b : ℝ) (hb : 0 < b) (hb1 : b ≠ 1)
include hb hb1
set_option linter.unusedSectionVars false

theorem ne_zero : b ≠ 0 := hb.ne'

theorem logMul_hom (x y : ℝ) : b ^ (logMul x y) = b ^ x * b ^ y := Real.rpow_add hb x y

theorem logInv_hom (x : ℝ) : b ^ (logInv x) = (b ^ x)⁻¹ := Real.rpow_neg hb.le x

theorem log_mul_hom (p q : ℝ) (hp : 0 < p) (hq : 0 < q) :
    logMul (Real.logb b p) (Real.logb b q) = Real.logb b (p * q) :=
  (Real.logb_mul hp.ne' hq.ne').symm

theorem logAddReduce_hom (xs : List ℝ) (hne : xs ≠ []) :
    b ^ (logAddReduce (realBase b) xs) = (xs.map (fun x => b ^ x)).sum := by
  rw [logAddReduce_eq]
  exact Real.rpow_logb hb hb1 (sum_rpow_pos hb hne)

theorem logNormalize_hom (xs : List ℝ) (hne : xs ≠ []) :
    (logNormalize (realBase b) xs).map (fun x => b ^ x) = linNormalize (xs.map (fun x => b ^ x)) := by
  rw [logNormalize, linNormalize, lsum_eq_sum, List.map_map, List.map_map]
  refine List.map_congr_left fun x _ => ?_
  rw [← logAddReduce_hom b hb hb1 xs hne]
  exact Real.rpow_sub hb x _

theorem logNormalize_sum (xs : List ℝ) (hne : xs ≠ []) :
    ((logNormalize (realBase b) xs).map (fun x => b ^ x)).sum = 1 := by
  rw [logNormalize_hom b hb hb1 xs hne]
  exact linNormalize_sum _ (sum_rpow_pos hb hne).ne'

/-- After normalisation the log-sum is the log of 1. -/
theorem logNormalize_reduce (xs : List ℝ) (hne : xs ≠ []) :
    logAddReduce (realBase b) (logNormalize (realBase b) xs) = 0 := by
  rw [logAddReduce_eq, logNormalize_sum b hb hb1 xs hne, Real.logb_one]

end Ops

/-! ### The null value -/

theorem logAdd_null {b : ℝ} (hb : 0 < b) (hb1 : b ≠ 1) (x : ℝ) {l : Filter ℝ}
    (h : Tendsto (fun y : ℝ => b ^ y) l (nhds 0)) :
    Tendsto (fun y => logAdd (realBase b) x y) l (nhds x) := by
  have h1 : Tendsto (fun y : ℝ => b ^ x + b ^ y) l (nhds (b ^ x + 0)) := tendsto_const_nhds.add h
  rw [add_zero] at h1
  have h2 := (Real.continuousAt_logb (b := b) (Real.rpow_pos_of_pos hb x).ne').tendsto.comp h1
  rwa [Real.logb_rpow hb hb1] at h2

/-! ### The entropy family in base `b` -/

theorem logb_eq_div (b p : ℝ) : Real.logb b p = Real.logb 2 p / Real.logb 2 b :=
  (div_div_div_cancel_right₀ log_two_pos.ne' _ _).symm

theorem entropyVals_div (log : ℝ → ℝ) (k : ℝ) (ps : List ℝ) :
    entropyVals (fun p => log p / k) ps = entropyVals log ps / k := by
  simp only [entropyVals_eq_sum_mul, ← mul_div_assoc, list_sum_map_div, neg_div]

end Dit.Lemmas.LogOps
