/-
C11 (table-operation part) — Distribution constructors and algebra build the tables their
definitions state.

Theorems about the table operations of Core/Constructors.lean over commutative (semi)rings /
fields of "probabilities".  `wtBy p t` is the weight of the event `p` in the table `t` (all rows
count, also repeated keys), `lookupD 0 t k` the stored value of `k` or zero, `mass t` the total.
Helper lemmas and the auxiliary notions `insOut` (new outcome of `insert_rvf`),
`erasureExpand` (the local `expand` of `erasureTab`), `argmaxBool`/`medianTab` (numpy's
`argmax` on a Boolean array and dit's `median`): Lemmas/Constructors.lean.
-/
import DitModel.Lemmas.Constructors
import Mathlib.Algebra.Field.Rat
import Mathlib.Algebra.Order.Ring.Rat

namespace Dit.Props.C11
open Dit Dit.Lemmas.Table Dit.Lemmas.Cond Dit.Lemmas.Constructors

/-! ### `modify_outcomes` -/

section Modify
variable {σ τ α : Type} [DecidableEq σ] [DecidableEq τ] [AddCommMonoid α]

set_option linter.unusedSectionVars false in
/-- **`modify_outcomes` is the pushforward under the map**: the probability of every event is
the probability of its preimage (collisions are merged by addition). -/
theorem modify_event (p : τ → Prop) [DecidablePred p] (f : σ → τ) (t : Tab σ α) :
    wtBy p (modifyOutcomes f t) = wtBy (fun o => p (f o)) t :=
  wtBy_pushforward p f t

set_option linter.unusedSectionVars false in
/-- Each new outcome stores the sum over its fibre, and is stored once. -/
theorem modify_lookup (f : σ → τ) (t : Tab σ α) (k : τ) :
    lookupD 0 (modifyOutcomes f t) k = wtBy (fun o => f o = k) t
      ∧ (keys (modifyOutcomes f t)).Nodup :=
  ⟨lookupD_pushforward f t k, keys_pushforward_nodup f t⟩

set_option linter.unusedSectionVars false in
/-- The total mass is unchanged. -/
theorem modify_mass (f : σ → τ) (t : Tab σ α) : mass (modifyOutcomes f t) = mass t :=
  mass_pushforward f t

end Modify

/-! ### `insert_rvf` -/

section Insert
variable {σ α : Type} [DecidableEq σ] [AddCommMonoid α]

set_option linter.unusedSectionVars false in
/-- **Appending `f`'s value.** For a table listing each outcome once, all of length `n`, a
stored row `(o, v)` reappears as `(o ++ f o, v)`; the new table again lists each outcome once
(no collisions: `o ↦ o ++ f o` is injective on outcomes of one length) and keeps the values in
order. -/
theorem insertRvf_append_lookup (f : List σ → List σ) (n : Nat) (t : Tab (List σ) α)
    (hnd : (keys t).Nodup) (hn : ∀ k ∈ keys t, k.length = n) :
    (∀ o v, (o, v) ∈ t → lookup? (insertRvf f none t) (o ++ f o) = some v)
      ∧ (keys (insertRvf f none t)).Nodup
      ∧ keys (insertRvf f none t) = (keys t).map (fun o => o ++ f o)
      ∧ vals (insertRvf f none t) = vals t :=
  ⟨fun o v h => lookup?_insertRvf f none n 0 t hnd hn (fun h => absurd rfl h) o v h,
    insertRvf_keys_nodup f none n 0 t hnd hn (fun h => absurd rfl h),
    keys_insertRvf f none t, vals_insertRvf f none t⟩

set_option linter.unusedSectionVars false in
/-- **Inserting `f`'s value at position `i`.** The four facts of `insertRvf_append_lookup`, for `f` of
constant output length `m` on the stored outcomes: `(o, v)` reappears as
`(o[:i] ++ f o ++ o[i:], v)`, without collisions. -/
theorem insertRvf_insert_lookup (f : List σ → List σ) (i n m : Nat) (t : Tab (List σ) α)
    (hnd : (keys t).Nodup) (hn : ∀ k ∈ keys t, k.length = n)
    (hm : ∀ k ∈ keys t, (f k).length = m) :
    (∀ o v, (o, v) ∈ t →
        lookup? (insertRvf f (some i) t) (o.take i ++ f o ++ o.drop i) = some v)
      ∧ (keys (insertRvf f (some i) t)).Nodup
      ∧ keys (insertRvf f (some i) t) = (keys t).map (fun o => o.take i ++ f o ++ o.drop i)
      ∧ vals (insertRvf f (some i) t) = vals t :=
  ⟨fun o v h => lookup?_insertRvf f (some i) n m t hnd hn (fun _ => hm) o v h,
    insertRvf_keys_nodup f (some i) n m t hnd hn (fun _ => hm),
    keys_insertRvf f (some i) t, vals_insertRvf f (some i) t⟩

/-- **The old variables keep their distribution (append).** Marginalising the new table onto
the first `n` positions gives back every event probability of the original table (any table
whose outcomes have length `n`, also with repeated outcomes). -/
theorem insertRvf_append_old_marginal (p : List σ → Prop) [DecidablePred p]
    (f : List σ → List σ) (n : Nat) (t : Tab (List σ) α) (hn : ∀ k ∈ keys t, k.length = n) :
    wtBy p (pushforward (project (List.range n)) (insertRvf f none t)) = wtBy p t :=
  wtBy_pushforward_insertRvf p f none _ t fun k hk => by
    rw [project_range, ← hn k hk]; exact List.take_left

/-- **The old variables keep their distribution (insert at `i ≤ n`).** The old variables sit
at positions `0..i-1` and `i+m..n+m-1` of the new outcomes. -/
theorem insertRvf_insert_old_marginal (p : List σ → Prop) [DecidablePred p]
    (f : List σ → List σ) (i n m : Nat) (t : Tab (List σ) α) (hi : i ≤ n)
    (hn : ∀ k ∈ keys t, k.length = n) (hm : ∀ k ∈ keys t, (f k).length = m) :
    wtBy p (pushforward (project (List.range i ++ List.range' (i + m) (n - i)))
        (insertRvf f (some i) t)) = wtBy p t :=
  wtBy_pushforward_insertRvf p f (some i) _ t fun k hk => by
    rw [← hm k hk, ← hn k hk]
    exact project_insert_old k (f k) i (by rw [hn k hk]; exact hi)

set_option linter.unusedSectionVars false in
/-- The new variables are the function of the old ones: every event of the new table is the
event of its preimage under `o ↦ new outcome` (`insOut`). -/
theorem insertRvf_event (p : List σ → Prop) [DecidablePred p] (f : List σ → List σ)
    (index : Option Nat) (t : Tab (List σ) α) :
    wtBy p (insertRvf f index t) = wtBy (fun o => p (insOut f index o)) t
      ∧ mass (insertRvf f index t) = mass t := by
  refine ⟨wtBy_insertRvf p f index t, ?_⟩
  rw [mass_eq_sum, mass_eq_sum, vals_insertRvf]

end Insert

/-! ### `product_distribution` -/

section Product
variable {σ α : Type} [DecidableEq σ] [CommSemiring α]

/-- **Value of a product at a concatenation of blocks** (any number of factors): if factor
`j` lists each outcome once and all its outcomes have the length of the block `o_j`, the value
at `o_1 ++ … ++ o_k` is `Π_j P_j(o_j)`. -/
theorem productTabs_lookup (ts : List (Tab (List σ) α)) (os : List (List σ))
    (h : List.Forall₂ (fun t o => (keys t).Nodup ∧ ∀ k ∈ keys t, k.length = o.length) ts os) :
    lookupD 0 (productTabs ts) os.flatten
      = (List.zipWith (fun t o => lookupD 0 t o) ts os).prod := by
  suffices hs : (keys (productTabs ts)).Nodup ∧ lookupD 0 (productTabs ts) os.flatten
      = (List.zipWith (fun t o => lookupD 0 t o) ts os).prod from hs.2
  -- the induction carries along that the product lists each outcome once, which is what
  -- lets a stored value be read as the weight of a singleton event
  induction h with
  | nil => exact ⟨List.nodup_singleton [], rfl⟩
  | @cons t o ts os hx _ ih =>
    have hnd := keys_productTabs_cons_nodup t ts o.length hx.1 hx.2 ih.1
    refine ⟨hnd, ?_⟩
    rw [List.flatten_cons, lookupD_eq_wtBy hnd, wtBy_productTabs_cons_eq t ts o _ hx.2,
      ← lookupD_eq_wtBy hx.1, ← lookupD_eq_wtBy ih.1, ih.2, List.zipWith_cons_cons,
      List.prod_cons]

set_option linter.unusedSectionVars false in
/-- The product lists each outcome once (factors with duplicate-free keys and outcomes of a
fixed length each). -/
theorem productTabs_keys_nodup (ts : List (Tab (List σ) α))
    (h : ∀ t ∈ ts, (keys t).Nodup ∧ ∃ n, ∀ k ∈ keys t, k.length = n) :
    (keys (productTabs ts)).Nodup := by
  induction ts with
  | nil => exact List.nodup_singleton []
  | cons t rest ih =>
    obtain ⟨hnd, n, hn⟩ := h t List.mem_cons_self
    exact keys_productTabs_cons_nodup t rest n hnd hn
      (ih fun t' ht' => h t' (List.mem_cons_of_mem _ ht'))

set_option linter.unusedSectionVars false in
/-- **Total mass of a product**: the product of the masses. -/
theorem productTabs_mass (ts : List (Tab (List σ) α)) :
    mass (productTabs ts) = (ts.map mass).prod := by
  induction ts with
  | nil => exact zero_add 1
  | cons t rest ih =>
    rw [productTabs_cons, mass_pairs (fun a b : List σ => a ++ b), ih, List.map_cons,
      List.prod_cons]

/-- **Marginal of a product on its first block**: the first factor scaled by the mass of the
remaining factors — equal to the first factor when those have mass one. -/
theorem product_marginal (p : List σ → Prop) [DecidablePred p] (t : Tab (List σ) α)
    (rest : List (Tab (List σ) α)) (n : Nat) (hlen : ∀ k ∈ keys t, k.length = n) :
    wtBy p (pushforward (project (List.range n)) (productTabs (t :: rest)))
        = wtBy p t * (rest.map mass).prod
      ∧ ((∀ t' ∈ rest, mass t' = 1) →
          wtBy p (pushforward (project (List.range n)) (productTabs (t :: rest))) = wtBy p t) := by
  have h := wtBy_productTabs_first p t rest n hlen
  rw [productTabs_mass] at h
  refine ⟨h, fun h1 => ?_⟩
  rw [h, List.prod_eq_one, mul_one]
  intro x hx
  obtain ⟨t', ht', rfl⟩ := List.mem_map.mp hx
  exact h1 t' ht'

/-- **Marginal of a two-factor product on its second block**: the second factor scaled by the
mass of the first. -/
theorem product_marginal_snd (p : List σ → Prop) [DecidablePred p] (t1 t2 : Tab (List σ) α)
    (n m : Nat) (hl1 : ∀ k ∈ keys t1, k.length = n) (hl2 : ∀ k ∈ keys t2, k.length = m) :
    wtBy p (pushforward (project (List.range' n m)) (productTabs [t1, t2]))
      = mass t1 * wtBy p t2 := by
  rw [wtBy_productTabs_rest p t1 [t2] n m hl1 (by rw [productTabs_single]; exact hl2),
    productTabs_single]

/-- **`product_distribution` is the product of the requested marginals** (any number of
groups): for valid indices, the value at the concatenation of blocks of the groups' sizes is the
product of the marginal probabilities of the source table. -/
theorem productDistribution_lookup (groups : List (List Nat)) (t : Tab (List σ) α)
    (os : List (List σ))
    (h : List.Forall₂ (fun g o => o.length = g.length ∧ ∀ k ∈ keys t, ∀ i ∈ g, i < k.length)
      groups os) :
    lookupD 0 (productDistribution groups t) os.flatten
      = (List.zipWith (fun g o => wtBy (fun k => project g k = o) t) groups os).prod := by
  rw [productDistribution_eq, productTabs_lookup _ os (List.forall₂_map_left_iff.mpr
    (h.imp fun g o hg => ⟨keys_pushforward_nodup _ _, hg.1 ▸ length_keys_marginal g t hg.2⟩)),
    List.zipWith_map_left]
  simp only [lookupD_pushforward]

/-- **`product_distribution` is the product of the requested marginals** (two groups): for
valid indices, the value at `o1 ++ o2` (blocks of the groups' sizes) is the product of the two
marginal probabilities of the source table. -/
theorem productDistribution_lookup2 (g1 g2 : List Nat) (t : Tab (List σ) α) (o1 o2 : List σ)
    (hv : ∀ k ∈ keys t, ∀ i ∈ g1 ++ g2, i < k.length)
    (ho1 : o1.length = g1.length) (ho2 : o2.length = g2.length) :
    lookupD 0 (productDistribution [g1, g2] t) (o1 ++ o2)
      = wtBy (fun k => project g1 k = o1) t * wtBy (fun k => project g2 k = o2) t := by
  simpa using productDistribution_lookup [g1, g2] t [o1, o2]
    (.cons ⟨ho1, fun k hk i hi => hv k hk i (List.mem_append_left _ hi)⟩
      (.cons ⟨ho2, fun k hk i hi => hv k hk i (List.mem_append_right _ hi)⟩ .nil))

/-- Total mass of `product_distribution`: `mass^k` for `k` groups (one for a normalised
source). -/
theorem productDistribution_mass (groups : List (List Nat)) (t : Tab (List σ) α) :
    mass (productDistribution groups t) = mass t ^ groups.length := by
  rw [productDistribution_eq, productTabs_mass, List.map_map]
  have : (mass ∘ fun g => pushforward (project g) t) = fun _ : List Nat => mass t := by
    funext g; exact mass_pushforward _ _
  rw [this, List.map_const', List.prod_replicate]

end Product

/-! ### `mixture_distribution`, `mixture_distribution2` -/

section Mixture
variable {σ α : Type} [DecidableEq σ] [Semiring α]

/-- **Value of a mixture**: `Σ_i w_i · P_i(o)` for every outcome `o` (an outcome a component
does not store counts as zero there; outside the union of the supports the value is zero);
the stored outcomes are the union of the components' outcomes in order of first appearance,
each once. -/
theorem mixture_lookup (ts : List (Tab σ α)) (w : List α) (o : σ) :
    lookupD 0 (mixture ts w) o = (List.zipWith (fun t wi => wi * lookupD 0 t o) ts w).sum
      ∧ keys (mixture ts w) = dedup (ts.flatMap keys)
      ∧ ((∀ t ∈ ts, o ∉ keys t) → lookupD 0 (mixture ts w) o = 0) := by
  refine ⟨lookupD_mixture ts w o, keys_mixture ts w, fun h => ?_⟩
  rw [lookupD_mixture, zipWith_sum_eq_zero ts w o h]

/-- **Mass of a mixture**: `Σ_i w_i · mass(P_i)` when every component lists each outcome
once; hence `1` for normalised components, as many weights as components, and `Σ w = 1`. -/
theorem mixture_mass (ts : List (Tab σ α)) (w : List α) (hnd : ∀ t ∈ ts, (keys t).Nodup) :
    mass (mixture ts w) = (List.zipWith (fun t wi => wi * mass t) ts w).sum
      ∧ (ts.length = w.length → (∀ t ∈ ts, mass t = 1) → w.sum = 1 →
          mass (mixture ts w) = 1) := by
  refine ⟨mass_mixture ts w hnd, fun hlen h1 hw => ?_⟩
  rw [mass_mixture ts w hnd, zipWith_mul_one_sum mass ts w hlen h1, hw]

set_option linter.unusedSectionVars false in
/-- **`mixture_distribution2`, position-wise**: row `j` carries the `j`-th outcome of the
first table and `Σ_i w_i · pmf_i[j]`; there are as many rows as the first table has. -/
theorem mixture2_lookup (t : Tab σ α) (ts : List (Tab σ α)) (w : List α) (j : Nat) :
    (mixture2 (t :: ts) w)[j]?
        = (t[j]?).map (fun r =>
            (r.1, (List.zipWith (fun ti wi => wi * (vals ti).getD j 0) (t :: ts) w).sum))
      ∧ (mixture2 (t :: ts) w).length = t.length :=
  ⟨getElem?_mixture2 t ts w j, length_mixture2 t ts w⟩

end Mixture

/-! ### Arithmetic between scalar distributions, `@` -/

section Combine
variable {σ τ α : Type} [DecidableEq σ] [DecidableEq τ] [Semiring α]

set_option linter.unusedSectionVars false in
/-- **Law of `op(X, Y)` for independent `X`, `Y`**: the probability of an event is the sum of
`P1(x) P2(y)` over the pairs of stored rows with `op x y` in the event. -/
theorem combine_event (p : τ → Prop) [DecidablePred p] (op : σ → σ → τ) (t1 t2 : Tab σ α) :
    wtBy p (combine op t1 t2)
      = (t1.map (fun r => (t2.map (fun s =>
          if p (op r.1 s.1) then r.2 * s.2 else 0)).sum)).sum := by
  unfold combine
  rw [wtBy_pushforward]
  exact wtBy_pairs (fun k : σ × σ => p (op k.1 k.2)) Prod.mk t1 t2

/-- Stored values of `op(X, Y)`: each result is stored once with the sum over the pairs that
produce it. -/
theorem combine_lookup (op : σ → σ → τ) (t1 t2 : Tab σ α) (k : τ) :
    lookupD 0 (combine op t1 t2) k
        = (t1.map (fun r => (t2.map (fun s =>
            if op r.1 s.1 = k then r.2 * s.2 else 0)).sum)).sum
      ∧ (keys (combine op t1 t2)).Nodup := by
  have hnd : (keys (combine op t1 t2)).Nodup := keys_pushforward_nodup _ _
  exact ⟨by rw [lookupD_eq_wtBy hnd, combine_event], hnd⟩

set_option linter.unusedSectionVars false in
/-- The total mass of `op(X, Y)` is the product of the masses. -/
theorem combine_mass (op : σ → σ → τ) (t1 t2 : Tab σ α) :
    mass (combine op t1 t2) = mass t1 * mass t2 := by
  unfold combine
  rw [mass_pushforward]
  exact mass_pairs Prod.mk t1 t2

set_option linter.unusedSectionVars false in
/-- **`d1 @ d2` is the independent joint**: events. -/
theorem matmul_event (p : List σ → Prop) [DecidablePred p] (t1 t2 : Tab σ α) :
    wtBy p (matmul t1 t2)
      = (t1.map (fun r => (t2.map (fun s => if p [r.1, s.1] then r.2 * s.2 else 0)).sum)).sum :=
  wtBy_pairs p (fun a b => [a, b]) t1 t2

/-- **`d1 @ d2`**: for tables listing each outcome once, the value at `[a, b]` is
`P1(a) P2(b)`, and the joint lists each outcome once. -/
theorem matmul_lookup (t1 t2 : Tab σ α) (h1 : (keys t1).Nodup) (h2 : (keys t2).Nodup) (a b : σ) :
    lookupD 0 (matmul t1 t2) [a, b] = lookupD 0 t1 a * lookupD 0 t2 b
      ∧ (keys (matmul t1 t2)).Nodup := by
  have hinj : ∀ a b a' b' : σ, [a, b] = [a', b'] ↔ a = a' ∧ b = b' := fun _ _ _ _ => by simp
  have hnd : (keys (matmul t1 t2)).Nodup :=
    keys_pairs_nodup (fun a b => [a, b]) t1 t2 h1 h2 fun a _ a' _ b _ b' _ => (hinj a b a' b').mp
  refine ⟨?_, hnd⟩
  rw [lookupD_eq_wtBy hnd, lookupD_eq_wtBy h1, lookupD_eq_wtBy h2]
  exact wtBy_pairs_rect _ (fun a b => [a, b]) _ _ t1 t2 fun a' _ b' _ => hinj a' b' a b

set_option linter.unusedSectionVars false in
/-- The total mass of `d1 @ d2` is the product of the masses. -/
theorem matmul_mass (t1 t2 : Tab σ α) : mass (matmul t1 t2) = mass t1 * mass t2 :=
  mass_pairs (fun a b => [a, b]) t1 t2

end Combine

/-! ### `uniform`, `noisy` -/

section Uniform
variable {σ α : Type} [DecidableEq σ] [Field α]

/-- **`uniform`**: every listed outcome has probability `1/n` (`n` the number of listed
outcomes), every other outcome zero; the outcomes are stored in the given order. -/
theorem uniform_lookup (ofNat : Nat → α) (outs : List σ) (o : σ) :
    lookupD 0 (uniformTab ofNat outs) o = (if o ∈ outs then 1 / ofNat outs.length else 0)
      ∧ keys (uniformTab ofNat outs) = outs :=
  ⟨lookupD_uniformTab ofNat outs o, keys_uniformTab ofNat outs⟩

set_option linter.unusedSectionVars false in
/-- **`uniform` is normalised** for a non-empty list of outcomes, in characteristic zero
(where `n ≠ 0` as a number). -/
theorem uniform_mass [CharZero α] (outs : List σ) (hne : outs ≠ []) :
    mass (uniformTab (fun n : Nat => (n : α)) outs) = 1 := by
  rw [mass_uniformTab, nsmul_eq_mul]
  have : (outs.length : α) ≠ 0 := by
    rw [Nat.cast_ne_zero]; exact fun h => hne (List.length_eq_zero_iff.mp h)
  field_simp

/-- **`noisy`**: `(1 − noise) · P(o) + noise / N` on the Cartesian product of the alphabets
(`N` its size), `(1 − noise) · P(o)` elsewhere. -/
theorem noisy_lookup (ofNat : Nat → α) (alphabets : List (List σ)) (noise : α)
    (t : Tab (List σ) α) (o : List σ) :
    lookupD 0 (noisyTab ofNat alphabets noise t) o
      = (1 - noise) * lookupD 0 t o
        + noise * (if o ∈ cartesian alphabets
            then 1 / ofNat (cartesian alphabets).length else 0) := by
  unfold noisyTab
  rw [lookupD_mixture]
  show (1 - noise) * lookupD 0 t o
    + (noise * lookupD 0 (uniformTab ofNat (cartesian alphabets)) o + 0) = _
  rw [add_zero, lookupD_uniformTab]
  -- the two membership tests differ in their `Decidable` instance
  by_cases h : o ∈ cartesian alphabets
  · rw [if_pos h, if_pos h]
  · rw [if_neg h, if_neg h]

/-- **`noisy` is normalised** when the source is (listing each outcome once), the alphabets
have no repeated symbol and their product is non-empty. -/
theorem noisy_mass [CharZero α] (alphabets : List (List σ)) (noise : α) (t : Tab (List σ) α)
    (hnd : (keys t).Nodup) (hm : mass t = 1) (ha : ∀ a ∈ alphabets, a.Nodup)
    (hne : cartesian alphabets ≠ []) :
    mass (noisyTab (fun n : Nat => (n : α)) alphabets noise t) = 1 := by
  unfold noisyTab
  refine (mixture_mass _ _ (List.forall_mem_cons.mpr ⟨hnd, List.forall_mem_singleton.mpr ?_⟩)).2
    rfl (List.forall_mem_cons.mpr ⟨hm, List.forall_mem_singleton.mpr (uniform_mass _ hne)⟩)
    (by simp)
  rw [keys_uniformTab]
  exact nodup_cartesian ha

end Uniform

/-! ### `erasure` -/

section Erasure
variable {σ α : Type} [DecidableEq σ] [CommRing α]

/-- **`erasure` preserves the total mass**, for every `ε`. -/
theorem erasure_mass (e : σ) (eps : α) (t : Tab (List σ) α) :
    mass (erasureTab e eps t) = mass t := by
  rw [← wtBy_true, wtBy_erasureTab, mass_eq_sum]
  simp only [wtBy_true, mass_erasureExpand, mul_one, vals]

/-- **`erasure`, events**: every stored row `(o, v)` contributes `v` times the weight of the
event under the channel output of `o`, and the channel acts symbol by symbol: the first symbol
is kept with weight `1 − ε` and replaced by the erasure symbol with weight `ε`, independently
of the rest. -/
theorem erasure_event (q : List σ → Prop) [DecidablePred q] (e : σ) (eps : α)
    (t : Tab (List σ) α) :
    wtBy q (erasureTab e eps t) = (t.map (fun r => r.2 * wtBy q (erasureExpand e eps r.1))).sum
      ∧ erasureExpand e eps [] = [([], 1)]
      ∧ ∀ s o, wtBy q (erasureExpand e eps (s :: o))
          = (1 - eps) * wtBy (fun k => q (s :: k)) (erasureExpand e eps o)
            + eps * wtBy (fun k => q (e :: k)) (erasureExpand e eps o) :=
  ⟨wtBy_erasureTab q e eps t, rfl, fun s o => wtBy_erasureExpand_cons q e eps s o⟩

/-- **`erasure` of single-symbol outcomes**: every event keeps `1 − ε` of its probability, and
the erasure outcome `[e]` receives `ε` times the total mass; in particular a symbol `x ≠ e`
has probability `(1 − ε) · P(x)` and `e` has `(1 − ε) · P(e) + ε · mass`. -/
theorem erasure_lookup (e : σ) (eps : α) (t : Tab (List σ) α)
    (h1 : ∀ k ∈ keys t, k.length = 1) (x : σ) :
    lookupD 0 (erasureTab e eps t) [x]
      = (1 - eps) * wtBy (fun k => k = [x]) t + eps * (if x = e then mass t else 0) := by
  have hnd : (keys (erasureTab e eps t)).Nodup := by
    rw [erasureTab_eq]; exact keys_pushforward_nodup _ _
  rw [lookupD_eq_wtBy hnd, wtBy_erasureTab_single _ e eps t h1,
    if_congr (List.singleton_inj.trans eq_comm) rfl rfl]

end Erasure

/-! ### Mean, central moments -/

section Stats
variable {α : Type} [CommRing α]

/-- The mean is `Σ x · P(x)` and the `k`-th central moment `Σ (x − μ)^k · P(x)` (the model's
sequential sums and its own power function are the usual ones). -/
theorem mean_def (t : Tab α α) (k : Nat) :
    meanTab t = (t.map (fun r => r.1 * r.2)).sum
      ∧ centralMoment t k = (t.map (fun r => (r.1 - meanTab t) ^ k * r.2)).sum :=
  ⟨meanTab_eq t, centralMoment_eq t k⟩

/-- The zeroth central moment is the total mass. -/
theorem centralMoment_zero (t : Tab α α) : centralMoment t 0 = mass t := by
  rw [centralMoment_eq, mass_eq_sum]; simp [vals]

/-- The first central moment is `μ · (1 − mass)`: zero for a normalised table. -/
theorem centralMoment_one (t : Tab α α) :
    centralMoment t 1 = meanTab t - meanTab t * mass t
      ∧ (mass t = 1 → centralMoment t 1 = 0) := by
  have h : centralMoment t 1 = meanTab t - meanTab t * mass t := by
    rw [centralMoment_eq, sum_shift_one, ← meanTab_eq, ← mass_eq_sum]
  exact ⟨h, fun hm => by rw [h, hm]; ring⟩

/-- The second central moment of a normalised table is `E[x²] − μ²`. -/
theorem centralMoment_two (t : Tab α α) (hm : mass t = 1) :
    centralMoment t 2 = (t.map (fun r => r.1 ^ 2 * r.2)).sum - meanTab t ^ 2 := by
  rw [centralMoment_eq, sum_shift_two, ← meanTab_eq, ← mass_eq_sum, hm]; ring

/-- The mean of a constant is that constant times the mass. -/
theorem mean_const (t : Tab α α) (c : α) (h : ∀ r ∈ t, r.1 = c) : meanTab t = c * mass t := by
  rw [meanTab_eq, mass_eq_sum, vals, List.map_congr_left fun r hr => by rw [h r hr],
    List.sum_map_mul_left]

end Stats

/-! ### Mode, cumulative values, median -/

section Order
variable {σ α : Type} [Field α] [LinearOrder α] [IsStrictOrderedRing α]

set_option linter.unusedSectionVars false in
/-- **Mode.** For non-negative stored values, the returned outcomes are exactly the outcomes
of the rows of maximal value. -/
theorem mode_spec (t : Tab σ α) (hnn : ∀ r ∈ t, 0 ≤ r.2) (o : σ) :
    o ∈ modeTab t ↔ ∃ v, (o, v) ∈ t ∧ ∀ s ∈ t, s.2 ≤ v := by
  rw [mem_modeTab]
  refine exists_congr fun v => and_congr_right fun hv => ?_
  rw [not_lt, foldMax_le_iff]
  exact and_iff_right (hnn (o, v) hv)

set_option linter.unusedSectionVars false in
/-- The mode list is the filtered list of outcomes: it keeps the stored order. -/
theorem mode_sublist (t : Tab σ α) : (modeTab t).Sublist (keys t) := by
  unfold modeTab keys
  exact List.filter_sublist.map _

set_option linter.unusedSectionVars false in
/-- **Cumulative values**: as many as rows, the `j`-th being the sum of the first `j + 1`
stored values. -/
theorem cumVals_spec (t : Tab σ α) :
    (cumVals t).length = t.length
      ∧ ∀ j, j < t.length → (cumVals t)[j]? = some (((vals t).take (j + 1)).sum) :=
  ⟨length_cumVals t, getElem?_cumVals t⟩

set_option linter.unusedSectionVars false in
/-- **Median** (`medianTab`, the model of `dit.algorithms.stats.median` for a scalar numeric
distribution): if some cumulative value exceeds `1/2` (e.g. the table is normalised), the
median is the mean of the outcomes at positions `jg` and `jge`, where `jg` is the first
position whose cumulative value exceeds `1/2` and `jge` the first whose cumulative value
reaches `1/2`. -/
theorem median_spec (t : Tab α α) (h : ∃ v ∈ cumVals t, 1 / 2 < v) :
    ∃ jg jge og oge, (keys t)[jg]? = some og ∧ (keys t)[jge]? = some oge
      ∧ medianTab t = (og + oge) / 2
      ∧ 1 / 2 < ((vals t).take (jg + 1)).sum
      ∧ (∀ i, i < jg → ((vals t).take (i + 1)).sum ≤ 1 / 2)
      ∧ 1 / 2 ≤ ((vals t).take (jge + 1)).sum
      ∧ (∀ i, i < jge → ((vals t).take (i + 1)).sum < 1 / 2) := by
  obtain ⟨a1, a2, a3⟩ := argmax_cumVals (fun v => (1 : α) / 2 < v) t h
  obtain ⟨b1, b2, b3⟩ := argmax_cumVals (fun v => (1 : α) / 2 ≤ v) t
    (h.imp fun v hv => ⟨hv.1, le_of_lt hv.2⟩)
  have hget : ∀ {j}, j < t.length → (keys t)[j]? = some ((keys t).getD j 0) := fun {j} hj => by
    have hk : j < (keys t).length := by rw [keys, List.length_map]; exact hj
    rw [List.getD_eq_getElem?_getD, List.getElem?_eq_getElem hk]
    rfl
  exact ⟨_, _, _, _, hget a1, hget b1, rfl, a2, fun i hi => not_lt.mp (a3 i hi), b2,
    fun i hi => not_le.mp (b3 i hi)⟩

end Order

/-! ### Non-vacuity: concrete instances over `Rat` -/

section Examples

/-- `modify_outcomes` with a non-injective map: `1` and `3` collide. -/
example : modifyOutcomes (fun x : Nat => x % 2)
      ([(0, 1 / 4), (1, 1 / 4), (3, 1 / 2)] : Tab Nat Rat) = [(0, 1 / 4), (1, 3 / 4)] := by
  decide +kernel

/-! `insert_rvf` with the XOR of two bits, appended and inserted at position 1; hypotheses of
the `insertRvf_*` theorems for this table. -/

example : insertRvf (fun o : List Nat => [(o.getD 0 0 + o.getD 1 0) % 2]) none
      ([([0, 0], 1 / 2), ([0, 1], 1 / 4), ([1, 1], 1 / 4)] : Tab (List Nat) Rat)
    = [([0, 0, 0], 1 / 2), ([0, 1, 1], 1 / 4), ([1, 1, 0], 1 / 4)] := by decide +kernel
example : insertRvf (fun o : List Nat => [(o.getD 0 0 + o.getD 1 0) % 2]) (some 1)
      ([([0, 0], 1 / 2), ([0, 1], 1 / 4), ([1, 1], 1 / 4)] : Tab (List Nat) Rat)
    = [([0, 0, 0], 1 / 2), ([0, 1, 1], 1 / 4), ([1, 0, 1], 1 / 4)] := by decide +kernel
example : (keys ([([0, 0], 1 / 2), ([0, 1], 1 / 4), ([1, 1], 1 / 4)] : Tab (List Nat) Rat)).Nodup
    ∧ (∀ k ∈ keys ([([0, 0], 1 / 2), ([0, 1], 1 / 4), ([1, 1], 1 / 4)] : Tab (List Nat) Rat),
        k.length = 2 ∧ [(k.getD 0 0 + k.getD 1 0) % 2].length = 1) ∧ 1 ≤ 2 := by
  decide +kernel
example : project (List.range 1 ++ List.range' (1 + 1) (2 - 1)) [1, 0, 1] = [1, 1] := by decide

/-! Product of two marginals (`product_distribution` with groups `[[0], [1]]`). -/

example : productDistribution [[0], [1]]
      ([([0, 0], 1 / 2), ([0, 1], 1 / 4), ([1, 1], 1 / 4)] : Tab (List Nat) Rat)
    = [([0, 0], 3 / 8), ([0, 1], 3 / 8), ([1, 0], 1 / 8), ([1, 1], 1 / 8)] := by decide +kernel
example : List.Forall₂ (fun (t : Tab (List Nat) Rat) o => (keys t).Nodup
      ∧ ∀ k ∈ keys t, k.length = o.length)
    [[([0], 3 / 4), ([1], 1 / 4)], [([0], 1 / 2), ([1], 1 / 2)]] [[1], [0]] := by
  refine List.Forall₂.cons ?_ (List.Forall₂.cons ?_ List.Forall₂.nil) <;> decide +kernel

/-! Mixture of two tables with different supports; weights summing to one. -/

example : mixture ([[(0, 1)], [(0, 1 / 2), (1, 1 / 2)]] : List (Tab Nat Rat)) [1 / 3, 2 / 3]
    = [(0, 2 / 3), (1, 1 / 3)] := by decide +kernel
example : mixture2 ([[(0, 1), (1, 0)], [(0, 1 / 2), (1, 1 / 2)]] : List (Tab Nat Rat))
      [1 / 3, 2 / 3] = [(0, 2 / 3), (1, 1 / 3)] := by decide +kernel

/-! Sum of two independent fair bits; `@`. -/

example : combine (fun a b : Nat => a + b) ([(0, 1 / 2), (1, 1 / 2)] : Tab Nat Rat)
      [(0, 1 / 2), (1, 1 / 2)] = [(0, 1 / 4), (1, 1 / 2), (2, 1 / 4)] := by decide +kernel
example : matmul ([(0, 1 / 3), (1, 2 / 3)] : Tab Nat Rat) [(5, 1 / 2), (6, 1 / 2)]
    = [([0, 5], 1 / 6), ([0, 6], 1 / 6), ([1, 5], 1 / 3), ([1, 6], 1 / 3)] := by decide +kernel

/-! `uniform`, `erasure` (ε = 1/4, erasure symbol 9), `noisy` (noise 1/2). -/

example : uniformTab (fun n : Nat => (n : Rat)) [7, 8, 9]
    = [(7, 1 / 3), (8, 1 / 3), (9, 1 / 3)] := by decide +kernel
example : erasureTab 9 (1 / 4 : Rat) [([0], 1 / 2), ([1], 1 / 2)]
    = [([0], 3 / 8), ([9], 1 / 4), ([1], 3 / 8)] := by decide +kernel
example : erasureTab 9 (1 / 2 : Rat) [([0, 1], 1)]
    = [([0, 1], 1 / 4), ([9, 1], 1 / 4), ([0, 9], 1 / 4), ([9, 9], 1 / 4)] := by decide +kernel
example : noisyTab (fun n : Nat => (n : Rat)) [[0, 1]] (1 / 2) [([0], 1)]
    = [([0], 3 / 4), ([1], 1 / 4)] := by decide +kernel
example : cartesian [[0, 1]] ≠ ([] : List (List Nat)) ∧ ∀ a ∈ [[0, 1]], a.Nodup := by decide

/-! Mean 5/4, variance 11/16, mode, cumulative values and median of a scalar table. -/

example : meanTab ([(0, 1 / 4), (1, 1 / 4), (2, 1 / 2)] : Tab Rat Rat) = 5 / 4 := by
  decide +kernel
example : centralMoment ([(0, 1 / 4), (1, 1 / 4), (2, 1 / 2)] : Tab Rat Rat) 1 = 0
    ∧ centralMoment ([(0, 1 / 4), (1, 1 / 4), (2, 1 / 2)] : Tab Rat Rat) 2 = 11 / 16 := by
  decide +kernel
example : modeTab ([(0, 3 / 8), (1, 1 / 4), (2, 3 / 8)] : Tab Nat Rat) = [0, 2] := by
  decide +kernel
example : cumVals ([(0, 1 / 4), (1, 1 / 4), (2, 1 / 2)] : Tab Nat Rat) = [1 / 4, 1 / 2, 1] := by
  decide +kernel
example : medianTab ([(0, 1 / 4), (1, 1 / 4), (2, 1 / 2)] : Tab Rat Rat) = 3 / 2 := by
  decide +kernel
example : ∃ v ∈ cumVals ([(0, 1 / 4), (1, 1 / 4), (2, 1 / 2)] : Tab Rat Rat), 1 / 2 < v :=
  ⟨1, by decide +kernel, by decide +kernel⟩
example : ∀ r ∈ ([(0, 3 / 8), (1, 1 / 4), (2, 3 / 8)] : Tab Nat Rat), 0 ≤ r.2 := by
  decide +kernel

/-! The theorems apply to the driver's number type `Rat`. -/

example (t1 t2 : Tab Nat Rat) : mass (combine (fun a b => a + b) t1 t2) = mass t1 * mass t2 :=
  combine_mass _ t1 t2
example (t : Tab Rat Rat) (hm : mass t = 1) : centralMoment t 1 = 0 :=
  (centralMoment_one t).2 hm
example (t : Tab Nat Rat) (hnn : ∀ r ∈ t, 0 ≤ r.2) (o : Nat) :
    o ∈ modeTab t ↔ ∃ v, (o, v) ∈ t ∧ ∀ s ∈ t, s.2 ≤ v :=
  mode_spec t hnn o
example (outs : List Nat) (hne : outs ≠ []) :
    mass (uniformTab (fun n : Nat => (n : Rat)) outs) = 1 :=
  uniform_mass outs hne

end Examples

end Dit.Props.C11
