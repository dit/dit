/-
Helper lemmas for C12 (sampling scan). Property theorems are in Props/C12.lean.
-/
import DitModel.Core.Sampling
import Mathlib.Algebra.Order.Field.Basic
import Mathlib.Algebra.BigOperators.Group.List.Basic

namespace Dit.Lemmas.Sampling
open Dit

variable {α : Type} [Field α]

/-- Cumulative probability of the first `j` stored entries, `F(j−1)` of property C12. -/
def cum (pmf : List α) (j : Nat) : α := (pmf.take j).sum

theorem cum_zero (pmf : List α) : cum pmf 0 = 0 := rfl

theorem cum_cons_succ (p : α) (ps : List α) (i : Nat) : cum (p :: ps) (i + 1) = p + cum ps i := rfl

theorem cum_succ (pmf : List α) (j : Nat) (hj : j < pmf.length) :
    cum pmf (j + 1) = cum pmf j + pmf[j] := by
  unfold cum
  rw [List.take_succ_eq_append_getElem hj, List.sum_append, List.sum_singleton]

theorem cum_length (pmf : List α) : cum pmf pmf.length = pmf.sum := by
  unfold cum
  rw [List.take_length]

variable [LinearOrder α]

/-- Scan invariant, generalised over the running total `t` and start index `j0`. -/
theorem scanFrom_some (ps : List α) (u t : α) (j0 k : Nat) (ht : t ≤ u)
    (h : scanFrom ps u t j0 = some k) :
    ∃ i, i < ps.length ∧ k = j0 + i ∧ t + cum ps i ≤ u ∧ u < t + cum ps (i + 1) := by
  induction ps generalizing t j0 with
  | nil => cases h
  | cons p ps ih =>
    rw [scanFrom] at h
    split at h
    · next hlt =>
      refine ⟨0, Nat.succ_pos _, (Option.some.inj h).symm, ?_, ?_⟩
      · rwa [cum_zero, add_zero]
      · rwa [cum_cons_succ, cum_zero, add_zero]
    · next hnlt =>
      obtain ⟨i, hi, hk, hlo, hhi⟩ := ih (t + p) (j0 + 1) (not_lt.mp hnlt) h
      refine ⟨i + 1, Nat.succ_lt_succ hi, hk.trans (Nat.add_right_comm j0 1 i), ?_, ?_⟩
      · rwa [cum_cons_succ, ← add_assoc]
      · rwa [cum_cons_succ, ← add_assoc]

theorem scanFrom_eq_some_of_lt_sum (ps : List α) (u t : α) (j0 : Nat) (ht : t ≤ u) (h : u < t + ps.sum) :
    ∃ k, scanFrom ps u t j0 = some k := by
  induction ps generalizing t j0 with
  | nil =>
    rw [List.sum_nil, add_zero] at h
    exact absurd h (not_lt.mpr ht)
  | cons p ps ih =>
    rw [scanFrom]
    split
    · exact ⟨j0, rfl⟩
    · next hnlt =>
      rw [List.sum_cons, ← add_assoc] at h
      exact ih (t + p) (j0 + 1) (not_lt.mp hnlt) h

theorem lastPos_pos (ps : List α) (j0 : Nat) (acc : Option Nat) (k : Nat)
    (h : lastPos ps j0 acc = some k) :
    (acc = some k) ∨ (∃ i, ∃ hi : i < ps.length, k = j0 + i ∧ 0 < ps[i]) := by
  induction ps generalizing j0 acc with
  | nil => exact Or.inl h
  | cons p ps ih =>
    rw [lastPos] at h
    rcases ih _ _ h with h1 | ⟨i, hi, hk, hpi⟩
    · split at h1
      · next hp => exact Or.inr ⟨0, Nat.succ_pos _, (Option.some.inj h1).symm, hp⟩
      · exact Or.inl h1
    · exact Or.inr ⟨i + 1, Nat.succ_lt_succ hi, hk.trans (Nat.add_right_comm j0 1 i), hpi⟩

variable [IsStrictOrderedRing α]

theorem cum_mono (pmf : List α) (hnn : ∀ p ∈ pmf, 0 ≤ p) (i j : Nat) (hij : i ≤ j) :
    cum pmf i ≤ cum pmf j := by
  refine monotone_nat_of_le_succ (fun j => ?_) hij
  rcases Nat.lt_or_ge j pmf.length with hj | hj
  · rw [cum_succ pmf j hj]
    exact le_add_of_nonneg_right (hnn _ (List.getElem_mem hj))
  · unfold cum
    rw [List.take_of_length_le hj, List.take_of_length_le (Nat.le_succ_of_le hj)]

theorem cum_nonneg (pmf : List α) (hnn : ∀ p ∈ pmf, 0 ≤ p) (j : Nat) : 0 ≤ cum pmf j :=
  cum_mono pmf hnn 0 j (Nat.zero_le _)

/-- Converse of `scanFrom_some`; needs non-negative entries. -/
theorem scanFrom_of_interval (ps : List α) (hnn : ∀ p ∈ ps, 0 ≤ p) (u t : α) (j0 i : Nat)
    (hi : i < ps.length) (hlo : t + cum ps i ≤ u) (hhi : u < t + cum ps (i + 1)) :
    scanFrom ps u t j0 = some (j0 + i) := by
  induction ps generalizing t j0 i with
  | nil => cases hi
  | cons p ps ih =>
    have hnn' : ∀ q ∈ ps, 0 ≤ q := fun q hq => hnn q (List.mem_cons_of_mem _ hq)
    cases i with
    | zero =>
      rw [cum_cons_succ, cum_zero, add_zero] at hhi
      exact if_pos hhi
    | succ i =>
      rw [cum_cons_succ, ← add_assoc] at hlo hhi
      have hp : t + p ≤ u := le_trans (le_add_of_nonneg_right (cum_nonneg ps hnn' i)) hlo
      exact (if_neg (not_lt.mpr hp)).trans
        ((ih hnn' (t + p) (j0 + 1) i (Nat.lt_of_succ_lt_succ hi) hlo hhi).trans
          (congrArg some (Nat.add_right_comm j0 1 i)))

theorem sampleIdx_of_interval (pmf : List α) (hnn : ∀ p ∈ pmf, 0 ≤ p) (u : α) (j : Nat)
    (hj : j < pmf.length) (hlo : cum pmf j ≤ u) (hhi : u < cum pmf (j + 1)) :
    sampleIdx pmf u = some j :=
  (scanFrom_of_interval pmf hnn u 0 0 j hj (by rwa [zero_add]) (by rwa [zero_add])).trans
    (congrArg some (Nat.zero_add j))

end Dit.Lemmas.Sampling
