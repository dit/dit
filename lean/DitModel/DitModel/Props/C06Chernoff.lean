/-
C06 (companion) — "… Chernoff information, … lautum information equal their textbook definitions
on linear distributions … Hence D(p‖p)=0 …, symmetric ones are symmetric …".

Theorems about the definitions of `Core/Diverge2.lean` at `α := ℝ`, `log2 := Real.logb 2`, with the
power of `R : RealOps ℝ` assumed to be the real power (`hR : ∀ x e, R.pow x e = x ^ e`; `realOps`
of Lemmas/InfoReal.lean is such an `R`).

* Chernoff: `dit.divergences.variational_distance.chernoff_information_pmf` minimises
  `func(α) = log2 Σ p^α q^(1−α)` (`chernoffObj`) over `α ∈ [0,1]` and returns `−func(α*)` clipped at
  `0`; `pq` is the list of label-aligned pairs `(p_i, q_i)`.
* Lautum: `dit.other.lautum_information` is `D(P_X ⊗ P_Y ‖ P_XY)` (`lautumVals`, `none` = `+∞`);
  `margP t X x` is `P_X(x)`, `jointP t X Y x y` is `P_XY(x,y)` (event weights of the table `t`),
  `lautumPairs t X Y` the list of pairs `(P_X(x) P_Y(y), P_XY(x,y))` over the observed values.
Helper lemmas: Lemmas/Diverge2.lean.
-/
import DitModel.Lemmas.Diverge2
import Mathlib.Analysis.Convex.Function
import Mathlib.Analysis.Convex.Extrema

namespace Dit.Props.C06Chernoff
open Dit Dit.Lemmas.Table Dit.Lemmas.InfoReal Dit.Lemmas.Diverge Dit.Lemmas.Diverge2

/-- Non-vacuity of the hypothesis on `R` used throughout: `realOps` computes the real power. -/
example : ∀ x e : ℝ, realOps.pow x e = x ^ e := fun _ _ => rfl

/-! ## NumPy's power -/

/-- **The guarded cases of `npPow` are NumPy's conventions**, whatever `R.pow` is: `x ** 0 = 1`
(also `0 ** 0 = 1`), `0 ** e = 0` for `e ≠ 0`, and `R.pow` elsewhere. -/
theorem npPow_conventions (R : RealOps ℝ) (x e : ℝ) :
    npPow R x 0 = 1 ∧ (e ≠ 0 → npPow R 0 e = 0) ∧ (e ≠ 0 → x ≠ 0 → npPow R x e = R.pow x e) :=
  ⟨npPow_zero_right R x, npPow_zero_left R, npPow_of_ne R⟩

/-- **`npPow` is the real power.** The explicit case split of `npPow` agrees with `Real.rpow`
everywhere (`x ^ 0 = 1`, `0 ^ e = 0` for `e ≠ 0` in Lean); on `x ≥ 0`, `e ≥ 0` — the only arguments
the Chernoff objective uses for `α ∈ [0,1]` — these are also NumPy's values. -/
theorem npPow_spec (R : RealOps ℝ) (hR : ∀ x e : ℝ, R.pow x e = x ^ e) (x e : ℝ) :
    npPow R x e = x ^ e :=
  npPow_eq R hR x e

/-! ## The Chernoff sum: definition and end points -/

/-- **Definition.** `chernoffSum R a pq = Σ p^a q^(1−a)`. -/
theorem chernoffSum_eq_def (R : RealOps ℝ) (hR : ∀ x e : ℝ, R.pow x e = x ^ e) (a : ℝ)
    (pq : List (ℝ × ℝ)) :
    chernoffSum R a pq = (pq.map (fun r => r.1 ^ a * r.2 ^ (1 - a))).sum :=
  chernoffSum_eq R hR a pq

/-- **At `α = 0` the sum is `Σ q`** (every `p^0` is `1`, also for `p = 0`). -/
theorem chernoffSum_zero (R : RealOps ℝ) (hR : ∀ x e : ℝ, R.pow x e = x ^ e)
    (pq : List (ℝ × ℝ)) : chernoffSum R 0 pq = (pq.map Prod.snd).sum :=
  chernoffSum_eq_sum R hR fun r _ => by rw [Real.rpow_zero, one_mul, sub_zero, Real.rpow_one]

/-- **At `α = 1` the sum is `Σ p`.** -/
theorem chernoffSum_one (R : RealOps ℝ) (hR : ∀ x e : ℝ, R.pow x e = x ^ e)
    (pq : List (ℝ × ℝ)) : chernoffSum R 1 pq = (pq.map Prod.fst).sum :=
  chernoffSum_eq_sum R hR fun r _ => by rw [Real.rpow_one, sub_self, Real.rpow_zero, mul_one]

/-- **The objective vanishes at both end points** for probability vectors. -/
theorem chernoffObj_endpoints (R : RealOps ℝ) (hR : ∀ x e : ℝ, R.pow x e = x ^ e)
    (pq : List (ℝ × ℝ)) (hp : (pq.map Prod.fst).sum = 1) (hq : (pq.map Prod.snd).sum = 1) :
    chernoffObj R (Real.logb 2) 0 pq = 0 ∧ chernoffObj R (Real.logb 2) 1 pq = 0 := by
  unfold chernoffObj
  rw [chernoffSum_zero R hR, chernoffSum_one R hR, hp, hq]
  exact ⟨Real.logb_one, Real.logb_one⟩

/-- Non-vacuity of the hypotheses on `pq` used below: `p = (1/2, 1/2, 0)`, `q = (1/4, 0, 3/4)`;
the supports meet in the first label. -/
example : (∀ r ∈ [((1 : ℝ) / 2, (1 : ℝ) / 4), (1 / 2, 0), (0, 3 / 4)], 0 ≤ r.1 ∧ 0 ≤ r.2)
    ∧ ([((1 : ℝ) / 2, (1 : ℝ) / 4), (1 / 2, 0), (0, 3 / 4)].map Prod.fst).sum = 1
    ∧ ([((1 : ℝ) / 2, (1 : ℝ) / 4), (1 / 2, 0), (0, 3 / 4)].map Prod.snd).sum = 1
    ∧ ∃ r ∈ [((1 : ℝ) / 2, (1 : ℝ) / 4), (1 / 2, 0), (0, 3 / 4)], 0 < r.1 ∧ 0 < r.2 := by
  refine ⟨?_, by norm_num, by norm_num, (1 / 2, 1 / 4), List.mem_cons_self, by norm_num,
    by norm_num⟩
  simp only [List.forall_mem_cons, List.not_mem_nil, false_imp_iff, implies_true, and_true]
  norm_num

/-! ## Non-negativity -/

/-- **`Σ p^α q^(1−α) ≤ 1` on `[0,1]`** (weighted AM–GM termwise, `p^α q^(1−α) ≤ α p + (1−α) q`)
for non-negative vectors of total mass at most one. -/
theorem chernoffSum_le_one (R : RealOps ℝ) (hR : ∀ x e : ℝ, R.pow x e = x ^ e) (a : ℝ)
    (h0 : 0 ≤ a) (h1 : a ≤ 1) (pq : List (ℝ × ℝ)) (hnn : ∀ r ∈ pq, 0 ≤ r.1 ∧ 0 ≤ r.2)
    (hp : (pq.map Prod.fst).sum ≤ 1) (hq : (pq.map Prod.snd).sum ≤ 1) :
    chernoffSum R a pq ≤ 1 :=
  calc chernoffSum R a pq
      ≤ a * (pq.map Prod.fst).sum + (1 - a) * (pq.map Prod.snd).sum :=
        chernoffSum_le R hR a h0 h1 pq hnn
    _ ≤ a * 1 + (1 - a) * 1 :=
        add_le_add (mul_le_mul_of_nonneg_left hp h0)
          (mul_le_mul_of_nonneg_left hq (sub_nonneg.mpr h1))
    _ = 1 := by rw [mul_one, mul_one, add_sub_cancel]

/-- **The objective is `≤ 0` on `[0,1]`.** (No positivity of the sum is needed over `ℝ`, where
`logb 2 0 = 0`; NumPy's `log2 0 = −∞` is `≤ 0` as well.) -/
theorem chernoffObj_nonpos (R : RealOps ℝ) (hR : ∀ x e : ℝ, R.pow x e = x ^ e) (a : ℝ)
    (h0 : 0 ≤ a) (h1 : a ≤ 1) (pq : List (ℝ × ℝ)) (hnn : ∀ r ∈ pq, 0 ≤ r.1 ∧ 0 ≤ r.2)
    (hp : (pq.map Prod.fst).sum ≤ 1) (hq : (pq.map Prod.snd).sum ≤ 1) :
    chernoffObj R (Real.logb 2) a pq ≤ 0 :=
  Real.logb_nonpos (by norm_num) (chernoffSum_nonneg R hR a pq hnn)
    (chernoffSum_le_one R hR a h0 h1 pq hnn hp hq)

/-- **Every value `−func(α)`, `α ∈ [0,1]`, the code can return is `≥ 0`**, so the final clipping
`if ci < 0: ci = 0` never changes an exact value: `max (−func α) 0 = −func α`. -/
theorem chernoff_nonneg (R : RealOps ℝ) (hR : ∀ x e : ℝ, R.pow x e = x ^ e) (a : ℝ)
    (h0 : 0 ≤ a) (h1 : a ≤ 1) (pq : List (ℝ × ℝ)) (hnn : ∀ r ∈ pq, 0 ≤ r.1 ∧ 0 ≤ r.2)
    (hp : (pq.map Prod.fst).sum ≤ 1) (hq : (pq.map Prod.snd).sum ≤ 1) :
    0 ≤ -chernoffObj R (Real.logb 2) a pq
      ∧ max (-chernoffObj R (Real.logb 2) a pq) 0 = -chernoffObj R (Real.logb 2) a pq := by
  have h := neg_nonneg.mpr (chernoffObj_nonpos R hR a h0 h1 pq hnn hp hq)
  exact ⟨h, max_eq_left h⟩

/-- **The sum is positive when the supports meet** (so the objective is a genuine logarithm). -/
theorem chernoffSum_pos (R : RealOps ℝ) (hR : ∀ x e : ℝ, R.pow x e = x ^ e) (a : ℝ)
    (pq : List (ℝ × ℝ)) (hnn : ∀ r ∈ pq, 0 ≤ r.1 ∧ 0 ≤ r.2)
    (hcs : ∃ r ∈ pq, 0 < r.1 ∧ 0 < r.2) : 0 < chernoffSum R a pq := by
  obtain ⟨r, hr, h1, h2⟩ := hcs
  rw [chernoffSum_eq R hR]
  refine lt_of_lt_of_le (mul_pos (Real.rpow_pos_of_pos h1 a) (Real.rpow_pos_of_pos h2 (1 - a)))
    (List.single_le_sum (List.forall_mem_map.2 fun s hs => ?_) _
      (List.mem_map_of_mem (f := fun r : ℝ × ℝ => r.1 ^ a * r.2 ^ (1 - a)) hr))
  exact mul_nonneg (Real.rpow_nonneg (hnn s hs).1 _) (Real.rpow_nonneg (hnn s hs).2 _)

/-- **Disjoint supports**: strictly inside `(0,1)` the sum is `0`; NumPy's objective is then
`log2 0 = −∞` and the Chernoff information `+∞` (over `ℝ`, `logb 2 0 = 0` is a junk value, which is
why the convexity statements below assume that the supports meet). -/
theorem chernoffSum_disjoint (R : RealOps ℝ) (hR : ∀ x e : ℝ, R.pow x e = x ^ e) (a : ℝ)
    (h0 : 0 < a) (h1 : a < 1) (pq : List (ℝ × ℝ)) (hd : ∀ r ∈ pq, r.1 = 0 ∨ r.2 = 0) :
    chernoffSum R a pq = 0 := by
  rw [chernoffSum_eq_sum R hR (f := fun _ => 0), List.sum_map_zero]
  intro r hr
  rcases hd r hr with h | h
  · rw [h, Real.zero_rpow h0.ne', zero_mul]
  · rw [h, Real.zero_rpow (sub_pos.mpr h1).ne', mul_zero]

/-- Non-vacuity of the hypotheses of `chernoffSum_disjoint`. -/
example : (0 : ℝ) < 1 / 2 ∧ (1 : ℝ) / 2 < 1
    ∧ ∀ r ∈ [((1 : ℝ), (0 : ℝ)), (0, 1)], r.1 = 0 ∨ r.2 = 0 := by
  exact ⟨by norm_num, by norm_num,
    List.forall_mem_cons.mpr ⟨.inr rfl, List.forall_mem_singleton.mpr (.inl rfl)⟩⟩

/-- **Strictly inside `(0,1)` the Chernoff sum is the power sum of the Rényi family**
(`powerSum`, which skips the terms with `p = 0` or `q = 0`), for any `R.pow`: so
`func(α) = (α − 1) · D_α(p‖q)` there, while at the end points `func = log2 Σq`, `log2 Σp` counts
all labels — the objective jumps at an end point when the supports differ. -/
theorem chernoffSum_eq_powerSum (R : RealOps ℝ) (a : ℝ) (h0 : a ≠ 0) (h1 : a ≠ 1)
    (pq : List (ℝ × ℝ)) : chernoffSum R a pq = powerSum R a (1 - a) pq := by
  have h1' : (1 : ℝ) - a ≠ 0 := sub_ne_zero.mpr h1.symm
  refine congrArg lsum (List.map_congr_left fun r _ => ?_)
  by_cases hp : r.1 = 0
  · simp [hp, npPow_zero_left R h0]
  · by_cases hq : r.2 = 0
    · simp [hq, npPow_zero_left R h1']
    · simp [hp, hq, npPow_of_ne R h0 hp, npPow_of_ne R h1' hq]

/-! ## Symmetry -/

/-- **Exchanging `p` and `q` reflects the exponent**: `S_{q,p}(α) = S_{p,q}(1 − α)`. -/
theorem chernoffSum_symm (R : RealOps ℝ) (hR : ∀ x e : ℝ, R.pow x e = x ^ e) (a : ℝ)
    (pq : List (ℝ × ℝ)) : chernoffSum R a (pq.map Prod.swap) = chernoffSum R (1 - a) pq := by
  rw [chernoffSum_eq R hR, chernoffSum_eq R hR, List.map_map]
  refine congrArg List.sum (List.map_congr_left fun r _ => ?_)
  simp only [Function.comp_apply, Prod.fst_swap, Prod.snd_swap, sub_sub_cancel]
  exact mul_comm _ _

/-- Every objective value of `(p,q)` on `[0,1]` is an objective value of `(q,p)` on `[0,1]` (at the
reflected exponent), for any `log2`. -/
theorem chernoff_symm (R : RealOps ℝ) (hR : ∀ x e : ℝ, R.pow x e = x ^ e) (log2 : ℝ → ℝ)
    (pq : List (ℝ × ℝ)) (a : ℝ) (ha : a ∈ Set.Icc (0 : ℝ) 1) :
    ∃ a' ∈ Set.Icc (0 : ℝ) 1, chernoffObj R log2 a' (pq.map Prod.swap) = chernoffObj R log2 a pq := by
  refine ⟨1 - a, ⟨sub_nonneg.mpr ha.2, sub_le_self 1 ha.1⟩, ?_⟩
  rw [chernoffObj, chernoffSum_symm R hR, sub_sub_cancel, chernoffObj]

/-- The objectives of `(q,p)` and `(p,q)` have the same set of values on `[0,1]`. -/
theorem chernoff_range_symm (R : RealOps ℝ) (hR : ∀ x e : ℝ, R.pow x e = x ^ e) (log2 : ℝ → ℝ)
    (pq : List (ℝ × ℝ)) :
    (fun a => chernoffObj R log2 a (pq.map Prod.swap)) '' Set.Icc 0 1
      = (fun a => chernoffObj R log2 a pq) '' Set.Icc 0 1 := by
  apply Set.Subset.antisymm
  · rintro _ ⟨a, ha, rfl⟩
    have h := chernoff_symm R hR log2 (pq.map Prod.swap) a ha
    rwa [List.map_map, Prod.swap_swap_eq, List.map_id] at h
  · rintro _ ⟨a, ha, rfl⟩
    exact chernoff_symm R hR log2 pq a ha

/-- **The Chernoff information is symmetric**: `m` is the least objective value (resp. the infimum
of the objective) on `[0,1]` for `(q,p)` iff it is for `(p,q)`; the returned `−m` is the same. (The
infimum is the right notion when the supports differ: `func` jumps at the end points, e.g.
`p = (1/2,1/2,0)`, `q = (1/4,0,3/4)` has `func(0) = 0` but `func(0+) = −2`, not attained.) -/
theorem chernoff_min_symm (R : RealOps ℝ) (hR : ∀ x e : ℝ, R.pow x e = x ^ e) (log2 : ℝ → ℝ)
    (pq : List (ℝ × ℝ)) (m : ℝ) :
    (IsLeast ((fun a => chernoffObj R log2 a (pq.map Prod.swap)) '' Set.Icc 0 1) m
        ↔ IsLeast ((fun a => chernoffObj R log2 a pq) '' Set.Icc 0 1) m)
      ∧ (IsGLB ((fun a => chernoffObj R log2 a (pq.map Prod.swap)) '' Set.Icc 0 1) m
        ↔ IsGLB ((fun a => chernoffObj R log2 a pq) '' Set.Icc 0 1) m) := by
  rw [chernoff_range_symm R hR log2 pq]
  exact ⟨Iff.rfl, Iff.rfl⟩

/-! ## `C(p, p) = 0` -/

/-- **On pairs `(p, p)` the sum is `Σ p`** for every exponent (`p^α p^(1−α) = p`, also at `p = 0`). -/
theorem chernoffSum_self (R : RealOps ℝ) (hR : ∀ x e : ℝ, R.pow x e = x ^ e) (a : ℝ)
    (ps : List ℝ) (hnn : ∀ p ∈ ps, 0 ≤ p) :
    chernoffSum R a (ps.map (fun p => (p, p))) = ps.sum := by
  rw [chernoffSum_eq R hR, List.map_map]
  conv_rhs => rw [← List.map_id ps]
  exact congrArg List.sum (List.map_congr_left fun p hp => rpow_mul_rpow_one_sub p a (hnn p hp))

/-- **The Chernoff information of a probability vector from itself is `0`**: the objective is
identically `0`, so its minimum over `[0,1]` is `0`. -/
theorem chernoff_self (R : RealOps ℝ) (hR : ∀ x e : ℝ, R.pow x e = x ^ e) (ps : List ℝ)
    (hnn : ∀ p ∈ ps, 0 ≤ p) (hs : ps.sum = 1) :
    (∀ a, chernoffObj R (Real.logb 2) a (ps.map (fun p => (p, p))) = 0)
      ∧ IsLeast ((fun a => chernoffObj R (Real.logb 2) a (ps.map (fun p => (p, p))))
          '' Set.Icc 0 1) 0 := by
  have h : ∀ a, chernoffObj R (Real.logb 2) a (ps.map (fun p => (p, p))) = 0 := by
    intro a
    rw [chernoffObj, chernoffSum_self R hR a ps hnn, hs, Real.logb_one]
  refine ⟨h, ⟨⟨0, ⟨le_rfl, zero_le_one⟩, h 0⟩, ?_⟩⟩
  rintro v ⟨a, _, rfl⟩
  exact (h a).ge

/-- Non-vacuity of the hypotheses of `chernoff_self`. -/
example : (∀ p ∈ [(1 : ℝ) / 4, 3 / 4, 0], 0 ≤ p) ∧ [(1 : ℝ) / 4, 3 / 4, 0].sum = 1 := by
  refine ⟨?_, by norm_num⟩
  simp only [List.forall_mem_cons, List.not_mem_nil, false_imp_iff, implies_true, and_true]
  norm_num

/-! ## Bhattacharyya -/

/-- **At `α = 1/2` the sum is the Bhattacharyya coefficient** `Σ √(p q)`. -/
theorem chernoffSum_half (R : RealOps ℝ) (hR : ∀ x e : ℝ, R.pow x e = x ^ e)
    (pq : List (ℝ × ℝ)) (hnn : ∀ r ∈ pq, 0 ≤ r.1 ∧ 0 ≤ r.2) :
    chernoffSum R (1 / 2) pq = bcVals Real.sqrt pq := by
  rw [bcVals_eq]
  refine chernoffSum_eq_sum R hR fun r hr => ?_
  rw [sub_half, Real.sqrt_eq_rpow, Real.mul_rpow (hnn r hr).1 (hnn r hr).2]

/-- **The Chernoff information dominates the Bhattacharyya distance**: if `m` is the infimum (in
particular: the least value) of the objective on `[0,1]`, then `−log2 BC ≤ −m`. -/
theorem bhattacharyya_le_chernoff (R : RealOps ℝ) (hR : ∀ x e : ℝ, R.pow x e = x ^ e)
    (pq : List (ℝ × ℝ)) (hnn : ∀ r ∈ pq, 0 ≤ r.1 ∧ 0 ≤ r.2) (m : ℝ)
    (hm : IsGLB ((fun a => chernoffObj R (Real.logb 2) a pq) '' Set.Icc 0 1) m) :
    -Real.logb 2 (bcVals Real.sqrt pq) ≤ -m := by
  have h : m ≤ chernoffObj R (Real.logb 2) (1 / 2) pq :=
    hm.1 ⟨1 / 2, ⟨by norm_num, by norm_num⟩, rfl⟩
  rw [chernoffObj, chernoffSum_half R hR pq hnn] at h
  exact neg_le_neg h

/-- Non-vacuity of `IsLeast … m` (hence of `IsGLB … m`, by `IsLeast.isGLB`): for `(p, p)` the
least value is `0`. -/
example : IsLeast ((fun a => chernoffObj realOps (Real.logb 2) a
    ([(1 : ℝ) / 4, 3 / 4].map (fun p => (p, p)))) '' Set.Icc 0 1) 0 :=
  (chernoff_self realOps (fun _ _ => rfl) [1 / 4, 3 / 4]
    (by
      simp only [List.forall_mem_cons, List.not_mem_nil, false_imp_iff, implies_true, and_true]
      norm_num)
    (by norm_num)).2

/-! ## Log-convexity (why a bounded scalar minimiser finds the global minimum) -/

/-- **Hölder**: `S(θa + (1−θ)b) ≤ S(a)^θ S(b)^(1−θ)` for exponents `a, b ∈ [0,1]` and
`θ ∈ [0,1]` (NumPy's conventions at `p = 0` or `q = 0` included). -/
theorem chernoffSum_holder (R : RealOps ℝ) (hR : ∀ x e : ℝ, R.pow x e = x ^ e)
    (pq : List (ℝ × ℝ)) (hnn : ∀ r ∈ pq, 0 ≤ r.1 ∧ 0 ≤ r.2) (a b θ : ℝ)
    (ha : a ∈ Set.Icc (0 : ℝ) 1) (hb : b ∈ Set.Icc (0 : ℝ) 1) (hθ : θ ∈ Set.Icc (0 : ℝ) 1) :
    chernoffSum R (θ * a + (1 - θ) * b) pq
      ≤ chernoffSum R a pq ^ θ * chernoffSum R b pq ^ (1 - θ) := by
  have hterm : ∀ c : ℝ, ∀ r ∈ pq, 0 ≤ r.1 ^ c * r.2 ^ (1 - c) := fun c r hr =>
    mul_nonneg (Real.rpow_nonneg (hnn r hr).1 _) (Real.rpow_nonneg (hnn r hr).2 _)
  rw [chernoffSum_eq R hR a, chernoffSum_eq R hR b]
  refine le_of_eq_of_le (chernoffSum_eq_sum R hR fun r hr => ?_)
    (holder_list pq _ _ (hterm a) (hterm b) θ hθ.1 hθ.2)
  exact chernoff_term_convex r.1 r.2 a b θ (hnn r hr).1 (hnn r hr).2 ha.1 ha.2 hb.1 hb.2 hθ.1 hθ.2

/-- **`α ↦ log Σ p^α q^(1−α)` is convex on `[0,1]`** when the supports meet (otherwise the sum
is `0` inside `(0,1)` and the logarithm is not defined). -/
theorem chernoffSum_logconvex (R : RealOps ℝ) (hR : ∀ x e : ℝ, R.pow x e = x ^ e)
    (pq : List (ℝ × ℝ)) (hnn : ∀ r ∈ pq, 0 ≤ r.1 ∧ 0 ≤ r.2)
    (hcs : ∃ r ∈ pq, 0 < r.1 ∧ 0 < r.2) :
    ConvexOn ℝ (Set.Icc 0 1) (fun a => Real.log (chernoffSum R a pq)) := by
  refine ⟨convex_Icc 0 1, ?_⟩
  intro a ha b hb θ w hθ hw hθw
  obtain rfl : w = 1 - θ := eq_sub_of_add_eq' hθw
  have hS := fun c => chernoffSum_pos R hR c pq hnn hcs
  have hl := Real.log_le_log (hS _)
    (chernoffSum_holder R hR pq hnn a b θ ha hb ⟨hθ, sub_nonneg.mp hw⟩)
  rwa [Real.log_mul (Real.rpow_pos_of_pos (hS a) _).ne' (Real.rpow_pos_of_pos (hS b) _).ne',
    Real.log_rpow (hS a), Real.log_rpow (hS b)] at hl

/-- **The objective `func` is convex on `[0,1]`** when the supports meet. -/
theorem chernoffObj_convex (R : RealOps ℝ) (hR : ∀ x e : ℝ, R.pow x e = x ^ e)
    (pq : List (ℝ × ℝ)) (hnn : ∀ r ∈ pq, 0 ≤ r.1 ∧ 0 ≤ r.2)
    (hcs : ∃ r ∈ pq, 0 < r.1 ∧ 0 < r.2) :
    ConvexOn ℝ (Set.Icc 0 1) (fun a => chernoffObj R (Real.logb 2) a pq) :=
  ((chernoffSum_logconvex R hR pq hnn hcs).smul (inv_nonneg.mpr log_two_pos.le)).congr
    fun _ _ => (div_eq_inv_mul _ _).symm.trans (logb_two_eq _).symm

/-- **A local minimiser of `func` on `[0,1]` is a global one**: what a bounded scalar minimiser
converges to is the minimum in the definition of the Chernoff information. -/
theorem chernoff_local_min_global (R : RealOps ℝ) (hR : ∀ x e : ℝ, R.pow x e = x ^ e)
    (pq : List (ℝ × ℝ)) (hnn : ∀ r ∈ pq, 0 ≤ r.1 ∧ 0 ≤ r.2)
    (hcs : ∃ r ∈ pq, 0 < r.1 ∧ 0 < r.2) (a : ℝ) (ha : a ∈ Set.Icc (0 : ℝ) 1)
    (hloc : IsLocalMinOn (fun a => chernoffObj R (Real.logb 2) a pq) (Set.Icc 0 1) a) :
    IsMinOn (fun a => chernoffObj R (Real.logb 2) a pq) (Set.Icc 0 1) a :=
  IsMinOn.of_isLocalMinOn_of_convexOn ha hloc (chernoffObj_convex R hR pq hnn hcs)

/-- Non-vacuity of `IsLocalMinOn`: for `(p, p)` every point is a (local) minimiser. -/
example : IsLocalMinOn (fun a => chernoffObj realOps (Real.logb 2) a
    ([(1 : ℝ) / 4, 3 / 4].map (fun p => (p, p)))) (Set.Icc 0 1) (1 / 2) := by
  have h := (chernoff_self realOps (fun _ _ => rfl) [1 / 4, 3 / 4]
    (by
      simp only [List.forall_mem_cons, List.not_mem_nil, false_imp_iff, implies_true, and_true]
      norm_num)
    (by norm_num)).1
  apply IsMinOn.localize
  intro a _
  simp only [Set.mem_ofPred_eq]
  rw [h, h]

/-! ## Lautum information -/

section Lautum
variable {σ : Type} [DecidableEq σ]

/-- **Lautum is a Kullback–Leibler divergence on the pairs `(P_X(x) P_Y(y), P_XY(x,y))`**: the
aligned list inside `lautumVals` is exactly `lautumPairs`, for every `log`. Needed: every `X`
index is in range for every stored outcome, so that all `X`-parts have the same length and the
label `x ++ y` determines `x` and `y` (no disjointness, distinctness or common outcome length is
used). -/
theorem lautum_eq_kl (log : ℝ → ℝ) (t : Tab (List σ) ℝ) (X Y : List Nat)
    (hX : ∀ o ∈ keys t, ∀ i ∈ X, i < o.length) :
    lautumVals log t X Y = klVals log (lautumPairs t X Y) := by
  rw [lautumVals_unfold, alignPair_lautum t X Y hX]

/-- **The pair list**: its members are the pairs `(P_X(x) P_Y(y), P_XY(x,y))`, `x` ranging over the
stored values of the `X`-marginal and `y` over those of the `Y`-marginal. -/
theorem lautumPairs_mem (t : Tab (List σ) ℝ) (X Y : List Nat) (r : ℝ × ℝ) :
    r ∈ lautumPairs t X Y ↔ ∃ x ∈ keys (pushforward (project X) t),
      ∃ y ∈ keys (pushforward (project Y) t),
        r = (margP t X x * margP t Y y, jointP t X Y x y) :=
  mem_lautumPairs t X Y

/-- **The two columns are laws**: for a non-negative table the pairs are non-negative, the
product column sums to `(mass t)²` and the joint column to `mass t` — both `1` for a law. -/
theorem lautumPairs_laws (t : Tab (List σ) ℝ) (X Y : List Nat)
    (hX : ∀ o ∈ keys t, ∀ i ∈ X, i < o.length) (hnn : ∀ r ∈ t, 0 ≤ r.2) :
    (∀ r ∈ lautumPairs t X Y, 0 ≤ r.1 ∧ 0 ≤ r.2)
      ∧ ((lautumPairs t X Y).map Prod.fst).sum = mass t * mass t
      ∧ ((lautumPairs t X Y).map Prod.snd).sum = mass t :=
  ⟨lautumPairs_nonneg t X Y hnn, lautumPairs_sum_fst t X Y hX, lautumPairs_sum_snd t X Y hX⟩

/-- **Textbook definition.** When no pair `(x,y)` has `P_XY(x,y) = 0` with both marginals
non-zero, the lautum information is
`Σ_x Σ_y P_X(x) P_Y(y) log₂ (P_X(x) P_Y(y) / P_XY(x,y))`, `x`, `y` ranging over the stored values
of the two marginals. -/
theorem lautum_eq_def (t : Tab (List σ) ℝ) (X Y : List Nat)
    (hX : ∀ o ∈ keys t, ∀ i ∈ X, i < o.length)
    (hfin : ∀ x y, jointP t X Y x y = 0 → margP t X x = 0 ∨ margP t Y y = 0) :
    lautumVals (Real.logb 2) t X Y
      = some ((keys (pushforward (project X) t)).map (fun x =>
          ((keys (pushforward (project Y) t)).map (fun y =>
            margP t X x * margP t Y y
              * Real.logb 2 (margP t X x * margP t Y y / jointP t X Y x y))).sum)).sum := by
  rw [lautum_eq_kl _ t X Y hX, ← klSum_lautumPairs]
  apply klVals_of_absCont
  by_contra h
  rw [Bool.not_eq_true, absCont_lautumPairs_false_iff] at h
  obtain ⟨x, y, h1, h2, h3⟩ := h
  rcases hfin x y h3 with e | e
  · exact h1 e
  · exact h2 e

/-- **Lautum is infinite exactly when the product puts mass where the joint has none**: some pair
`(x,y)` has non-zero marginals but `P_XY(x,y) = 0`. -/
theorem lautum_infinite_iff (t : Tab (List σ) ℝ) (X Y : List Nat)
    (hX : ∀ o ∈ keys t, ∀ i ∈ X, i < o.length) :
    lautumVals (Real.logb 2) t X Y = none
      ↔ ∃ x y, margP t X x ≠ 0 ∧ margP t Y y ≠ 0 ∧ jointP t X Y x y = 0 := by
  rw [lautum_eq_kl _ t X Y hX, klVals_eq_none_iff, absCont_lautumPairs_false_iff]

/-- **Lautum is non-negative** for a law (non-negative values, total mass `1`): Gibbs' inequality
for the product law against the joint law. -/
theorem lautum_nonneg (t : Tab (List σ) ℝ) (X Y : List Nat)
    (hX : ∀ o ∈ keys t, ∀ i ∈ X, i < o.length) (hnn : ∀ r ∈ t, 0 ≤ r.2) (hmass : mass t = 1)
    (v : ℝ) (h : lautumVals (Real.logb 2) t X Y = some v) : 0 ≤ v := by
  rw [lautum_eq_kl _ t X Y hX] at h
  obtain ⟨hac, rfl⟩ := klVals_eq_some h
  apply klSum_nonneg _ (lautumPairs_nonneg t X Y hnn) hac
  rw [lautumPairs_sum_fst t X Y hX, lautumPairs_sum_snd t X Y hX, hmass, mul_one]

/-- **Lautum vanishes exactly for independent groups**: `P_XY(x,y) = P_X(x) P_Y(y)` for all
`x`, `y`. -/
theorem lautum_eq_zero_iff (t : Tab (List σ) ℝ) (X Y : List Nat)
    (hX : ∀ o ∈ keys t, ∀ i ∈ X, i < o.length) (hnn : ∀ r ∈ t, 0 ≤ r.2) (hmass : mass t = 1)
    (v : ℝ) (h : lautumVals (Real.logb 2) t X Y = some v) :
    v = 0 ↔ ∀ x y, jointP t X Y x y = margP t X x * margP t Y y := by
  rw [lautum_eq_kl _ t X Y hX] at h
  obtain ⟨hac, rfl⟩ := klVals_eq_some h
  rw [← lautumPairs_eq_iff]
  apply klSum_eq_zero_iff _ (lautumPairs_nonneg t X Y hnn) hac
  rw [lautumPairs_sum_fst t X Y hX, lautumPairs_sum_snd t X Y hX, hmass, mul_one]

/-- **Lautum is symmetric in the two groups** (including the value `+∞`), for every `log`. -/
theorem lautum_symm (log : ℝ → ℝ) (t : Tab (List σ) ℝ) (X Y : List Nat)
    (hX : ∀ o ∈ keys t, ∀ i ∈ X, i < o.length) (hY : ∀ o ∈ keys t, ∀ i ∈ Y, i < o.length) :
    lautumVals log t Y X = lautumVals log t X Y := by
  rw [lautum_eq_kl _ t X Y hX, lautum_eq_kl _ t Y X hY]
  exact Lemmas.Diverge.klVals_perm log (lautumPairs_swap t X Y)

end Lautum

/-- Non-vacuity of the table hypotheses: a dependent pair of bits. -/
example : (∀ o ∈ keys ([([0, 0], 1 / 2), ([0, 1], 1 / 4), ([1, 0], 1 / 8), ([1, 1], 1 / 8)] :
        Tab (List Nat) ℝ), ∀ i ∈ [0], i < o.length)
    ∧ (∀ o ∈ keys ([([0, 0], 1 / 2), ([0, 1], 1 / 4), ([1, 0], 1 / 8), ([1, 1], 1 / 8)] :
        Tab (List Nat) ℝ), ∀ i ∈ [1], i < o.length)
    ∧ (∀ r ∈ ([([0, 0], 1 / 2), ([0, 1], 1 / 4), ([1, 0], 1 / 8), ([1, 1], 1 / 8)] :
        Tab (List Nat) ℝ), 0 ≤ r.2)
    ∧ mass ([([0, 0], 1 / 2), ([0, 1], 1 / 4), ([1, 0], 1 / 8), ([1, 1], 1 / 8)] :
        Tab (List Nat) ℝ) = 1 := by
  refine ⟨by decide, by decide, ?_, ?_⟩
  · simp only [List.forall_mem_cons, List.not_mem_nil, false_imp_iff, implies_true, and_true]
    norm_num
  · rw [mass_eq_sum]
    norm_num [vals]

/-- Its pair list, and a finite lautum value (to which `lautum_nonneg`, `lautum_eq_zero_iff`
apply). -/
example : lautumPairs ([([0, 0], 1 / 2), ([0, 1], 1 / 4), ([1, 0], 1 / 8), ([1, 1], 1 / 8)] :
      Tab (List Nat) ℝ) [0] [1]
    = [(3 / 4 * (5 / 8), 1 / 2), (3 / 4 * (3 / 8), 1 / 4), (1 / 4 * (5 / 8), 1 / 8),
        (1 / 4 * (3 / 8), 1 / 8)] := by
  show ([[0], [1]].flatMap fun x => [[0], [1]].map fun y =>
    (margP _ [0] x * margP _ [1] y, jointP _ [0] [1] x y)) = _
  simp +decide only [List.flatMap_cons, List.flatMap_nil, List.map_cons, List.map_nil,
    List.cons_append, List.nil_append, margP, jointP, wtBy_cons, wtBy_nil, if_true, if_false]
  norm_num

example : ∃ v, lautumVals (Real.logb 2)
    ([([0, 0], 1 / 2), ([0, 1], 1 / 4), ([1, 0], 1 / 8), ([1, 1], 1 / 8)] : Tab (List Nat) ℝ)
    [0] [1] = some v := by
  refine ⟨_, (lautum_eq_kl _ _ _ _ (by decide)).trans (klVals_of_absCont ?_)⟩
  rw [absCont_iff]
  intro r hr h2
  obtain ⟨x, hx, y, hy, rfl⟩ := (lautumPairs_mem _ _ _ _).mp hr
  change x ∈ [[0], [1]] at hx
  change y ∈ [[0], [1]] at hy
  simp only [List.mem_cons, List.not_mem_nil, or_false] at hx hy
  rcases hx with rfl | rfl <;> rcases hy with rfl | rfl <;>
    simp +decide only [jointP, wtBy_cons, wtBy_nil, if_true, if_false] at h2 <;>
    norm_num at h2

/-- Non-vacuity of `lautum_infinite_iff`: two perfectly correlated bits have infinite lautum
information (`P_X(0) P_Y(1) > 0 = P_XY(0,1)`). -/
example : lautumVals (Real.logb 2) ([([0, 0], 1 / 2), ([1, 1], 1 / 2)] : Tab (List Nat) ℝ)
    [0] [1] = none := by
  rw [lautum_infinite_iff _ _ _ (by decide)]
  refine ⟨[0], [1], ?_⟩
  simp +decide only [margP, jointP, wtBy_cons, wtBy_nil, if_true, if_false]
  norm_num

/-- The executable model on rationals. With the stand-in `log := 0` only finiteness is computed:
`none` for the correlated bits, `some _` for the dependent pair above. -/
example : lautumVals (fun _ => (0 : ℚ)) [([0, 0], (1 : ℚ) / 2), ([1, 1], 1 / 2)] [0] [1] = none := by
  decide +kernel
example : lautumVals (fun _ => (0 : ℚ))
    [([0, 0], (1 : ℚ) / 2), ([0, 1], 1 / 4), ([1, 0], 1 / 8), ([1, 1], 1 / 8)] [0] [1] = some 0 := by
  decide +kernel
/-- The stand-in power `fun x _ => x` is exact at the exponent `1`, the only one `npPow` hands over
at `α ∈ {0, 1}`. -/
example : chernoffSum (⟨fun _ => 0, fun x _ => x, fun _ => 0, 0⟩ : RealOps ℚ) 0
    [((1 : ℚ) / 2, (1 : ℚ) / 4), (1 / 2, 0), (0, 3 / 4)] = 1 := by decide +kernel
example : chernoffSum (⟨fun _ => 0, fun x _ => x, fun _ => 0, 0⟩ : RealOps ℚ) 1
    [((1 : ℚ) / 2, (1 : ℚ) / 4), (1 / 2, 0), (0, 3 / 4)] = 1 := by decide +kernel

end Dit.Props.C06Chernoff
