/-
C08 (divergences and coefficients) — companion of Props/C08.lean. "Every information measure
depends only on the joint probabilities …: its value is unchanged when the symbols of any variable
are bijectively relabelled, …, the input order of outcomes is permuted, zero-probability outcomes
are added, stored or trimmed." Props/C08.lean covers the entropies, every entropy combination and,
for two tables, some transformations of KL with cross entropy (`kl_*`), variational distance
(`tv_*`) and Bhattacharyya coefficient with Hellinger distance and `powerSum` (`bc_*`). This file
has the other quantities of `Core/Diverge.lean` and the transformations missing there:

* Jensen–Shannon divergence `jsdVals` of any number of tables with arbitrary weights. Core has no
  table-level alignment of more than two tables, so the tables are aligned by
  `Lemmas.DivInv.alignMany` (labels `dedup (ts.flatMap keys)` in order of first appearance, absent
  labels read `0`; see `alignMany_def`; for two tables these are the two components of Core's
  `alignUnion`, `alignMany_pair`).
  The JSD statements hold over any ring with decidable equality and for any `log`.
* cross entropy `crossEntropyVals` (along `alignPair`, like KL), at `ℝ`;
* Hellinger distance `hellingerVals`, and the `powerSum` family `renyiDiv`, `tsallisDiv`
  (= Hellinger divergence), `alphaDiv`, over `alignUnion`, at `ℝ`, for arbitrary `sqrt`, `R`;
  the `pairSum_*` theorems cover every quantity of the form `Σ g(p, q)` over the union alignment
  (a finite `fdivVals` of `Core/FDiv.lean` is one);
* maximum correlation: `maxcorrCompanion` takes the joint pmf matrix; `jointMat xs ys t` builds it
  from a table of outcomes `[x, y]` and alphabets `xs`, `ys` (`jointMat_def`). Relabelling,
  row order, zero padding and trimming of the table leave the matrix itself unchanged once the
  alphabets are renamed; listing the alphabets in another order (which is what a relabelling does
  to dit's sorted alphabets) permutes rows and columns, and `charPoly (maxcorrCompanion …)` — all
  the model returns — is unchanged. Over any field with decidable equality;
* earth mover's distance: `planCost` under a consistent permutation of both outcome lists, and
  `emdCategorical`.

Relabellings are injective maps `φ` of whole labels (any key types), with the per-variable
`relabelTab ρ` as an instance. Helper lemmas: Lemmas/DivInv.lean.
-/
import DitModel.Lemmas.DivInv

namespace Dit.Props.C08Div
open Dit Dit.Lemmas.Table Dit.Lemmas.Transform Dit.Lemmas.DivInv

/-! ## Aligning several tables -/

section Align
variable {κ κ' α : Type} [DecidableEq κ] [DecidableEq κ']

/-- What `alignMany` is: every table listed along the labels of all tables in order of first
appearance, absent labels read `0`. -/
theorem alignMany_def [Zero α] (ts : List (Tab κ α)) :
    alignMany ts = ts.map (fun t => (dedup (ts.flatMap keys)).map (lookupD 0 t)) := rfl

/-- For two tables `alignMany` lists the two components of Core's `alignUnion`. -/
theorem alignMany_pair [Ring α] [DecidableEq α] (t1 t2 : Tab κ α) :
    alignMany [t1, t2]
      = [(alignUnion t1 t2).map Prod.fst, (alignUnion t1 t2).map Prod.snd] := by
  unfold alignMany alignUnion unionKeys
  simp [List.flatMap_cons, Function.comp_def]

/-- **Alignment of several tables is label-blind**: renaming the labels of all tables by one
injective map gives the very same aligned pmfs. Injectivity is needed (merged labels). -/
theorem alignMany_relabel [Ring α] [DecidableEq α] (φ : κ → κ') (hφ : Function.Injective φ)
    (ts : List (Tab κ α)) :
    alignMany (ts.map (fun t => t.map (fun r => (φ r.1, r.2)))) = alignMany ts := by
  unfold alignMany
  rw [unionKeys_map_inj φ hφ, List.map_map]
  refine List.map_congr_left fun t _ => ?_
  rw [Function.comp_apply, List.map_map]
  exact List.map_congr_left fun k _ => lookupD_map_inj φ hφ t k

example : Function.Injective (fun b : Bool => if b then "heads" else "tails") := by
  intro a b h
  cases a <;> cases b <;> simp_all

end Align

/-! ## Jensen–Shannon divergence -/

section JSD
variable {κ κ' α : Type} [DecidableEq κ] [DecidableEq κ'] [Ring α] [DecidableEq α]

/-- **JSD, relabelling.** The Jensen–Shannon divergence of any number of tables with any weights
is unchanged when the labels of all tables are renamed by one injective map (also into another
label type). -/
theorem jsd_relabel (log : α → α) (φ : κ → κ') (hφ : Function.Injective φ)
    (ts : List (Tab κ α)) (w : List α) :
    jsdVals log (alignMany (ts.map (fun t => t.map (fun r => (φ r.1, r.2))))) w
      = jsdVals log (alignMany ts) w := by
  rw [alignMany_relabel φ hφ]

/-- **JSD, per-variable relabelling** (`relabelTab` with every symbol map injective). -/
theorem jsd_relabelTab {σ τ : Type} [DecidableEq σ] [DecidableEq τ] (log : α → α)
    (ρ : Nat → σ → τ) (hρ : ∀ i, Function.Injective (ρ i)) (ts : List (Tab (List σ) α))
    (w : List α) :
    jsdVals log (alignMany (ts.map (relabelTab ρ))) w = jsdVals log (alignMany ts) w :=
  jsd_relabel log (relabelOutcome ρ) (relabelOutcome_injective ρ hρ) ts w

/-- **JSD, row order.** Storing the rows of each table in another order does not change the JSD;
the keys of each table must be pairwise distinct (a lookup finds the first of several rows). -/
theorem jsd_perm_rows (log : α → α) {ts ts' : List (Tab κ α)} (w : List α)
    (h : List.Forall₂ List.Perm ts' ts) (hnd : ∀ t ∈ ts, (keys t).Nodup) :
    jsdVals log (alignMany ts') w = jsdVals log (alignMany ts) w := by
  have e := jsd_alignMany_congr log Prod.fst Prod.snd (ts'.zip ts) w fun r hr k =>
    (lookupD_perm ((List.forall₂_iff_zip.mp h).2 hr).symm (hnd _ (List.of_mem_zip hr).2) 0 k).symm
  rwa [List.map_fst_zip h.length_eq.le, List.map_snd_zip h.length_eq.ge] at e

example :
    let ts : List (Tab String Rat) := [[("a", 1 / 2), ("b", 1 / 2)], [("b", 1 / 4), ("c", 3 / 4)]]
    let ts' : List (Tab String Rat) := [[("b", 1 / 2), ("a", 1 / 2)], [("c", 3 / 4), ("b", 1 / 4)]]
    List.Forall₂ List.Perm ts' ts ∧ (∀ t ∈ ts, (keys t).Nodup)
      ∧ alignMany ts = [[1 / 2, 1 / 2, 0], [0, 1 / 4, 3 / 4]]
      ∧ alignMany ts' = [[1 / 2, 1 / 2, 0], [1 / 4, 0, 3 / 4]] := by
  decide +kernel

/-- **JSD, zero padding.** Adding any zero-probability outcomes to each table (a different set
for each) does not change the JSD. -/
theorem jsd_padZeros {σ : Type} [DecidableEq σ] (log : α → α)
    (ets : List (List (List σ) × Tab (List σ) α)) (w : List α) :
    jsdVals log (alignMany (ets.map (fun r => padZeros r.1 r.2))) w
      = jsdVals log (alignMany (ets.map Prod.snd)) w :=
  jsd_alignMany_congr log _ _ ets w fun r _ => lookupD_padZeros r.1 r.2

/-- The same for arbitrary appended rows of value zero (also for labels already stored). -/
theorem jsd_append_zero (log : α → α) (tz : List (Tab κ α × Tab κ α)) (w : List α)
    (hz : ∀ r ∈ tz, ∀ x ∈ r.2, x.2 = 0) :
    jsdVals log (alignMany (tz.map (fun r => r.1 ++ r.2))) w
      = jsdVals log (alignMany (tz.map Prod.fst)) w :=
  jsd_alignMany_congr log _ _ tz w fun r hr => lookupD_append_zero r.1 r.2 (hz r hr)

example : ∀ r ∈ ([([("a", 1)], [("c", 0), ("a", 0)])] : List (Tab String Rat × Tab String Rat)),
    ∀ x ∈ r.2, x.2 = 0 := by decide

/-- **JSD, trimming.** Dropping the stored zeros of every table does not change the JSD; keys
pairwise distinct (a zero row could otherwise shadow a non-zero row with the same label). -/
theorem jsd_trim (log : α → α) (ts : List (Tab κ α)) (w : List α)
    (hnd : ∀ t ∈ ts, (keys t).Nodup) :
    jsdVals log (alignMany (ts.map (fun t => t.filter (fun r => decide (r.2 ≠ 0))))) w
      = jsdVals log (alignMany ts) w := by
  have e := jsd_alignMany_congr log (fun t => t.filter (fun r => decide (r.2 ≠ 0))) id ts w
    fun t ht => lookupD_trim t (hnd t ht)
  rwa [List.map_id] at e

/-- **JSD, symmetry.** Permuting the (distribution, weight) pairs together does not change the
JSD (no hypothesis: the common labels are found again in another order). -/
theorem jsd_perm_dists (log : α → α) {l l' : List (Tab κ α × α)} (h : l'.Perm l) :
    jsdVals log (alignMany (l'.map Prod.fst)) (l'.map Prod.snd)
      = jsdVals log (alignMany (l.map Prod.fst)) (l.map Prod.snd) := by
  have hm : ∀ k, k ∈ unionKeys (l'.map Prod.fst) ↔ k ∈ unionKeys (l.map Prod.fst) := fun k => by
    simp only [mem_unionKeys, (h.map _).mem_iff]
  rw [alignMany_eq_cols, alignMany_eq_cols, jsd_cols_perm_items log _ h]
  exact jsd_cols_of_nodup log _ _ _ (nodup_unionKeys _) (nodup_unionKeys _)
    (fun k hk hn => absurd ((hm k).mp hk) hn) (fun k hk hn => absurd ((hm k).mpr hk) hn)

example : ([(([("b", 1)] : Tab String Rat), (1 : Rat) / 3), ([("a", 1)], 2 / 3)]).Perm
    [([("a", 1)], 2 / 3), ([("b", 1)], 1 / 3)] := List.Perm.swap _ _ _

/-- The statements apply to the real-valued JSD in bits of C06. -/
example (ρ : Nat → Bool → String) (hρ : ∀ i, Function.Injective (ρ i))
    (ts : List (Tab (List Bool) ℝ)) (w : List ℝ) :
    jsdVals (Real.logb 2) (alignMany (ts.map (relabelTab ρ))) w
      = jsdVals (Real.logb 2) (alignMany ts) w :=
  jsd_relabelTab _ ρ hρ ts w

end JSD

/-! ## Cross entropy -/

section CrossEntropy
variable {κ κ' : Type} [DecidableEq κ] [DecidableEq κ']

/-- **Cross entropy, relabelling** (value `+∞` included). -/
theorem ce_relabel (log : ℝ → ℝ) (φ : κ → κ') (hφ : Function.Injective φ) (t1 t2 : Tab κ ℝ) :
    crossEntropyVals log
        (alignPair (t1.map (fun r => (φ r.1, r.2))) (t2.map (fun r => (φ r.1, r.2))))
      = crossEntropyVals log (alignPair t1 t2) := by
  rw [alignPair_map_inj φ hφ]

/-- **Cross entropy, per-variable relabelling.** -/
theorem ce_relabelTab {σ τ : Type} [DecidableEq σ] [DecidableEq τ] (log : ℝ → ℝ)
    (ρ : Nat → σ → τ) (hρ : ∀ i, Function.Injective (ρ i)) (t1 t2 : Tab (List σ) ℝ) :
    crossEntropyVals log (alignPair (relabelTab ρ t1) (relabelTab ρ t2))
      = crossEntropyVals log (alignPair t1 t2) :=
  ce_relabel log (relabelOutcome ρ) (relabelOutcome_injective ρ hρ) t1 t2

/-- **Cross entropy, row order.** The keys of `t2` must be pairwise distinct (otherwise the
lookup finds the first of several rows, which depends on the order). -/
theorem ce_perm_rows (log : ℝ → ℝ) {t1 t1' t2 t2' : Tab κ ℝ} (h1 : t1'.Perm t1)
    (h2 : t2'.Perm t2) (hnd : (keys t2).Nodup) :
    crossEntropyVals log (alignPair t1' t2') = crossEntropyVals log (alignPair t1 t2) := by
  rw [← Lemmas.Diverge.alignPair_right_perm t1' h2.symm hnd]
  exact Lemmas.Diverge.xentVals_perm log (Lemmas.Diverge.alignPair_left_perm t2 h1)

example : (keys [("a", (1 : ℝ) / 2), ("b", 1 / 2)]).Nodup := by simp [keys]

/-- **Cross entropy, zero padding.** New rows of `t1` give pairs `(0, q)`, which contribute
nothing; new rows of `t2` are looked up as `0`, as absent labels are. -/
theorem ce_padZeros {σ : Type} [DecidableEq σ] (log : ℝ → ℝ) (e1 e2 : List (List σ))
    (t1 t2 : Tab (List σ) ℝ) :
    crossEntropyVals log (alignPair (padZeros e1 t1) (padZeros e2 t2))
      = crossEntropyVals log (alignPair t1 t2) := by
  obtain ⟨z1, E1, hz1, _⟩ := padZeros_eq_append e1 t1
  obtain ⟨z2, E2, hz2, _⟩ := padZeros_eq_append e2 t2
  rw [E1, E2, alignPair_append_zero_right _ _ _ hz2, Lemmas.Transform.alignPair_append_left]
  exact Lemmas.Diverge.xentVals_append_zero log _ _ (alignPair_zero_left z1 t2 hz1)

/-- **Cross entropy, trimming**; the keys of `t2` must be pairwise distinct. -/
theorem ce_trim (log : ℝ → ℝ) (t1 t2 : Tab κ ℝ) (hnd : (keys t2).Nodup) :
    crossEntropyVals log (alignPair (t1.filter (fun r => decide (r.2 ≠ 0)))
        (t2.filter (fun r => decide (r.2 ≠ 0)))) = crossEntropyVals log (alignPair t1 t2) := by
  rw [alignPair_trim t1 t2 hnd]
  exact (Lemmas.Diverge.klVals_filter_fst log _).2

/-- **Cross entropy over the union alignment** equals cross entropy along `t1` (labels that only
`t2` has do not matter), so all of the above also hold for `alignUnion`. -/
theorem ce_alignUnion (log : ℝ → ℝ) (t1 t2 : Tab κ ℝ) (hnd : (keys t1).Nodup) :
    crossEntropyVals log (alignUnion t1 t2) = crossEntropyVals log (alignPair t1 t2) := by
  rw [Lemmas.Diverge.alignUnion_eq t1 t2 hnd]
  apply Lemmas.Diverge.xentVals_append_zero
  intro r hr
  obtain ⟨k, _, rfl⟩ := List.mem_map.mp hr
  rfl

end CrossEntropy

/-! ## Sums over the union alignment: Hellinger distance, power sums, f-divergences -/

section PairSums
variable {κ κ' α M : Type} [DecidableEq κ] [DecidableEq κ'] [AddCommMonoid α] [AddCommMonoid M]

/-- **Any sum `Σ g(p, q)` over the union alignment, relabelling.** -/
theorem pairSum_relabel (g : α × α → M) (φ : κ → κ') (hφ : Function.Injective φ)
    (t1 t2 : Tab κ α) :
    ((alignUnion (t1.map (fun r => (φ r.1, r.2))) (t2.map (fun r => (φ r.1, r.2)))).map g).sum
      = ((alignUnion t1 t2).map g).sum := by
  rw [alignUnion_map_inj φ hφ]

/-- **Any sum `Σ g(p, q)` over the union alignment, row order** (keys pairwise distinct). -/
theorem pairSum_perm_rows (g : α × α → M) {t1 t1' t2 t2' : Tab κ α} (h1 : t1'.Perm t1)
    (h2 : t2'.Perm t2) (hnd1 : (keys t1).Nodup) (hnd2 : (keys t2).Nodup) :
    ((alignUnion t1' t2').map g).sum = ((alignUnion t1 t2).map g).sum :=
  ((Lemmas.Diverge.alignUnion_perm h1.symm h2.symm hnd1 hnd2).map g).sum_eq.symm

/-- **Any sum `Σ g(p, q)` over the union alignment, zero padding.** `g (0, 0) = 0` is needed: a
label new to both tables gives a pair `(0, 0)`. -/
theorem pairSum_padZeros {σ : Type} [DecidableEq σ] (g : α × α → M) (hg : g (0, 0) = 0)
    (e1 e2 : List (List σ)) (t1 t2 : Tab (List σ) α) :
    ((alignUnion (padZeros e1 t1) (padZeros e2 t2)).map g).sum
      = ((alignUnion t1 t2).map g).sum := by
  obtain ⟨z1, E1, hz1, _⟩ := padZeros_eq_append e1 t1
  obtain ⟨z2, E2, hz2, _⟩ := padZeros_eq_append e2 t2
  rw [E1, E2]
  exact sum_alignUnion_append_zero g hg t1 z1 t2 z2 hz1 hz2

/-- **Any sum `Σ g(p, q)` over the union alignment, trimming** (`g (0, 0) = 0`, keys pairwise
distinct): the labels stored with value zero only give pairs `(0, 0)`. -/
theorem pairSum_trim [DecidableEq α] (g : α × α → M) (hg : g (0, 0) = 0) (t1 t2 : Tab κ α)
    (hnd1 : (keys t1).Nodup) (hnd2 : (keys t2).Nodup) :
    ((alignUnion (t1.filter (fun r => decide (r.2 ≠ 0)))
        (t2.filter (fun r => decide (r.2 ≠ 0)))).map g).sum
      = ((alignUnion t1 t2).map g).sum := by
  rw [sum_alignUnion_eq g hg _ _ (nodup_dedup (keys t1 ++ keys t2)) fun k hk =>
      mem_dedup.mpr (List.mem_append.mpr (hk.imp (fun h => (keys_filter_sublist _ t1).subset h)
        (fun h => (keys_filter_sublist _ t2).subset h))),
    funext (lookupD_trim t1 hnd1), funext (lookupD_trim t2 hnd2)]
  rfl

/-- An f-divergence term `q f(p/q)` (with `0 · f(0/0) = 0`) satisfies `g (0, 0) = 0`. -/
example (f : ℝ → ℝ) : (fun r : ℝ × ℝ => r.2 * f (r.1 / r.2)) (0, 0) = 0 := by simp

end PairSums

section Hellinger
variable {κ κ' : Type} [DecidableEq κ] [DecidableEq κ']

/-- **Row order (Bhattacharyya coefficient, power sums)**; keys pairwise distinct. -/
theorem bc_perm_rows (sqrt : ℝ → ℝ) (R : RealOps ℝ) (a b : ℝ) {t1 t1' t2 t2' : Tab κ ℝ}
    (h1 : t1'.Perm t1) (h2 : t2'.Perm t2) (hnd1 : (keys t1).Nodup) (hnd2 : (keys t2).Nodup) :
    bcVals sqrt (alignUnion t1' t2') = bcVals sqrt (alignUnion t1 t2)
    ∧ powerSum R a b (alignUnion t1' t2') = powerSum R a b (alignUnion t1 t2) :=
  ⟨(Lemmas.Diverge.bcVals_perm sqrt (Lemmas.Diverge.alignUnion_perm h1.symm h2.symm hnd1 hnd2)).symm,
    (Lemmas.Diverge.powerSum_perm R a b (Lemmas.Diverge.alignUnion_perm h1.symm h2.symm hnd1 hnd2)).symm⟩

/-- **Trimming (Bhattacharyya coefficient, power sums)**; `sqrt 0 = 0`, keys pairwise
distinct. -/
theorem bc_trim (sqrt : ℝ → ℝ) (hs : sqrt 0 = 0) (R : RealOps ℝ) (a b : ℝ) (t1 t2 : Tab κ ℝ)
    (hnd1 : (keys t1).Nodup) (hnd2 : (keys t2).Nodup) :
    bcVals sqrt (alignUnion (t1.filter (fun r => decide (r.2 ≠ 0)))
        (t2.filter (fun r => decide (r.2 ≠ 0)))) = bcVals sqrt (alignUnion t1 t2)
    ∧ powerSum R a b (alignUnion (t1.filter (fun r => decide (r.2 ≠ 0)))
        (t2.filter (fun r => decide (r.2 ≠ 0)))) = powerSum R a b (alignUnion t1 t2) :=
  have h := fun g hg => pairSum_trim g hg t1 t2 hnd1 hnd2
  ⟨bcVals_of_pairSum h sqrt hs, powerSum_of_pairSum h R a b⟩

/-- **Hellinger distance, relabelling.** -/
theorem hellinger_relabel (sqrt : ℝ → ℝ) (φ : κ → κ') (hφ : Function.Injective φ)
    (t1 t2 : Tab κ ℝ) :
    hellingerVals sqrt
        (alignUnion (t1.map (fun r => (φ r.1, r.2))) (t2.map (fun r => (φ r.1, r.2))))
      = hellingerVals sqrt (alignUnion t1 t2) := by
  rw [alignUnion_map_inj φ hφ]

/-- **Hellinger distance, row order**; keys pairwise distinct. -/
theorem hellinger_perm_rows (sqrt : ℝ → ℝ) {t1 t1' t2 t2' : Tab κ ℝ} (h1 : t1'.Perm t1)
    (h2 : t2'.Perm t2) (hnd1 : (keys t1).Nodup) (hnd2 : (keys t2).Nodup) :
    hellingerVals sqrt (alignUnion t1' t2') = hellingerVals sqrt (alignUnion t1 t2) :=
  congrArg (fun b => sqrt (1 - b))
    (Lemmas.Diverge.bcVals_perm sqrt (Lemmas.Diverge.alignUnion_perm h1.symm h2.symm hnd1 hnd2)).symm

/-- **Hellinger distance, zero padding.** `sqrt 0 = 0` is all that is used of the square root: a
label new to both tables contributes `sqrt (0 · 0)` to the Bhattacharyya coefficient. -/
theorem hellinger_padZeros {σ : Type} [DecidableEq σ] (sqrt : ℝ → ℝ) (hs : sqrt 0 = 0)
    (e1 e2 : List (List σ)) (t1 t2 : Tab (List σ) ℝ) :
    hellingerVals sqrt (alignUnion (padZeros e1 t1) (padZeros e2 t2))
      = hellingerVals sqrt (alignUnion t1 t2) := by
  unfold hellingerVals
  rw [bcVals_of_pairSum (fun g hg => pairSum_padZeros g hg e1 e2 t1 t2) sqrt hs]

/-- **Hellinger distance, trimming**; `sqrt 0 = 0`, keys pairwise distinct. -/
theorem hellinger_trim (sqrt : ℝ → ℝ) (hs : sqrt 0 = 0) (t1 t2 : Tab κ ℝ)
    (hnd1 : (keys t1).Nodup) (hnd2 : (keys t2).Nodup) :
    hellingerVals sqrt (alignUnion (t1.filter (fun r => decide (r.2 ≠ 0)))
        (t2.filter (fun r => decide (r.2 ≠ 0)))) = hellingerVals sqrt (alignUnion t1 t2) := by
  unfold hellingerVals
  rw [bcVals_of_pairSum (fun g hg => pairSum_trim g hg t1 t2 hnd1 hnd2) sqrt hs]

example : Real.sqrt 0 = 0 := Real.sqrt_zero

/-- **Rényi, Tsallis (= Hellinger) and alpha divergences, relabelling.** -/
theorem powerFamily_relabel (R : RealOps ℝ) (two four a : ℝ) (φ : κ → κ')
    (hφ : Function.Injective φ) (t1 t2 : Tab κ ℝ) :
    renyiDiv R a (alignUnion (t1.map (fun r => (φ r.1, r.2))) (t2.map (fun r => (φ r.1, r.2))))
        = renyiDiv R a (alignUnion t1 t2)
    ∧ tsallisDiv R a
          (alignUnion (t1.map (fun r => (φ r.1, r.2))) (t2.map (fun r => (φ r.1, r.2))))
        = tsallisDiv R a (alignUnion t1 t2)
    ∧ alphaDiv R two four a
          (alignUnion (t1.map (fun r => (φ r.1, r.2))) (t2.map (fun r => (φ r.1, r.2))))
        = alphaDiv R two four a (alignUnion t1 t2) := by
  rw [alignUnion_map_inj φ hφ]
  exact ⟨rfl, rfl, rfl⟩

/-- **Rényi, Tsallis and alpha divergences, row order**; keys pairwise distinct. -/
theorem powerFamily_perm_rows (R : RealOps ℝ) (two four a : ℝ) {t1 t1' t2 t2' : Tab κ ℝ}
    (h1 : t1'.Perm t1) (h2 : t2'.Perm t2) (hnd1 : (keys t1).Nodup) (hnd2 : (keys t2).Nodup) :
    renyiDiv R a (alignUnion t1' t2') = renyiDiv R a (alignUnion t1 t2)
    ∧ tsallisDiv R a (alignUnion t1' t2') = tsallisDiv R a (alignUnion t1 t2)
    ∧ alphaDiv R two four a (alignUnion t1' t2') = alphaDiv R two four a (alignUnion t1 t2) :=
  powerFamily_congr R two four a fun a b =>
    (Lemmas.Diverge.powerSum_perm R a b (Lemmas.Diverge.alignUnion_perm h1.symm h2.symm hnd1 hnd2)).symm

/-- **Rényi, Tsallis and alpha divergences, zero padding.** No hypothesis on `R.pow` or `R.log`
is needed: `powerSum` skips every pair with a null component, in particular the pairs `(0, 0)` of
the new labels. -/
theorem powerFamily_padZeros {σ : Type} [DecidableEq σ] (R : RealOps ℝ) (two four a : ℝ)
    (e1 e2 : List (List σ)) (t1 t2 : Tab (List σ) ℝ) :
    renyiDiv R a (alignUnion (padZeros e1 t1) (padZeros e2 t2))
        = renyiDiv R a (alignUnion t1 t2)
    ∧ tsallisDiv R a (alignUnion (padZeros e1 t1) (padZeros e2 t2))
        = tsallisDiv R a (alignUnion t1 t2)
    ∧ alphaDiv R two four a (alignUnion (padZeros e1 t1) (padZeros e2 t2))
        = alphaDiv R two four a (alignUnion t1 t2) :=
  powerFamily_congr R two four a
    (powerSum_of_pairSum (fun g hg => pairSum_padZeros g hg e1 e2 t1 t2) R)

/-- **Rényi, Tsallis and alpha divergences, trimming**; keys pairwise distinct. -/
theorem powerFamily_trim (R : RealOps ℝ) (two four a : ℝ) (t1 t2 : Tab κ ℝ)
    (hnd1 : (keys t1).Nodup) (hnd2 : (keys t2).Nodup) :
    renyiDiv R a (alignUnion (t1.filter (fun r => decide (r.2 ≠ 0)))
        (t2.filter (fun r => decide (r.2 ≠ 0)))) = renyiDiv R a (alignUnion t1 t2)
    ∧ tsallisDiv R a (alignUnion (t1.filter (fun r => decide (r.2 ≠ 0)))
        (t2.filter (fun r => decide (r.2 ≠ 0)))) = tsallisDiv R a (alignUnion t1 t2)
    ∧ alphaDiv R two four a (alignUnion (t1.filter (fun r => decide (r.2 ≠ 0)))
        (t2.filter (fun r => decide (r.2 ≠ 0)))) = alphaDiv R two four a (alignUnion t1 t2) :=
  powerFamily_congr R two four a
    (powerSum_of_pairSum (fun g hg => pairSum_trim g hg t1 t2 hnd1 hnd2) R)

/-- **Hellinger distance and the power-sum family, per-variable relabelling** (`relabelTab` with
every symbol map injective). -/
theorem unionDiv_relabelTab {σ τ : Type} [DecidableEq σ] [DecidableEq τ] (sqrt : ℝ → ℝ)
    (R : RealOps ℝ) (two four a : ℝ) (ρ : Nat → σ → τ) (hρ : ∀ i, Function.Injective (ρ i))
    (t1 t2 : Tab (List σ) ℝ) :
    hellingerVals sqrt (alignUnion (relabelTab ρ t1) (relabelTab ρ t2))
        = hellingerVals sqrt (alignUnion t1 t2)
    ∧ renyiDiv R a (alignUnion (relabelTab ρ t1) (relabelTab ρ t2))
        = renyiDiv R a (alignUnion t1 t2)
    ∧ tsallisDiv R a (alignUnion (relabelTab ρ t1) (relabelTab ρ t2))
        = tsallisDiv R a (alignUnion t1 t2)
    ∧ alphaDiv R two four a (alignUnion (relabelTab ρ t1) (relabelTab ρ t2))
        = alphaDiv R two four a (alignUnion t1 t2) := by
  have e : alignUnion (relabelTab ρ t1) (relabelTab ρ t2) = alignUnion t1 t2 :=
    alignUnion_map_inj _ (relabelOutcome_injective ρ hρ) t1 t2
  rw [e]
  exact ⟨rfl, rfl, rfl, rfl⟩

example :
    let t1 : Tab (List String) Rat := [(["a"], 1 / 2), (["b"], 1 / 2)]
    let t2 : Tab (List String) Rat := [(["b"], 1 / 4), (["c"], 3 / 4)]
    (keys t1).Nodup ∧ (keys t2).Nodup ∧ [(["b"], (1 : Rat) / 2), (["a"], 1 / 2)].Perm t1
    ∧ alignUnion (padZeros [["c"]] t1) (padZeros [["a"], ["d"]] t2)
        = [(1 / 2, 0), (1 / 2, 1 / 4), (0, 3 / 4), (0, 0)]
    ∧ alignUnion [(["b"], (1 : Rat) / 2), (["a"], 1 / 2)] t2
        = [(1 / 2, 1 / 4), (1 / 2, 0), (0, 3 / 4)] := by
  decide +kernel

end Hellinger

/-! ## Maximum correlation -/

section MaxCorr
variable {α : Type} [Field α] [DecidableEq α]

set_option linter.unusedSectionVars false in
/-- What `lmatrix` and `jointMat` are: the matrix with entry `v x y` in row `x ∈ xs`, column
`y ∈ ys`; for a table of two-variable outcomes, `v x y` is the stored value of `[x, y]` (or `0`). -/
theorem jointMat_def {σ : Type} [DecidableEq σ] (xs ys : List σ) (t : Tab (List σ) α) :
    jointMat xs ys t = xs.map (fun x => ys.map (fun y => lookupD 0 t [x, y])) := rfl

set_option linter.unusedSectionVars false in
/-- **Maximum correlation, relabelling: the matrix.** Relabelling the symbols of `X` and of `Y`
by injective maps, and renaming the alphabets accordingly, gives the very same joint matrix, hence
the same companion matrix and characteristic polynomial. -/
theorem maxcorr_matrix_relabel {σ τ : Type} [DecidableEq σ] [DecidableEq τ] (ρ : Nat → σ → τ)
    (hρ : ∀ i, Function.Injective (ρ i)) (xs ys : List σ) (t : Tab (List σ) α) :
    jointMat (xs.map (ρ 0)) (ys.map (ρ 1)) (relabelTab ρ t) = jointMat xs ys t := by
  unfold jointMat lmatrix
  rw [List.map_map]
  refine List.map_congr_left fun x _ => ?_
  rw [Function.comp_apply, List.map_map]
  exact List.map_congr_left fun y _ =>
    lookupD_map_inj (relabelOutcome ρ) (relabelOutcome_injective ρ hρ) t [x, y]

set_option linter.unusedSectionVars false in
/-- **Maximum correlation, row order of the table**: the same joint matrix (keys pairwise
distinct). -/
theorem maxcorr_matrix_perm_rows {σ : Type} [DecidableEq σ] (xs ys : List σ)
    {t t' : Tab (List σ) α} (h : t'.Perm t) (hnd : (keys t).Nodup) :
    jointMat xs ys t' = jointMat xs ys t :=
  jointMat_congr xs ys t t' (fun o => (lookupD_perm h.symm hnd 0 o).symm)

set_option linter.unusedSectionVars false in
/-- **Maximum correlation, zero padding of the table**: the same joint matrix. -/
theorem maxcorr_matrix_padZeros {σ : Type} [DecidableEq σ] (xs ys : List σ)
    (extra : List (List σ)) (t : Tab (List σ) α) :
    jointMat xs ys (padZeros extra t) = jointMat xs ys t :=
  jointMat_congr xs ys t _ (lookupD_padZeros extra t)

/-- **Maximum correlation, trimming of the table**: the same joint matrix (keys pairwise
distinct). -/
theorem maxcorr_matrix_trim {σ : Type} [DecidableEq σ] (xs ys : List σ) (t : Tab (List σ) α)
    (hnd : (keys t).Nodup) :
    jointMat xs ys (t.filter (fun r => decide (r.2 ≠ 0))) = jointMat xs ys t :=
  jointMat_congr xs ys t _ (fun o => lookupD_trim t hnd o)

/-- **Maximum correlation, order of the symbols of `X`**: listing the rows of the joint matrix in
another order leaves the companion matrix itself unchanged (its entries are sums over the rows). -/
theorem maxcorr_companion_perm_X {ι τ : Type} [DecidableEq τ] (v : ι → τ → α) {xs xs' : List ι}
    (hx : xs'.Perm xs) (ys : List τ) :
    maxcorrCompanion (lmatrix xs' ys v) = maxcorrCompanion (lmatrix xs ys v) := by
  by_cases hne : xs = []
  · subst hne
    rw [List.perm_nil.mp hx]
  have hne' : xs' ≠ [] := fun e => hne (List.nil_perm.mp (e ▸ hx))
  rw [maxcorrCompanion_lmatrix v xs ys hne, maxcorrCompanion_lmatrix v xs' ys hne',
    ccL_perm v hx (List.Perm.refl ys)]

/-- **Maximum correlation, order of the symbols of `X` and `Y`**: listing rows and columns of the
joint matrix in another order changes the companion matrix by a permutation similarity, and the
coefficients of its characteristic polynomial, as computed by `charPoly` (Faddeev–LeVerrier, with
any cast `ofNat`), are the same. The column labels must be pairwise distinct (the identity matrix
of the recursion is by position). -/
theorem maxcorr_charPoly_perm {ι τ : Type} [DecidableEq τ] (ofNat : Nat → α) (v : ι → τ → α)
    {xs xs' : List ι} {ys ys' : List τ} (hx : xs'.Perm xs) (hy : ys'.Perm ys) (hnd : ys.Nodup) :
    charPoly ofNat (maxcorrCompanion (lmatrix xs' ys' v))
      = charPoly ofNat (maxcorrCompanion (lmatrix xs ys v)) := by
  rw [maxcorr_companion_perm_X v hx ys']
  by_cases hne : xs = []
  · subst hne; rfl
  rw [maxcorrCompanion_lmatrix v xs ys hne, maxcorrCompanion_lmatrix v xs ys' hne,
    ccL_perm v (List.Perm.refl xs) hy, charPoly_lmatrix_perm ofNat hy hnd]

/-- The same by positions, for any rectangular matrix `P`: new row `i` is old row `σ[i]`, new
column `j` is old column `π[j]`, `σ` and `π` permutations of the row and column numbers. -/
theorem maxcorr_charPoly_perm_index (ofNat : Nat → α) (P : List (List α)) (n : Nat)
    (hrow : ∀ row ∈ P, row.length = n) {σ π : List Nat} (hσ : σ.Perm (List.range P.length))
    (hπ : π.Perm (List.range n)) :
    charPoly ofNat (maxcorrCompanion
        (σ.map (fun i => π.map (fun j => (P.getD i []).getD j 0))))
      = charPoly ofNat (maxcorrCompanion P) := by
  conv_rhs => rw [lmatrix_getD_self P n hrow]
  exact maxcorr_charPoly_perm ofNat _ hσ hπ List.nodup_range

example : [2, 0, 1].Perm (List.range 3) ∧ [1, 0].Perm (List.range 2) := by decide

/-- **Maximum correlation, relabelling: the value.** Relabel the symbols of `X` and `Y` by
injective maps and list the new alphabets in any order (dit sorts them): the characteristic
polynomial of the companion matrix — everything the model returns for the maximum correlation —
is unchanged. The alphabet of `Y` must be duplicate-free. -/
theorem maxcorr_relabel {σ τ : Type} [DecidableEq σ] [DecidableEq τ] (ofNat : Nat → α)
    (ρ : Nat → σ → τ) (hρ : ∀ i, Function.Injective (ρ i)) (xs ys : List σ) (xs' ys' : List τ)
    (hx : xs'.Perm (xs.map (ρ 0))) (hy : ys'.Perm (ys.map (ρ 1))) (hnd : ys.Nodup)
    (t : Tab (List σ) α) :
    charPoly ofNat (maxcorrCompanion (jointMat xs' ys' (relabelTab ρ t)))
      = charPoly ofNat (maxcorrCompanion (jointMat xs ys t)) := by
  rw [← maxcorr_matrix_relabel ρ hρ xs ys t]
  exact maxcorr_charPoly_perm ofNat _ hx hy (hnd.map (hρ 1))

/-- Non-vacuity: reversing both binary alphabets; the joint matrix has rows and columns swapped,
the companion matrix changes, its characteristic polynomial does not. -/
example :
    let t : Tab (List Bool) Rat :=
      [([false, false], 3 / 8), ([false, true], 1 / 8), ([true, false], 1 / 4), ([true, true], 1 / 4)]
    let ρ : Nat → Bool → String := fun _ b => if b then "0" else "1"
    ["0", "1"].Perm ([false, true].map (ρ 0)) ∧ [false, true].Nodup
    ∧ jointMat ["0", "1"] ["0", "1"] (relabelTab ρ t) = [[1 / 4, 1 / 4], [1 / 8, 3 / 8]]
    ∧ jointMat [false, true] [false, true] t = [[3 / 8, 1 / 8], [1 / 4, 1 / 4]]
    ∧ maxcorrCompanion (jointMat ["0", "1"] ["0", "1"] (relabelTab ρ t))
        ≠ maxcorrCompanion (jointMat [false, true] [false, true] t)
    ∧ charPoly (fun n => (n : Rat)) (maxcorrCompanion (jointMat ["0", "1"] ["0", "1"] (relabelTab ρ t)))
        = charPoly (fun n => (n : Rat)) (maxcorrCompanion (jointMat [false, true] [false, true] t)) := by
  decide +kernel

/-- The statements apply at `ℝ`. -/
example (P : List (List ℝ)) (hrow : ∀ row ∈ P, row.length = 2) (h2 : P.length = 2) :
    charPoly (fun n => (n : ℝ)) (maxcorrCompanion
        ([1, 0].map (fun i => [1, 0].map (fun j => (P.getD i []).getD j 0))))
      = charPoly (fun n => (n : ℝ)) (maxcorrCompanion P) :=
  maxcorr_charPoly_perm_index _ P 2 hrow (by rw [h2]; decide) (by decide)

end MaxCorr

/-! ## Earth mover's distance -/

section EMD
variable {α ι τ : Type} [Semiring α]

/-- **Cost of a transport plan, order of the outcomes.** Listing the outcomes of the first
distribution (rows) and of the second (columns) in another order, consistently in the ground
distance `D` and in the plan `P`, does not change the cost. No hypothesis (labels may repeat). -/
theorem planCost_perm {xs xs' : List ι} {ys ys' : List τ} (hx : xs'.Perm xs) (hy : ys'.Perm ys)
    (D P : ι → τ → α) :
    planCost (lmatrix xs' ys' D) (lmatrix xs' ys' P)
      = planCost (lmatrix xs ys D) (lmatrix xs ys P) := by
  rw [planCost_lmatrix, planCost_lmatrix, (hx.map _).sum_eq]
  exact congrArg List.sum (List.map_congr_left fun x _ => (hy.map _).sum_eq)

/-- **Cost of a transport plan, relabelling.** With the ground distance and the plan given on the
new labels, the matrices — hence the cost — are the same. -/
theorem planCost_relabel {ι' τ' : Type} (f : ι → ι') (g : τ → τ') (xs : List ι) (ys : List τ)
    (D P : ι' → τ' → α) :
    planCost (lmatrix (xs.map f) (ys.map g) D) (lmatrix (xs.map f) (ys.map g) P)
      = planCost (lmatrix xs ys (fun x y => D (f x) (g y)))
          (lmatrix xs ys (fun x y => P (f x) (g y))) := by
  unfold lmatrix
  simp only [List.map_map, Function.comp_def]

/-- The marginals of a plan (row sums, column sums) do not depend on the order in which the
outcomes are listed. -/
theorem plan_marginals_perm {xs xs' : List ι} {ys ys' : List τ} (hx : xs'.Perm xs)
    (hy : ys'.Perm ys) (P : ι → τ → α) :
    (∀ x, (ys'.map (fun y => P x y)).sum = (ys.map (fun y => P x y)).sum)
    ∧ (∀ y, (xs'.map (fun x => P x y)).sum = (xs.map (fun x => P x y)).sum) :=
  ⟨fun _ => (hy.map _).sum_eq, fun _ => (hx.map _).sum_eq⟩

example : planCost (lmatrix [1, 0] [0, 1] (fun i j => if i = j then (0 : Rat) else 1))
      (lmatrix [1, 0] [0, 1] (fun i j => if i = 0 then (1 : Rat) / 4 else if j = 0 then 0 else 1 / 2))
    = planCost [[(0 : Rat), 1], [1, 0]] [[(1 : Rat) / 4, 1 / 4], [0, 1 / 2]] := by
  decide +kernel

variable {κ κ' : Type} [DecidableEq κ] [DecidableEq κ']

/-- **Earth mover's distance for the categorical metric** (`emdCategorical`, the mass that has to
move), **relabelling.** -/
theorem emdCategorical_relabel (two : ℝ) (φ : κ → κ') (hφ : Function.Injective φ)
    (t1 t2 : Tab κ ℝ) :
    emdCategorical two
        (alignUnion (t1.map (fun r => (φ r.1, r.2))) (t2.map (fun r => (φ r.1, r.2))))
      = emdCategorical two (alignUnion t1 t2) := by
  rw [alignUnion_map_inj φ hφ]

/-- **Categorical earth mover's distance, row order** (keys pairwise distinct). -/
theorem emdCategorical_perm_rows (two : ℝ) {t1 t1' t2 t2' : Tab κ ℝ} (h1 : t1'.Perm t1)
    (h2 : t2'.Perm t2) (hnd1 : (keys t1).Nodup) (hnd2 : (keys t2).Nodup) :
    emdCategorical two (alignUnion t1' t2') = emdCategorical two (alignUnion t1 t2) :=
  (Lemmas.Diverge.tvVals_perm two (Lemmas.Diverge.alignUnion_perm h1.symm h2.symm hnd1 hnd2)).symm

/-- **Categorical earth mover's distance, zero padding** (any divisor `two`). -/
theorem emdCategorical_padZeros {σ : Type} [DecidableEq σ] (two : ℝ) (e1 e2 : List (List σ))
    (t1 t2 : Tab (List σ) ℝ) :
    emdCategorical two (alignUnion (padZeros e1 t1) (padZeros e2 t2))
      = emdCategorical two (alignUnion t1 t2) :=
  tvVals_of_pairSum (fun g hg => pairSum_padZeros g hg e1 e2 t1 t2) two

end EMD

end Dit.Props.C08Div
