/-
C11 (example-distribution part) — "the example-distribution constructors (giant bit, n-mod-m,
dice sums, logic gates, binomial, hypergeometric) return the tables their definitions give" —
and, of the binning clause of C19, `uniformBin` (the whole clause is Props/C19Binning.lean).

Theorems about `words`, `giantBit`, `nModM`, `iidSum`, `gateTab` (`xorGate`, `andGate`,
`orGate`), `binomialTab`, `hypergeometricTab`, `uniformRange`, `summedDice`, `uniformBin`
(Core/Examples.lean) over a field `α` of characteristic zero with the cast
`fun n : Nat => (n : α)` for `ofNat` (`binomial_nonneg`, `hypergeometric_nonneg` and the
`uniformBin` theorems additionally need an ordered field).  `lookupD 0 t k` is
the stored value of `k` or zero, `mass t` the total, `keys t` the stored outcomes in order.
Helper lemmas: Lemmas/Examples.lean.  The table-operation part of C11 is Props/C11.lean.
-/
import DitModel.Lemmas.Examples
import DitModel.Lemmas.Binning
import Mathlib.Algebra.Field.Rat
import Mathlib.Algebra.Order.Ring.Rat

namespace Dit.Props.C11Examples
open Dit Dit.Lemmas.ListBasics Dit.Lemmas.Table Dit.Lemmas.Constructors Dit.Lemmas.Examples

/-! ### Words -/

/-- **`words k n`** (`itertools.product(range(k), repeat=n)`): exactly the lists of length `n`
over `{0..k-1}`, each once, `k^n` of them. -/
theorem words_spec (k n : Nat) :
    (∀ w, w ∈ words k n ↔ w.length = n ∧ ∀ x ∈ w, x < k)
      ∧ (words k n).Nodup ∧ (words k n).length = k ^ n :=
  ⟨fun _ => mem_words, nodup_words k n, length_words k n⟩

/-! ### `giant_bit` -/

section Giant
variable {α : Type} [Field α]

/-- **`giant_bit(n, k)`, the table**: the stored outcomes are the `k` constant words
`aa…a` of length `n`, in order of `a`; they are pairwise distinct when `n ≥ 1` (for `n = 0` all
`k` rows carry the empty word — the hypothesis is needed); each has probability `1/k`, every
other outcome zero. -/
theorem giantBit_table (ofNat : Nat → α) (n k : Nat) :
    keys (giantBit ofNat n k) = (List.range k).map (fun a => List.replicate n a)
      ∧ (1 ≤ n → (keys (giantBit ofNat n k)).Nodup)
      ∧ (∀ a, a < k → lookupD 0 (giantBit ofNat n k) (List.replicate n a) = 1 / ofNat k)
      ∧ (∀ o, o ∉ keys (giantBit ofNat n k) → lookupD 0 (giantBit ofNat n k) o = 0) := by
  have hk : keys (giantBit ofNat n k) = (List.range k).map (fun a => List.replicate n a) := by
    unfold giantBit; exact keys_map_const _ _ _
  refine ⟨hk, fun hn => ?_, fun a ha => ?_, fun o ho => lookupD_of_not_mem 0 ho⟩
  · rw [hk]; exact List.nodup_range.map (List.replicate_right_injective (by omega))
  · unfold giantBit
    rw [lookupD_map_const, if_pos]
    exact List.mem_map.mpr ⟨a, List.mem_range.mpr ha, rfl⟩

/-- **`giant_bit` is normalised** for `k ≥ 1` (for `k = 0` the table is empty), in
characteristic zero. -/
theorem giantBit_mass [CharZero α] (n : Nat) {k : Nat} (hk : 1 ≤ k) :
    mass (giantBit (fun m : Nat => (m : α)) n k) = 1 := by
  unfold giantBit
  rw [mass_map_const, List.length_range]
  exact nsmul_div_cast (by omega) 1

/-- **`giant_bit`: all coordinates agree.** Every stored outcome has length `n`, symbols
`< k`, and any two of its coordinates are equal. -/
theorem giantBit_coords (ofNat : Nat → α) (n k : Nat) :
    ∀ r ∈ giantBit ofNat n k, r.1.length = n ∧ (∀ x ∈ r.1, x < k)
      ∧ ∀ i j, i < n → j < n → r.1[i]? = r.1[j]? := by
  intro r hr
  unfold giantBit at hr
  obtain ⟨a, ha, h1, _⟩ := mem_map_const hr
  rw [h1]
  refine ⟨List.length_replicate, fun x hx => ?_, fun i j hi hj => ?_⟩
  · rw [List.eq_of_mem_replicate hx]; exact List.mem_range.mp ha
  · rw [List.getElem?_replicate, List.getElem?_replicate, if_pos hi, if_pos hj]

example : (1 : Nat) ≤ 3 ∧ (1 : Nat) ≤ 2 := by decide
example : giantBit (fun m : Nat => (m : Rat)) 3 2 = [([0, 0, 0], 1 / 2), ([1, 1, 1], 1 / 2)] := by
  decide +kernel

end Giant

/-! ### `n_mod_m` -/

section NModM
variable {α : Type} [Field α]

/-- **`n_mod_m(n, m)`, the table**: the stored outcomes are `w ++ [sum(w) mod m]` for the words
`w` of length `n − 1` over `{0..m-1}`, in `itertools.product` order, pairwise distinct, each
of probability `1/m^(n−1)`; every other outcome has probability zero. -/
theorem nModM_table (ofNat : Nat → α) (n m : Nat) :
    keys (nModM ofNat n m) = (words m (n - 1)).map (fun w => w ++ [w.sum % m])
      ∧ (keys (nModM ofNat n m)).Nodup
      ∧ (∀ w ∈ words m (n - 1),
          lookupD 0 (nModM ofNat n m) (w ++ [w.sum % m]) = 1 / ofNat (m ^ (n - 1)))
      ∧ (∀ o, o ∉ keys (nModM ofNat n m) → lookupD 0 (nModM ofNat n m) o = 0) := by
  unfold nModM
  exact app_table (nodup_words m (n - 1)) (fun w => w.sum % m) _

/-- **`n_mod_m` is normalised** for `m ≥ 1` (needed: for `m = 0`, `n ≥ 2` the table is empty),
in characteristic zero. -/
theorem nModM_mass [CharZero α] (n : Nat) {m : Nat} (hm : 1 ≤ m) :
    mass (nModM (fun k : Nat => (k : α)) n m) = 1 := by
  unfold nModM
  rw [app_words_mass m (n - 1) (fun w => w.sum % m)]
  exact nsmul_div_cast (Nat.pow_pos hm).ne' 1

/-- **Support of `n_mod_m`** for `n ≥ 1`, `m ≥ 1`: the stored outcomes are exactly the words of
length `n` over `{0..m-1}` whose last symbol is the sum of the others modulo `m`. (`n ≥ 1`: the
code's `n − 1` inputs plus one output have length `n`; `m ≥ 1`: the residue is `< m`.) -/
theorem nModM_support (ofNat : Nat → α) {n m : Nat} (hn : 1 ≤ n) (hm : 1 ≤ m) (o : List Nat) :
    o ∈ keys (nModM ofNat n m)
      ↔ o.length = n ∧ (∀ x ∈ o, x < m) ∧ o.getLast? = some (o.dropLast.sum % m) := by
  unfold nModM
  rw [app_words_mem_keys m (n - 1) (fun w => w.sum % m), Nat.sub_add_cancel hn]
  constructor
  · rintro ⟨h1, h2, h3⟩
    refine ⟨h1, fun x hx => ?_, h3⟩
    rw [← List.dropLast_append_getLast? _ h3, List.mem_append, List.mem_singleton] at hx
    rcases hx with hx | rfl
    · exact h2 x hx
    · exact Nat.mod_lt _ (by omega)
  · rintro ⟨h1, h2, h3⟩
    exact ⟨h1, fun x hx => h2 x (List.mem_of_mem_dropLast hx), h3⟩

/-- **`n_mod_m`: the last symbol is the sum of the others modulo `m`**, on every stored
outcome (all are non-empty), for all `n`, `m`. -/
theorem nModM_sum (ofNat : Nat → α) (n m : Nat) :
    ∀ o ∈ keys (nModM ofNat n m), ∃ h : o ≠ [], o.dropLast.sum % m = o.getLast h := by
  intro o ho
  unfold nModM at ho
  obtain ⟨_, _, h3⟩ := (app_words_mem_keys m (n - 1) (fun w => w.sum % m) _ o).mp ho
  have hne : o ≠ [] := by rintro rfl; simp at h3
  refine ⟨hne, ?_⟩
  rw [List.getLast?_eq_getLast_of_ne_nil hne] at h3
  exact (Option.some.inj h3).symm

/-- **`n_mod_m`: the inputs are uniform.** The marginal on the first `n − 1` symbols (drop the
last symbol, or project onto positions `0..n−2`) gives `1/m^(n−1)` to every word over
`{0..m-1}` and zero to anything else. -/
theorem nModM_marginal (ofNat : Nat → α) (n m : Nat) (w : List Nat) :
    lookupD 0 (pushforward List.dropLast (nModM ofNat n m)) w
        = (if w ∈ words m (n - 1) then 1 / ofNat (m ^ (n - 1)) else 0)
      ∧ lookupD 0 (pushforward (project (List.range (n - 1))) (nModM ofNat n m)) w
        = (if w ∈ words m (n - 1) then 1 / ofNat (m ^ (n - 1)) else 0) := by
  unfold nModM
  exact app_words_marginal m (n - 1) (fun w => w.sum % m) _ w

example : (1 : Nat) ≤ 3 ∧ (1 : Nat) ≤ 2 := by decide
example : nModM (fun k : Nat => (k : Rat)) 3 2
    = [([0, 0, 0], 1 / 4), ([0, 1, 1], 1 / 4), ([1, 0, 1], 1 / 4), ([1, 1, 0], 1 / 4)] := by
  decide +kernel
example : nModM (fun k : Nat => (k : Rat)) 2 3
    = [([0, 0], 1 / 3), ([1, 1], 1 / 3), ([2, 2], 1 / 3)] := by decide +kernel

end NModM

/-! ### `iid_sum` -/

section IidSum
variable {α : Type} [Field α]

/-- **`iid_sum(n, k)`, the table**: the stored outcomes are `w ++ [sum(w)]` for the words `w`
of length `n` over `{0..k-1}`, in `itertools.product` order, pairwise distinct, each of
probability `1/k^n`; every other outcome zero. -/
theorem iidSum_table (ofNat : Nat → α) (n k : Nat) :
    keys (iidSum ofNat n k) = (words k n).map (fun w => w ++ [w.sum])
      ∧ (keys (iidSum ofNat n k)).Nodup
      ∧ (∀ w ∈ words k n, lookupD 0 (iidSum ofNat n k) (w ++ [w.sum]) = 1 / ofNat (k ^ n))
      ∧ (∀ o, o ∉ keys (iidSum ofNat n k) → lookupD 0 (iidSum ofNat n k) o = 0) := by
  unfold iidSum
  exact app_table (nodup_words k n) (fun w => w.sum) _

/-- **`iid_sum` is normalised** for `k ≥ 1` (for `k = 0`, `n ≥ 1` the table is empty), in
characteristic zero. -/
theorem iidSum_mass [CharZero α] (n : Nat) {k : Nat} (hk : 1 ≤ k) :
    mass (iidSum (fun m : Nat => (m : α)) n k) = 1 := by
  unfold iidSum
  rw [app_words_mass k n (fun w => w.sum)]
  exact nsmul_div_cast (Nat.pow_pos hk).ne' 1

/-- **Support of `iid_sum`**: the stored outcomes are exactly the words of length `n + 1` whose
first `n` symbols are `< k` and whose last symbol is their sum. -/
theorem iidSum_support (ofNat : Nat → α) (n k : Nat) (o : List Nat) :
    o ∈ keys (iidSum ofNat n k)
      ↔ o.length = n + 1 ∧ (∀ x ∈ o.dropLast, x < k) ∧ o.getLast? = some o.dropLast.sum := by
  unfold iidSum
  exact app_words_mem_keys k n (fun w => w.sum) _ o

/-- **`iid_sum`: the summands are iid uniform.** The marginal on the first `n` symbols gives
`1/k^n` to every word over `{0..k-1}` (the product of `n` uniform marginals) and zero to
anything else. -/
theorem iidSum_marginal (ofNat : Nat → α) (n k : Nat) (w : List Nat) :
    lookupD 0 (pushforward List.dropLast (iidSum ofNat n k)) w
        = (if w ∈ words k n then 1 / ofNat (k ^ n) else 0)
      ∧ lookupD 0 (pushforward (project (List.range n)) (iidSum ofNat n k)) w
        = (if w ∈ words k n then 1 / ofNat (k ^ n) else 0) := by
  unfold iidSum
  exact app_words_marginal k n (fun w => w.sum) _ w

example : iidSum (fun m : Nat => (m : Rat)) 2 2
    = [([0, 0, 0], 1 / 4), ([0, 1, 1], 1 / 4), ([1, 0, 1], 1 / 4), ([1, 1, 2], 1 / 4)] := by
  decide +kernel

end IidSum

/-! ### Logic gates -/

section Gates
variable {α : Type} [Field α]

/-- **Logic gate on `k` uniform bits, the table** (any gate function `g`; `Xor`, `And`, `Or` are
`gateTab _ xorGate/andGate/orGate`): the stored outcomes are `w ++ [g w]` for the bit words `w`
of length `k`, in `itertools.product` order, pairwise distinct, each of probability `1/2^k`;
every other outcome zero. -/
theorem gate_table (ofNat : Nat → α) (g : List Nat → Nat) (k : Nat) :
    keys (gateTab ofNat g k) = (words 2 k).map (fun w => w ++ [g w])
      ∧ (keys (gateTab ofNat g k)).Nodup
      ∧ (∀ w ∈ words 2 k, lookupD 0 (gateTab ofNat g k) (w ++ [g w]) = 1 / ofNat (2 ^ k))
      ∧ (∀ o, o ∉ keys (gateTab ofNat g k) → lookupD 0 (gateTab ofNat g k) o = 0) := by
  unfold gateTab
  exact app_table (nodup_words 2 k) g _

/-- **Gates are normalised** (every `k`, every gate), in characteristic zero. -/
theorem gate_mass [CharZero α] (g : List Nat → Nat) (k : Nat) :
    mass (gateTab (fun m : Nat => (m : α)) g k) = 1 := by
  unfold gateTab
  rw [app_words_mass 2 k g]
  exact nsmul_div_cast (Nat.pow_pos (by decide)).ne' 1

/-- **Support of a gate**: the stored outcomes are exactly the words of length `k + 1` whose
first `k` symbols are bits and whose last symbol is the gate's value on them. -/
theorem gate_support (ofNat : Nat → α) (g : List Nat → Nat) (k : Nat) (o : List Nat) :
    o ∈ keys (gateTab ofNat g k)
      ↔ o.length = k + 1 ∧ (∀ x ∈ o.dropLast, x < 2) ∧ o.getLast? = some (g o.dropLast) := by
  unfold gateTab
  exact app_words_mem_keys 2 k g _ o

/-- **Gate inputs are uniform**: the marginal on the `k` input bits gives `1/2^k` to every bit
word and zero to anything else. -/
theorem gate_marginal (ofNat : Nat → α) (g : List Nat → Nat) (k : Nat) (w : List Nat) :
    lookupD 0 (pushforward List.dropLast (gateTab ofNat g k)) w
        = (if w ∈ words 2 k then 1 / ofNat (2 ^ k) else 0)
      ∧ lookupD 0 (pushforward (project (List.range k)) (gateTab ofNat g k)) w
        = (if w ∈ words 2 k then 1 / ofNat (2 ^ k) else 0) := by
  unfold gateTab
  exact app_words_marginal 2 k g _ w

/-- **The gate functions** on bit words: XOR is the parity of the number of ones, AND is `1`
exactly when every input is `1` — the product of the bits —, OR is `1` exactly when some input
is `1` — when the sum is positive. (The first three hold for all words.) -/
theorem gate_values (w : List Nat) :
    xorGate w = w.sum % 2
      ∧ andGate w = (if ∀ x ∈ w, x = 1 then 1 else 0)
      ∧ orGate w = (if ∃ x ∈ w, x = 1 then 1 else 0)
      ∧ ((∀ x ∈ w, x < 2) → andGate w = w.prod ∧ orGate w = (if 0 < w.sum then 1 else 0)) :=
  ⟨rfl, andGate_eq_ite w, orGate_eq_ite w,
    fun h => ⟨andGate_eq_prod h, orGate_eq_sum_pos h⟩⟩

example : gateTab (fun m : Nat => (m : Rat)) xorGate 2
    = [([0, 0, 0], 1 / 4), ([0, 1, 1], 1 / 4), ([1, 0, 1], 1 / 4), ([1, 1, 0], 1 / 4)] := by
  decide +kernel
example : gateTab (fun m : Nat => (m : Rat)) andGate 2
    = [([0, 0, 0], 1 / 4), ([0, 1, 0], 1 / 4), ([1, 0, 0], 1 / 4), ([1, 1, 1], 1 / 4)] := by
  decide +kernel
example : gateTab (fun m : Nat => (m : Rat)) orGate 2
    = [([0, 0, 0], 1 / 4), ([0, 1, 1], 1 / 4), ([1, 0, 1], 1 / 4), ([1, 1, 1], 1 / 4)] := by
  decide +kernel
example : ∀ x ∈ [1, 0, 1], x < 2 := by decide

end Gates

/-! ### `binomial` -/

section Binomial
variable {α : Type} [Field α]

/-- The model's own binomial coefficient and power are the usual ones (`choose_eq_natChoose`,
`Lemmas.Constructors.npow_eq_pow`). -/
theorem choose_npow_eq (n k : Nat) (x : α) :
    Dit.choose n k = Nat.choose n k ∧ npow x k = x ^ k :=
  ⟨choose_eq_natChoose n k, Dit.Lemmas.Constructors.npow_eq_pow x k⟩

/-- **`binomial(n, p)`, the table**: outcomes `0..n` in order; the value at `k ≤ n` is
`C(n,k) p^k (1−p)^(n−k)`, zero beyond `n`. -/
theorem binomial_lookup [DecidableEq α] (n : Nat) (p : α) (k : Nat) :
    keys (binomialTab (fun m : Nat => (m : α)) n p) = List.range (n + 1)
      ∧ lookupD 0 (binomialTab (fun m : Nat => (m : α)) n p) k
        = (if k ≤ n then (Nat.choose n k : α) * p ^ k * (1 - p) ^ (n - k) else 0) := by
  rw [binomialTab_eq, keys_map_graph, lookupD_map_graph]
  simp only [List.mem_range, Nat.lt_succ_iff, true_and]

/-- **`binomial` is normalised** for every `n` and every `p` (binomial theorem for
`(p + (1−p))^n`); no range restriction on `p` is needed for this. -/
theorem binomial_mass (n : Nat) (p : α) :
    mass (binomialTab (fun m : Nat => (m : α)) n p) = 1 := by
  rw [binomialTab_eq, mass_map_graph, sum_range_map, sum_binomial, add_sub_cancel, one_pow]

/-- **Mean of `binomial(n, p)`**: `Σ_k k · P(k) = n p`. -/
theorem binomial_mean (n : Nat) (p : α) :
    ((binomialTab (fun m : Nat => (m : α)) n p).map (fun r => (r.1 : α) * r.2)).sum = n * p := by
  rw [binomialTab_eq, List.map_map, sum_range_map]
  exact (sum_mul_binomial n p (1 - p)).trans (by rw [add_sub_cancel, one_pow, mul_one])

/-- **`binomial` values are probabilities** for `0 ≤ p ≤ 1` (needed: for `p > 1` and odd
`n − k` the value is negative): every stored value is non-negative. -/
theorem binomial_nonneg [LinearOrder α] [IsStrictOrderedRing α] (n : Nat) {p : α} (h0 : 0 ≤ p)
    (h1 : p ≤ 1) : ∀ r ∈ binomialTab (fun m : Nat => (m : α)) n p, 0 ≤ r.2 := by
  intro r hr
  rw [binomialTab_eq] at hr
  obtain ⟨k, _, rfl⟩ := List.mem_map.mp hr
  exact mul_nonneg (mul_nonneg (Nat.cast_nonneg _) (pow_nonneg h0 _))
    (pow_nonneg (sub_nonneg.mpr h1) _)

example : binomialTab (fun m : Nat => (m : Rat)) 3 (1 / 2)
    = [(0, 1 / 8), (1, 3 / 8), (2, 3 / 8), (3, 1 / 8)] := by decide +kernel
example : binomialTab (fun m : Nat => (m : Rat)) 2 (1 / 3)
    = [(0, 4 / 9), (1, 4 / 9), (2, 1 / 9)] := by decide +kernel
example : (0 : Rat) ≤ 1 / 3 ∧ (1 / 3 : Rat) ≤ 1 := by decide +kernel

end Binomial

/-! ### `hypergeometric` -/

section Hyper
variable {α : Type} [Field α]

/-- **Support of `hypergeometric(N, K, n)`**: the stored outcomes are exactly the `k` with
`max(0, n+K−N) ≤ k ≤ min(K, n)`, in increasing order, each once. -/
theorem hypergeometric_support (N K n k : Nat) :
    (k ∈ keys (hypergeometricTab (fun m : Nat => (m : α)) N K n)
        ↔ n + K - N ≤ k ∧ k ≤ min K n)
      ∧ (keys (hypergeometricTab (fun m : Nat => (m : α)) N K n)).Nodup
      ∧ (keys (hypergeometricTab (fun m : Nat => (m : α)) N K n)).Pairwise (· < ·) := by
  rw [hypergeometricTab_eq, keys_map_graph]
  exact ⟨mem_hyperSupport, nodup_hyperSupport N K n, pairwise_hyperSupport N K n⟩

/-- **`hypergeometric`, the values**: `C(K,k) C(N−K, n−k) / C(N,n)` on the support, zero
elsewhere. -/
theorem hypergeometric_lookup [DecidableEq α] (N K n k : Nat) :
    lookupD 0 (hypergeometricTab (fun m : Nat => (m : α)) N K n) k
      = (if n + K - N ≤ k ∧ k ≤ min K n then
          ((Nat.choose K k * Nat.choose (N - K) (n - k) : Nat) : α) / (Nat.choose N n : α)
        else 0) := by
  rw [hypergeometricTab_eq, lookupD_map_graph]
  simp only [mem_hyperSupport]

/-- **Restricting the range loses no mass**: for `K ≤ N`, the term `C(K,k) C(N−K, n−k)`
vanishes for every `k` outside `n+K−N ≤ k ≤ K` (`K ≤ N` is needed: otherwise `N − K` is
truncated to `0`). -/
theorem hypergeometric_outside {N K : Nat} (hK : K ≤ N) (n k : Nat)
    (h : ¬ (n + K - N ≤ k ∧ k ≤ K)) :
    Nat.choose K k * Nat.choose (N - K) (n - k) = 0 :=
  hyper_term_eq_zero hK h

/-- **`hypergeometric` is normalised** for `K ≤ N` and `n ≤ N` (Vandermonde's identity; both
hypotheses are needed: `n > N` gives `C(N,n) = 0` in the denominator, `K > N` truncates
`N − K`), in characteristic zero. -/
theorem hypergeometric_mass [CharZero α] {N K n : Nat} (hK : K ≤ N) (hn : n ≤ N) :
    mass (hypergeometricTab (fun m : Nat => (m : α)) N K n) = 1 := by
  rw [hypergeometricTab_eq, mass_map_graph, ← List.sum_toFinset _ (nodup_hyperSupport N K n),
    ← Finset.sum_div, ← Nat.cast_sum, hyper_vandermonde hK]
  exact div_self (Nat.cast_ne_zero.mpr (Nat.choose_pos hn).ne')

/-- **`hypergeometric` values are probabilities**: non-negative. -/
theorem hypergeometric_nonneg [LinearOrder α] [IsStrictOrderedRing α] (N K n : Nat) :
    ∀ r ∈ hypergeometricTab (fun m : Nat => (m : α)) N K n, 0 ≤ r.2 := by
  intro r hr
  rw [hypergeometricTab_eq] at hr
  obtain ⟨k, _, rfl⟩ := List.mem_map.mp hr
  exact div_nonneg (Nat.cast_nonneg _) (Nat.cast_nonneg _)

example : (3 : Nat) ≤ 5 ∧ (2 : Nat) ≤ 5 := by decide
example : hypergeometricTab (fun m : Nat => (m : Rat)) 5 3 2
    = [(0, 1 / 10), (1, 3 / 5), (2, 3 / 10)] := by decide +kernel
example : hypergeometricTab (fun m : Nat => (m : Rat)) 5 3 4
    = [(2, 3 / 5), (3, 2 / 5)] := by decide +kernel
example : ¬ (4 + 3 - 5 ≤ 1 ∧ 1 ≤ 3) := by decide

end Hyper

/-! ### `uniform(a, b)` -/

section UniformRange
variable {α : Type} [Field α]

/-- **`uniform(a, b)`** with `width = b − a`: the offsets `0..width−1` in order, each of
probability `1/width`, every other offset zero. -/
theorem uniformRange_table (ofNat : Nat → α) (width x : Nat) :
    keys (uniformRange ofNat width) = List.range width
      ∧ lookupD 0 (uniformRange ofNat width) x = (if x < width then 1 / ofNat width else 0) := by
  unfold uniformRange
  rw [keys_map_graph, lookupD_map_graph]
  simp only [List.mem_range, true_and]

/-- **`uniform(a, b)` is normalised** for `width ≥ 1` (empty table otherwise), in
characteristic zero. -/
theorem uniformRange_mass [CharZero α] {width : Nat} (hw : 1 ≤ width) :
    mass (uniformRange (fun m : Nat => (m : α)) width) = 1 := by
  unfold uniformRange
  rw [mass_map_const (List.range width) (fun x => x), List.length_range]
  exact nsmul_div_cast (by omega) 1

example : uniformRange (fun m : Nat => (m : Rat)) 3 = [(0, 1 / 3), (1, 1 / 3), (2, 1 / 3)] := by
  decide +kernel

end UniformRange

/-! ### `summed_dice` -/

section Dice
variable {α : Type} [Field α]

/-- **`summed_dice(a, b)`, the rows**: exactly one row `([i, j, i + b·j], a/36 + (1−a)[i=j]/6)`
for every pair of faces `1 ≤ i, j ≤ 6` — the third coordinate is `i + b·j`. -/
theorem summedDice_rows (ofNat : Nat → α) (a : α) (b : Nat) (r : List Nat × α) :
    r ∈ summedDice ofNat a b
      ↔ ∃ i j, (1 ≤ i ∧ i ≤ 6) ∧ (1 ≤ j ∧ j ≤ 6)
          ∧ r = ([i, j, i + b * j],
              a / ofNat 36 + (1 - a) * (if i = j then 1 else 0) / ofNat 6) := by
  unfold summedDice
  rw [List.mem_map]
  constructor
  · rintro ⟨o, ho, rfl⟩
    obtain ⟨i, j, hi, hj, rfl⟩ := mem_dice_pairs.mp ho
    exact ⟨i, j, hi, hj, rfl⟩
  · rintro ⟨i, j, hi, hj, rfl⟩
    exact ⟨[i, j], mem_dice_pairs.mpr ⟨i, j, hi, hj, rfl⟩, rfl⟩

/-- **`summed_dice`, the values**: the 36 outcomes are pairwise distinct, and the outcome
`[i, j, i + b·j]` (`1 ≤ i, j ≤ 6`) has probability `a/36 + (1−a)[i=j]/6`. -/
theorem summedDice_lookup (ofNat : Nat → α) (a : α) (b : Nat) {i j : Nat} (hi : 1 ≤ i ∧ i ≤ 6)
    (hj : 1 ≤ j ∧ j ≤ 6) :
    (keys (summedDice ofNat a b)).Nodup
      ∧ lookupD 0 (summedDice ofNat a b) [i, j, i + b * j]
        = a / ofNat 36 + (1 - a) * (if i = j then 1 else 0) / ofNat 6 := by
  have hnd := keys_summedDice_nodup ofNat a b
  refine ⟨hnd, ?_⟩
  have hm := (summedDice_rows ofNat a b _).mpr ⟨i, j, hi, hj, rfl⟩
  unfold lookupD
  rw [(lookup?_eq_some_iff hnd).mpr hm]
  rfl

/-- **`summed_dice` is normalised** for every `a` and `b`: `36 · a/36 + 6 · (1−a)/6 = 1`, in
characteristic zero; it has 36 rows. -/
theorem summedDice_mass [CharZero α] (a : α) (b : Nat) :
    mass (summedDice (fun m : Nat => (m : α)) a b) = 1
      ∧ (summedDice (fun m : Nat => (m : α)) a b).length = 36 := by
  refine ⟨mass_summedDice a b, ?_⟩
  unfold summedDice
  rw [List.length_map, length_cartesian]
  rfl

example : (1 ≤ 2 ∧ 2 ≤ 6) ∧ (1 ≤ 5 ∧ 5 ≤ 6) := by decide
example : (summedDice (fun m : Nat => (m : Rat)) (1 / 2) 2).take 3
    = [([1, 1, 3], 7 / 72), ([1, 2, 5], 1 / 72), ([1, 3, 7], 1 / 72)] := by decide +kernel

end Dice

/-! ### `uniform_binning` (C19) -/

section Bin
variable {α : Type} [Field α] [LinearOrder α] [IsStrictOrderedRing α]

set_option linter.unusedSectionVars false in
/-- **Every sample gets one of the requested bins**: for `bins ≥ 1` the label is `< bins`
(for `bins = 0` the label is `0`, which is not `< 0`). No assumption on the data. -/
theorem uniformBin_range {bins : Nat} (hb : 1 ≤ bins) (lo range eps x : α) :
    uniformBin (fun m : Nat => (m : α)) bins lo range eps x < bins :=
  (Lemmas.Binning.uniformBin_eq_findGreatest bins lo range eps x).trans_lt
    (lt_of_le_of_lt (Nat.findGreatest_le _) (Nat.sub_lt hb Nat.one_pos))

/-- **Bins are uniformly spaced**: for `bins ≥ 1`, slack `eps > 0`, `range ≥ 0` and a sample
`lo ≤ x ≤ lo + range`, the label `k` satisfies
`k·(range+eps) ≤ bins·(x−lo) < (k+1)·(range+eps)`, i.e. `k = ⌊bins·(x−lo)/(range+eps)⌋`.
(`lo ≤ x` makes `k = 0` admissible; `x ≤ lo + range` and `eps > 0` keep the top sample inside
the last bin; `range ≥ 0` follows from `lo ≤ x ≤ lo + range`.) -/
theorem uniformBin_spec {bins : Nat} (hb : 1 ≤ bins) {lo range eps x : α} (heps : 0 < eps)
    (hlo : lo ≤ x) (hhi : x ≤ lo + range) :
    (uniformBin (fun m : Nat => (m : α)) bins lo range eps x : α) * (range + eps)
        ≤ (bins : α) * (x - lo)
      ∧ (bins : α) * (x - lo)
        < ((uniformBin (fun m : Nat => (m : α)) bins lo range eps x : α) + 1) * (range + eps) :=
  (Lemmas.Binning.uniformBin_spec_of_mem hb heps hlo hhi _).mp rfl

/-- **The label is the floor**: under the hypotheses of `uniformBin_spec`, any `k` with
`k·(range+eps) ≤ bins·(x−lo) < (k+1)·(range+eps)` is the label (`range ≥ 0` — implied by
`lo ≤ x ≤ lo + range` — and `eps > 0` make the bin width positive). -/
theorem uniformBin_unique {bins : Nat} (hb : 1 ≤ bins) {lo range eps x : α} (heps : 0 < eps)
    (hlo : lo ≤ x) (hhi : x ≤ lo + range) (k : Nat)
    (h1 : (k : α) * (range + eps) ≤ (bins : α) * (x - lo))
    (h2 : (bins : α) * (x - lo) < ((k : α) + 1) * (range + eps)) :
    uniformBin (fun m : Nat => (m : α)) bins lo range eps x = k :=
  ((Lemmas.Binning.uniformBin_spec_of_mem hb heps hlo hhi k).mpr ⟨h1, h2⟩).symm

/-- **Binning is monotone**: a larger sample never gets a smaller label (no assumption on the
parameters). -/
theorem uniformBin_mono (bins : Nat) (lo range eps : α) {x y : α} (hxy : x ≤ y) :
    uniformBin (fun m : Nat => (m : α)) bins lo range eps x
      ≤ uniformBin (fun m : Nat => (m : α)) bins lo range eps y := by
  rw [Lemmas.Binning.uniformBin_eq_findGreatest, Lemmas.Binning.uniformBin_eq_findGreatest]
  exact Nat.findGreatest_mono_left (fun k hk => hk.trans
    (mul_le_mul_of_nonneg_left (sub_le_sub_right hxy lo) (Nat.cast_nonneg bins))) _

/-- Four bins on `[0, 1]` with slack `1/100`: `1/2 ↦ ⌊4·(1/2)/(101/100)⌋ = 1`, `1 ↦ 3`. -/
example : uniformBin (fun m : Nat => (m : Rat)) 4 0 1 (1 / 100) (1 / 2) = 1
    ∧ uniformBin (fun m : Nat => (m : Rat)) 4 0 1 (1 / 100) 1 = 3
    ∧ uniformBin (fun m : Nat => (m : Rat)) 4 0 1 (1 / 100) 0 = 0 := by decide +kernel
example : (1 : Nat) ≤ 4 ∧ (0 : Rat) < 1 / 100 ∧ (0 : Rat) ≤ 1 ∧ (0 : Rat) ≤ 1 / 2
    ∧ (1 / 2 : Rat) ≤ 0 + 1 := by decide +kernel

end Bin

/-! ### The theorems apply to the driver's number type `Rat` -/

section RatInstances

example (n : Nat) (p : Rat) : mass (binomialTab (fun m : Nat => (m : Rat)) n p) = 1 :=
  binomial_mass n p
example : mass (hypergeometricTab (fun m : Nat => (m : Rat)) 52 13 5) = 1 :=
  hypergeometric_mass (by decide) (by decide)
example (n : Nat) : mass (nModM (fun m : Nat => (m : Rat)) n 3) = 1 := nModM_mass n (by decide)
example (x : Rat) : uniformBin (fun m : Nat => (m : Rat)) 10 0 1 (1 / 1000) x < 10 :=
  uniformBin_range (by decide) 0 1 (1 / 1000) x

end RatInstances

end Dit.Props.C11Examples
