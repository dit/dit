/-
C14 — `maxent_dist(d, marginals)` returns a distribution over `d`'s sample space whose marginal
on every requested variable group equals `d`'s, and whose entropy is at least that of `d` and of
every other distribution with those marginals (it coincides with the iterative-proportional-
fitting fixed point): it is the product of marginals for singleton constraints and `d` itself
when a constraint covers all variables. `marginal_maxent_dists` returns the chain from uniform
through the k-way maximum-entropy distributions to `d`, with non-increasing entropies.

The optimiser of dit (SLSQP) is not modelled; what is proved here is the *certificate*. All
statements are about the definitions of `Core/Maxent.lean` (`margAt`, `ipfStep`, `ipfSweep`, `ipf`,
`uniformOn`) at `α := ℝ`, with entropy `entropyVals (Real.logb 2) (vals ·)` and the
Kullback–Leibler divergence `klVals (Real.logb 2) (alignPair · ·)` of C06. Tables are
`Tab (List σ) ℝ` on a common duplicate-free sample space `space` (`keys p = space`); `p(o)` is
`lookupD 0 p o`. `Feasible t space groups p` (Lemmas/Maxent.lean) says: `p` is a non-negative
table on `space` with the mass of `t` and the marginals of `t` on every group of `groups`;
`ProductForm groups q` says `q(o) = c · Π_g φ_g(o_g)` over the distinct groups.
Helper lemmas: Lemmas/Maxent.lean.
-/
import DitModel.Lemmas.Maxent

namespace Dit.Props.C14
open Dit Dit.Lemmas.Table Dit.Lemmas.Diverge Dit.Lemmas.Maxent

variable {σ : Type} [DecidableEq σ]

/-! ## One IPF step -/

/-- **An IPF step fits the marginal.** If the `g`-marginal of `q` vanishes only where that of the
target `t` does, then after `ipfStep t q g` the `g`-marginal equals that of `t`; the step keeps the
stored outcomes and the total mass becomes that of `t`. (No sign or sample-space hypothesis is
needed for this clause. The hypothesis is needed: a row of `q` with zero marginal stays zero.) -/
theorem ipf_step_marginal (t q : Tab (List σ) ℝ) (g : List Nat)
    (h : ∀ x, margAt q g x = 0 → margAt t g x = 0) :
    (∀ x, margAt (ipfStep t q g) g x = margAt t g x)
      ∧ keys (ipfStep t q g) = keys q ∧ mass (ipfStep t q g) = mass t :=
  ⟨margAt_ipfStep t q g h, keys_ipfStep t q g, mass_ipfStep t q g h⟩

/-- An IPF step between non-negative tables gives a non-negative table. -/
theorem ipf_step_nonneg (t q : Tab (List σ) ℝ) (g : List Nat) (ht : ∀ r ∈ t, 0 ≤ r.2)
    (hq : ∀ r ∈ q, 0 ≤ r.2) : ∀ r ∈ ipfStep t q g, 0 ≤ r.2 := by
  rw [ipfStep_eq]
  intro r hr
  obtain ⟨r', hr', rfl⟩ := List.mem_map.mp hr
  exact mul_nonneg (hq r' hr') (div_nonneg (margAt_nonneg t ht g _) (margAt_nonneg q hq g _))

/-- Non-vacuity (ℚ, computed): one IPF step from the uniform 2×2 table towards a target with
`P(X₀) = (3/4, 1/4)` fits that marginal; a sweep over `[[0],[1]]` reaches the product of the
marginals, whose residual is 0. -/
example : ipfStep
    ([([0, 0], 1 / 2), ([0, 1], 1 / 4), ([1, 0], 1 / 8), ([1, 1], 1 / 8)] : Tab (List Nat) ℚ)
    (uniformOn (fun n : Nat => (n : ℚ)) [[0, 0], [0, 1], [1, 0], [1, 1]]) [0]
    = [([0, 0], 3 / 8), ([0, 1], 3 / 8), ([1, 0], 1 / 8), ([1, 1], 1 / 8)] := by decide +kernel
example : ipfSweep
    ([([0, 0], 1 / 2), ([0, 1], 1 / 4), ([1, 0], 1 / 8), ([1, 1], 1 / 8)] : Tab (List Nat) ℚ)
    (uniformOn (fun n : Nat => (n : ℚ)) [[0, 0], [0, 1], [1, 0], [1, 1]]) [[0], [1]]
    = [([0, 0], 15 / 32), ([0, 1], 9 / 32), ([1, 0], 5 / 32), ([1, 1], 3 / 32)] := by decide +kernel
example : marginalResidual
    ([([0, 0], 1 / 2), ([0, 1], 1 / 4), ([1, 0], 1 / 8), ([1, 1], 1 / 8)] : Tab (List Nat) ℚ)
    [([0, 0], 15 / 32), ([0, 1], 9 / 32), ([1, 0], 5 / 32), ([1, 1], 3 / 32)] [[0], [1]] = 0 := by
  decide +kernel
/-- A structural zero: the rows whose marginal under `q` is 0 stay 0. -/
example : ipfStep ([([0, 0], 1 / 2), ([1, 1], 1 / 2)] : Tab (List Nat) ℚ)
    [([0, 0], 1), ([1, 1], 0)] [0] = [([0, 0], 1 / 2), ([1, 1], 0)] := by decide +kernel

/-- The marginal hypothesis of `ipf_step_marginal` holds whenever the support of the target is
inside the support of the (non-negative) iterate, and an IPF step preserves that inclusion — so
it holds along the whole IPF iteration started from a table of full support. -/
theorem ipf_step_support (t q : Tab (List σ) ℝ) (space : List (List σ)) (hnd : space.Nodup)
    (ht : keys t = space) (hq : keys q = space) (htn : ∀ r ∈ t, 0 ≤ r.2) (hqn : ∀ r ∈ q, 0 ≤ r.2)
    (g : List Nat) (hsupp : ∀ o ∈ space, lookupD 0 q o = 0 → lookupD 0 t o = 0) :
    (∀ x, margAt q g x = 0 → margAt t g x = 0)
      ∧ (∀ o ∈ space, lookupD 0 (ipfStep t q g) o = 0 → lookupD 0 t o = 0) :=
  ⟨fun x => margAt_absCont t q ht hnd hqn g hsupp x, supp_ipfStep t q hq hnd htn hqn g hsupp⟩

/-- The hypotheses of `ipf_step_support` hold, and its first conclusion reads as stated, for the
correlated bits `exCorr` as target and the uniform table as iterate. -/
example : (∀ x, margAt (uniformOn (fun k : Nat => (k : ℝ)) (cartesian exAlph)) [0] x = 0
      → margAt exCorr [0] x = 0) :=
  (ipf_step_support exCorr _ (cartesian exAlph) (nodup_cartesian exAlph_nodup) exCorr_keys
    (keys_uniformOn _) exCorr_nonneg (uniformOn_nonneg _) [0]
    (fun _ ho h0 => absurd h0 (lookupD_uniformOn_ne_zero _ ho))).1

/-- **An IPF step keeps the product form**: if `q(o) = c · Π_{S ∈ groups} φ_S(o_S)` then so is
`ipfStep t q g` for `g ∈ groups` (the factor of `g` gets multiplied by `P_t / P_q`). -/
theorem ipf_step_product_form (t q : Tab (List σ) ℝ) (groups : List (List Nat)) (g : List Nat)
    (hg : g ∈ groups) (h : ProductForm groups q) : ProductForm groups (ipfStep t q g) := by
  obtain ⟨c, φ, hφ⟩ := h
  refine ⟨c, fun g' x => φ g' x * if g' = g then margAt t g x / margAt q g x else 1, ?_⟩
  rw [ipfStep_eq]
  intro r hr
  obtain ⟨r', hr', rfl⟩ := List.mem_map.mp hr
  simp only
  rw [prod_map_mul_ite (nodup_dedup groups) (mem_dedup.mpr hg), hφ r' hr', mul_assoc]

/-- **Every IPF iterate has product form**: the uniform table has it and every step keeps it. -/
theorem ipf_product_form (t : Tab (List σ) ℝ) (groups : List (List Nat))
    (space : List (List σ)) (n : Nat) :
    ProductForm groups (ipf t groups (uniformOn (fun k : Nat => (k : ℝ)) space) n) :=
  ipf_induction t groups (fun q g hg => ipf_step_product_form t q groups g hg)
    (uniformOn_productForm groups space) n

/-- Product form gives the log-linear form used by the certificate `maxent_pythagoras`:
`log₂ q(o) = c + Σ_g ψ_g(o_g)` wherever `q(o) ≠ 0` (the sum over the distinct groups). -/
theorem product_form_loglinear (groups : List (List Nat)) (q : Tab (List σ) ℝ)
    (space : List (List σ)) (hq : keys q = space) (hnd : space.Nodup)
    (h : ProductForm groups q) :
    ∃ (c : ℝ) (ψ : List Nat → List σ → ℝ), ∀ o ∈ space, lookupD 0 q o ≠ 0 →
      Real.logb 2 (lookupD 0 q o) = c + ((dedup groups).map (fun g => ψ g (project g o))).sum := by
  obtain ⟨c, φ, hφ⟩ := h
  refine ⟨Real.logb 2 c, fun g x => Real.logb 2 (φ g x), ?_⟩
  intro o ho hne
  have hv := hφ _ (mem_of_mem_space hq hnd ho)
  simp only at hv
  rw [hv] at hne ⊢
  rw [Real.logb_mul (left_ne_zero_of_mul hne) (right_ne_zero_of_mul hne),
    logb_prod _ (right_ne_zero_of_mul hne), List.map_map]
  rfl

/-- Invariants of the IPF iteration from the uniform table towards a non-negative target on the
same space: every iterate is a non-negative table on `space` whose support contains that of the
target (`hne` is not used). -/
theorem ipf_invariants (t : Tab (List σ) ℝ) (groups : List (List Nat)) (space : List (List σ))
    (hnd : space.Nodup) (hne : space ≠ []) (htn : ∀ r ∈ t, 0 ≤ r.2) (n : Nat) :
    keys (ipf t groups (uniformOn (fun k : Nat => (k : ℝ)) space) n) = space
      ∧ (∀ r ∈ ipf t groups (uniformOn (fun k : Nat => (k : ℝ)) space) n, 0 ≤ r.2)
      ∧ (∀ o ∈ space, lookupD 0 (ipf t groups (uniformOn (fun k : Nat => (k : ℝ)) space) n) o = 0
          → lookupD 0 t o = 0) := by
  have _ := hne  -- not needed
  exact ipf_induction t groups
    (P := fun q => keys q = space ∧ (∀ r ∈ q, 0 ≤ r.2)
      ∧ ∀ o ∈ space, lookupD 0 q o = 0 → lookupD 0 t o = 0)
    (fun q g _ ⟨hk, hn, hs⟩ => ⟨(keys_ipfStep t q g).trans hk, ipf_step_nonneg t q g htn hn,
      supp_ipfStep t q hk hnd htn hn g hs⟩)
    ⟨keys_uniformOn space, uniformOn_nonneg space,
      fun _ ho h0 => absurd h0 (lookupD_uniformOn_ne_zero space ho)⟩ n

/-- **An IPF step does not increase `D(t‖q)`**: for non-negative tables on the same space with
`supp t ⊆ supp q` (so that the divergence is finite) and `mass q ≤ mass t`, both divergences
are finite and `D(t‖ipfStep t q g) ≤ D(t‖q)`; the decrease is the divergence between the
`g`-marginals (`Lemmas.Maxent.klSum_sub_klSum_ipfStep`). -/
theorem ipf_step_kl (t q : Tab (List σ) ℝ) (space : List (List σ)) (hnd : space.Nodup)
    (ht : keys t = space) (hq : keys q = space) (htn : ∀ r ∈ t, 0 ≤ r.2) (hqn : ∀ r ∈ q, 0 ≤ r.2)
    (g : List Nat) (hsupp : ∀ o ∈ space, lookupD 0 q o = 0 → lookupD 0 t o = 0)
    (hmass : mass q ≤ mass t) :
    ∃ d d' : ℝ, klVals (Real.logb 2) (alignPair t q) = some d
      ∧ klVals (Real.logb 2) (alignPair t (ipfStep t q g)) = some d' ∧ d' ≤ d :=
  ⟨_, _, klVals_of_absCont (absCont_alignPair t q ht hnd hsupp),
    klVals_of_absCont (absCont_alignPair t (ipfStep t q g) ht hnd
      (supp_ipfStep t q hq hnd htn hqn g hsupp)),
    klSum_ipfStep_le t q ht hq hnd htn hqn g hsupp hmass⟩

/-- **Feasible tables are IPF fixed points**: a non-negative table `q` whose `g`-marginal
vanishes only where the target's does is left unchanged by the step for `g` iff its `g`-marginal
is the target's (per step and per group); and a table with all the requested marginals is a fixed
point of the whole IPF iteration (this direction only). -/
theorem ipf_fixed_point (t q : Tab (List σ) ℝ) (hqn : ∀ r ∈ q, 0 ≤ r.2) (groups : List (List Nat)) :
    (∀ g, (∀ x, margAt q g x = 0 → margAt t g x = 0) →
        (ipfStep t q g = q ↔ ∀ x, margAt q g x = margAt t g x))
      ∧ ((∀ g ∈ groups, ∀ x, margAt q g x = margAt t g x) → ∀ n, ipf t groups q n = q) := by
  refine ⟨fun g h0 => ⟨fun he x => ?_, ipfStep_eq_self t q hqn g⟩,
    fun hm n => ipf_induction (P := (· = q)) t groups
      (fun q' g hg e => by rw [e]; exact ipfStep_eq_self t q hqn g (hm g hg)) rfl n⟩
  have := margAt_ipfStep t q g h0 x
  rwa [he] at this

/-! ## The certificate -/

/-- **Pythagorean identity (the certificate).** Let `p`, `q` be non-negative tables on `space`
of equal total mass (e.g. both 1) with equal marginals on every group of `groups`; let `q` be
log-linear on its support, `log₂ q(o) = c + Σ_{g ∈ groups} ψ_g(o_g)` whenever `q(o) > 0` (the
constant can be absorbed into a factor when `groups ≠ []`), and `supp p ⊆ supp q`. Then the
divergence is finite and `D(p‖q) = H(q) − H(p) ≥ 0`. The support hypothesis is needed:
without it `D(p‖q) = +∞` while `H(q) − H(p)` is finite. (A non-trivial instance of the
hypotheses: the example after `maxent_singletons`.) -/
theorem maxent_pythagoras (p q : Tab (List σ) ℝ) (space : List (List σ)) (hnd : space.Nodup)
    (hp : keys p = space) (hq : keys q = space)
    (hpn : ∀ r ∈ p, 0 ≤ r.2) (hqn : ∀ r ∈ q, 0 ≤ r.2) (hmass : mass p = mass q)
    (groups : List (List Nat)) (c : ℝ) (ψ : List Nat → List σ → ℝ)
    (hm : ∀ g ∈ groups, ∀ x, margAt p g x = margAt q g x)
    (hlog : ∀ o ∈ space, 0 < lookupD 0 q o →
      Real.logb 2 (lookupD 0 q o) = c + (groups.map (fun g => ψ g (project g o))).sum)
    (hsupp : ∀ o ∈ space, lookupD 0 q o = 0 → lookupD 0 p o = 0) :
    klVals (Real.logb 2) (alignPair p q)
        = some (entropyVals (Real.logb 2) (vals q) - entropyVals (Real.logb 2) (vals p))
      ∧ 0 ≤ entropyVals (Real.logb 2) (vals q) - entropyVals (Real.logb 2) (vals p) := by
  have hlog' : ∀ o ∈ space, lookupD 0 q o ≠ 0 →
      Real.logb 2 (lookupD 0 q o) = c + (groups.map (fun g => ψ g (project g o))).sum :=
    fun o ho hne => hlog o ho (lt_of_le_of_ne (lookupD_nonneg hqn o) (Ne.symm hne))
  have hid := klSum_eq_entropy_sub p q hp hq hnd groups c ψ hmass hm hlog' hsupp
  exact ⟨by rw [klVals_of_absCont (absCont_alignPair p q hp hnd hsupp), hid], sub_nonneg.mpr
    (entropy_le_of_loglinear p q hp hq hnd hpn hqn groups c ψ hmass hm hlog' hsupp).1⟩

/-- **Optimality.** If `q` is feasible for `(t, groups)` and log-linear on its support, then
`H(p) ≤ H(q)` for every feasible `p` with `supp p ⊆ supp q`, with equality iff `p = q`. -/
theorem maxent_optimal (t p q : Tab (List σ) ℝ) (space : List (List σ)) (hnd : space.Nodup)
    (groups : List (List Nat)) (hq : Feasible t space groups q) (hp : Feasible t space groups p)
    (c : ℝ) (ψ : List Nat → List σ → ℝ)
    (hlog : ∀ o ∈ space, 0 < lookupD 0 q o →
      Real.logb 2 (lookupD 0 q o) = c + (groups.map (fun g => ψ g (project g o))).sum)
    (hsupp : ∀ o ∈ space, lookupD 0 q o = 0 → lookupD 0 p o = 0) :
    entropyVals (Real.logb 2) (vals p) ≤ entropyVals (Real.logb 2) (vals q)
      ∧ (entropyVals (Real.logb 2) (vals p) = entropyVals (Real.logb 2) (vals q) ↔ p = q) :=
  entropy_le_of_loglinear p q hp.keys_eq hq.keys_eq hnd hp.nonneg hq.nonneg groups c ψ
    (hp.mass_eq.trans hq.mass_eq.symm)
    (fun g hg x => (hp.marg g hg x).trans (hq.marg g hg x).symm)
    (fun o ho hne => hlog o ho (lt_of_le_of_ne (lookupD_nonneg hq.nonneg o) (Ne.symm hne))) hsupp

/-- **Optimality without a support hypothesis on `p`.** If the support of the feasible,
log-linear `q` is the whole *marginal support* — `q(o) = 0` only if some requested marginal of
`t` vanishes at `o` (in particular if `q > 0` everywhere) — then every feasible `p` has its
support inside that of `q`, so `q` is *the* maximum-entropy table: `H(p) ≤ H(q)` for every
feasible `p`, with equality iff `p = q`. (The remaining case, where the maximiser has a smaller
support than the marginal support, is the closure of the log-linear family and is not covered
by this certificate.) -/
theorem maxent_optimal_marginal_support (t p q : Tab (List σ) ℝ) (space : List (List σ))
    (hnd : space.Nodup) (groups : List (List Nat)) (hq : Feasible t space groups q)
    (hp : Feasible t space groups p) (c : ℝ) (ψ : List Nat → List σ → ℝ)
    (hlog : ∀ o ∈ space, 0 < lookupD 0 q o →
      Real.logb 2 (lookupD 0 q o) = c + (groups.map (fun g => ψ g (project g o))).sum)
    (hfull : ∀ o ∈ space, lookupD 0 q o = 0 → ∃ g ∈ groups, margAt t g (project g o) = 0) :
    entropyVals (Real.logb 2) (vals p) ≤ entropyVals (Real.logb 2) (vals q)
      ∧ (entropyVals (Real.logb 2) (vals p) = entropyVals (Real.logb 2) (vals q) ↔ p = q) :=
  maxent_optimal t p q space hnd groups hq hp c ψ hlog (hp.supp_subset q hfull)

/-- **A feasible table of product form is the maximum-entropy table** (what the IPF iteration
aims at: all its iterates have product form, `ipf_product_form`, and its fixed points are the
feasible tables, `ipf_fixed_point`). If `q` is feasible for `(t, groups)`, has product form over
`groups`, and its support is the whole marginal support, then `H(p) ≤ H(q)` for every feasible
`p`, with equality iff `p = q`. -/
theorem maxent_of_product_form (t p q : Tab (List σ) ℝ) (space : List (List σ))
    (hnd : space.Nodup) (groups : List (List Nat)) (hq : Feasible t space groups q)
    (hp : Feasible t space groups p) (hpf : ProductForm groups q)
    (hfull : ∀ o ∈ space, lookupD 0 q o = 0 → ∃ g ∈ groups, margAt t g (project g o) = 0) :
    entropyVals (Real.logb 2) (vals p) ≤ entropyVals (Real.logb 2) (vals q)
      ∧ (entropyVals (Real.logb 2) (vals p) = entropyVals (Real.logb 2) (vals q) ↔ p = q) := by
  obtain ⟨c, ψ, hlog⟩ := product_form_loglinear groups q space hq.keys_eq hnd hpf
  exact maxent_optimal_marginal_support t p q space hnd (dedup groups) hq.dedup hp.dedup c ψ
    (fun o ho hpos => hlog o ho hpos.ne')
    (fun o ho h0 => by
      obtain ⟨g, hg, hz⟩ := hfull o ho h0
      exact ⟨g, mem_dedup.mpr hg, hz⟩)

/-- **The maximum-entropy table dominates the source**: the source `t` is itself feasible, so
its entropy is at most that of any table that is optimal among the feasible ones. -/
theorem maxent_ge_source (t q : Tab (List σ) ℝ) (space : List (List σ)) (groups : List (List Nat))
    (ht : keys t = space) (htn : ∀ r ∈ t, 0 ≤ r.2)
    (hopt : ∀ p, Feasible t space groups p →
      entropyVals (Real.logb 2) (vals p) ≤ entropyVals (Real.logb 2) (vals q)) :
    Feasible t space groups t
      ∧ entropyVals (Real.logb 2) (vals t) ≤ entropyVals (Real.logb 2) (vals q) :=
  ⟨Feasible.self t space groups ht htn, hopt t (Feasible.self t space groups ht htn)⟩

/-! ## Singleton constraints: the product of the marginals -/

/-- **Singleton constraints, feasibility.** On the Cartesian space of duplicate-free alphabets
`as`, the product of the one-variable marginals of a probability table `t` (`prodMarg`,
`o ↦ Π_i P_t(X_i = o_i)`) is a non-negative table of mass 1 with the one-variable marginals of
`t`. (Mass 1 is needed: the marginals of the product scale with `mass^(n-1)`.) -/
theorem maxent_singletons_feasible (t : Tab (List σ) ℝ) (as : List (List σ))
    (hnd : ∀ a ∈ as, a.Nodup) (hk : keys t = cartesian as) (htn : ∀ r ∈ t, 0 ≤ r.2)
    (hmass : mass t = 1) :
    Feasible t (cartesian as) (singletons as.length)
      (prodMarg t (singletons as.length) (cartesian as)) := by
  refine ⟨keys_prodMarg _ _ _, prodMarg_nonneg t htn _ _,
    (mass_prodMarg_singletons t as hnd hk hmass).trans hmass.symm, ?_⟩
  intro g hg x
  obtain ⟨i, hi, rfl⟩ := List.mem_map.mp hg
  exact margAt_prodMarg_singletons t as hnd hk hmass i (List.mem_range.mp hi) x

/-- **Singleton constraints, product form.** The product of the one-variable marginals has
product form over the singleton groups (constant 1, factors the marginals). -/
theorem maxent_singletons_product_form (t : Tab (List σ) ℝ) (n : Nat) (space : List (List σ)) :
    ProductForm (singletons n) (prodMarg t (singletons n) space) :=
  prodMarg_productForm t (singletons n) (singletons_nodup n) space

/-- **Singleton constraints, entropy.** The entropy of the product of the marginals is the sum
of the one-variable entropies `Σ_i H(X_i)`. -/
theorem maxent_singletons_entropy (t : Tab (List σ) ℝ) (as : List (List σ))
    (hnd : ∀ a ∈ as, a.Nodup) (hk : keys t = cartesian as) (htn : ∀ r ∈ t, 0 ≤ r.2)
    (hmass : mass t = 1) :
    entropyVals (Real.logb 2) (vals (prodMarg t (singletons as.length) (cartesian as)))
      = ((List.range as.length).map (fun i => entropyOf (Real.logb 2) t [i])).sum := by
  have hf := maxent_singletons_feasible t as hnd hk htn hmass
  rw [entropy_eq_sum_entropyOf t _ hf.keys_eq (nodup_cartesian hnd) (singletons as.length)
    hf.mass_eq hf.marg (prodMarg_loglinear t _ _), map_singletons]

/-- **Singleton constraints, optimality.** The product of the one-variable marginals is the
maximum-entropy table with those marginals: every feasible `p` has `H(p) ≤ H(product)`, with
equality iff `p` is the product. No support hypothesis is needed. -/
theorem maxent_singletons (t p : Tab (List σ) ℝ) (as : List (List σ))
    (hnd : ∀ a ∈ as, a.Nodup) (hk : keys t = cartesian as) (htn : ∀ r ∈ t, 0 ≤ r.2)
    (hmass : mass t = 1) (hp : Feasible t (cartesian as) (singletons as.length) p) :
    entropyVals (Real.logb 2) (vals p)
        ≤ entropyVals (Real.logb 2) (vals (prodMarg t (singletons as.length) (cartesian as)))
      ∧ (entropyVals (Real.logb 2) (vals p)
          = entropyVals (Real.logb 2) (vals (prodMarg t (singletons as.length) (cartesian as)))
        ↔ p = prodMarg t (singletons as.length) (cartesian as)) :=
  maxent_optimal_marginal_support t p _ (cartesian as) (nodup_cartesian hnd)
    (singletons as.length) (maxent_singletons_feasible t as hnd hk htn hmass) hp 0
    (fun g x => Real.logb 2 (margAt t g x))
    (fun o ho hpos => prodMarg_loglinear t _ _ o ho hpos.ne')
    (prodMarg_marginal_support t _ _)

/-- Non-vacuity of `maxent_singletons*`: `exCorr` is a probability table on the Cartesian space
of two duplicate-free binary alphabets. -/
example : (∀ a ∈ exAlph, a.Nodup) ∧ keys exCorr = cartesian exAlph ∧ (∀ r ∈ exCorr, 0 ≤ r.2)
    ∧ mass exCorr = 1 := ⟨exAlph_nodup, exCorr_keys, exCorr_nonneg, exCorr_mass⟩

/-- Non-vacuity of `maxent_pythagoras` / `maxent_optimal`: `p :=` the correlated bits and `q :=`
the product of their marginals (the independent table) satisfy all hypotheses with
`groups = [[0],[1]]`, and `p ≠ q`. -/
example : ∃ (p q : Tab (List Nat) ℝ) (c : ℝ) (ψ : List Nat → List Nat → ℝ),
    Feasible exCorr (cartesian exAlph) (singletons 2) p
    ∧ Feasible exCorr (cartesian exAlph) (singletons 2) q
    ∧ (∀ o ∈ cartesian exAlph, 0 < lookupD 0 q o →
        Real.logb 2 (lookupD 0 q o) = c + ((singletons 2).map (fun g => ψ g (project g o))).sum)
    ∧ (∀ o ∈ cartesian exAlph, lookupD 0 q o = 0 → lookupD 0 p o = 0)
    ∧ p ≠ q := by
  have hq : Feasible exCorr (cartesian exAlph) (singletons 2)
      (prodMarg exCorr (singletons 2) (cartesian exAlph)) :=
    maxent_singletons_feasible exCorr exAlph exAlph_nodup exCorr_keys exCorr_nonneg exCorr_mass
  have hp := Feasible.self exCorr (cartesian exAlph) (singletons 2) exCorr_keys exCorr_nonneg
  refine ⟨exCorr, prodMarg exCorr (singletons 2) (cartesian exAlph), 0,
    fun g x => Real.logb 2 (margAt exCorr g x), hp, hq,
    fun o ho hpos => prodMarg_loglinear exCorr _ _ o ho hpos.ne', ?_, ?_⟩
  · exact hp.supp_subset _ (prodMarg_marginal_support exCorr _ _)
  · intro e
    have h1 := exCorr_prod_lookup
    rw [← e, exCorr_lookup] at h1
    norm_num at h1

/-! ## A constraint covering all variables -/

/-- **A group covering all variables.** If `project g o = o` on the space (e.g. `g = range n`
with outcomes of length `n`, `project_range_length`), a table on `space` with the `g`-marginal of
`t` is `t` itself. -/
theorem maxent_full (t q : Tab (List σ) ℝ) (space : List (List σ)) (hnd : space.Nodup)
    (ht : keys t = space) (hq : keys q = space) (g : List Nat)
    (hfull : ∀ o ∈ space, project g o = o) (hm : ∀ x, margAt q g x = margAt t g x) :
    (∀ o, lookupD 0 q o = lookupD 0 t o) ∧ q = t := by
  have h : ∀ o, lookupD 0 q o = lookupD 0 t o := by
    intro o
    rw [lookupD_eq_margAt_of_full q (hq ▸ hnd) g (by rw [hq]; exact hfull),
      lookupD_eq_margAt_of_full t (ht ▸ hnd) g (by rw [ht]; exact hfull), hm]
  exact ⟨h, eq_of_lookupD_eq hq ht hnd (fun o _ => h o)⟩

/-- With a constraint covering all variables the only feasible table is the source. -/
theorem maxent_full_feasible (t p : Tab (List σ) ℝ) (space : List (List σ)) (hnd : space.Nodup)
    (ht : keys t = space) (groups : List (List Nat)) (g : List Nat) (hg : g ∈ groups)
    (hfull : ∀ o ∈ space, project g o = o) (hp : Feasible t space groups p) : p = t :=
  (maxent_full t p space hnd ht hp.keys_eq g hfull (hp.marg g hg)).2

/-- Non-vacuity of `maxent_full` / `chain_end`: on the 2×2 space the group `[0, 1]` covers all
variables. -/
example : ∀ o ∈ cartesian exAlph, project [0, 1] o = o := by decide

/-! ## The chain of `marginal_maxent_dists` -/

/-- **Marginals of sub-groups.** Equal `g'`-marginals give equal `g`-marginals whenever every
index of `g` occurs in `g'` and the indices of `g'` are valid for all stored outcomes (an invalid
index is dropped by `project` and shifts the later positions, so validity is needed to read `o_g`
off `o_{g'}`). -/
theorem marginal_of_submarginal (p q : Tab (List σ) ℝ) (g g' : List Nat)
    (hsub : ∀ i ∈ g, i ∈ g')
    (hvp : ∀ o ∈ keys p, ∀ i ∈ g', i < o.length) (hvq : ∀ o ∈ keys q, ∀ i ∈ g', i < o.length)
    (hm : ∀ x, margAt p g' x = margAt q g' x) : ∀ x, margAt p g x = margAt q g x :=
  margAt_of_submarginal p q g g' hsub hvp hvq hm

/-- **Monotonicity along the chain.** If every group of `groups₁` is contained in some group of
`groups₂`, the feasible set for `groups₂` is contained in that for `groups₁`; hence if `q₁` is
optimal for `groups₁` and `q₂` is feasible for `groups₂` (e.g. optimal for it), then
`H(q₂) ≤ H(q₁)`: the entropies of the k-way maximum-entropy tables do not increase with `k`. -/
theorem chain_monotone (t q₁ q₂ : Tab (List σ) ℝ) (space : List (List σ))
    (groups₁ groups₂ : List (List Nat)) (ht : keys t = space)
    (hcoarse : ∀ g ∈ groups₁, ∃ g' ∈ groups₂, ∀ i ∈ g, i ∈ g')
    (hvalid : ∀ o ∈ space, ∀ g' ∈ groups₂, ∀ i ∈ g', i < o.length)
    (hopt : ∀ p, Feasible t space groups₁ p →
      entropyVals (Real.logb 2) (vals p) ≤ entropyVals (Real.logb 2) (vals q₁))
    (h2 : Feasible t space groups₂ q₂) :
    Feasible t space groups₁ q₂
      ∧ entropyVals (Real.logb 2) (vals q₂) ≤ entropyVals (Real.logb 2) (vals q₁) :=
  ⟨h2.coarsen ht hcoarse hvalid, hopt q₂ (h2.coarsen ht hcoarse hvalid)⟩

/-- Non-vacuity of `chain_monotone`: the singleton groups are coarser than the pair group, whose
indices are valid on the 2×2 space. -/
example : (∀ g ∈ singletons 2, ∃ g' ∈ [[0, 1]], ∀ i ∈ g, i ∈ g')
    ∧ (∀ o ∈ cartesian exAlph, ∀ g' ∈ [[0, 1]], ∀ i ∈ g', i < o.length) := by decide

/-- **The chain starts at the uniform table**: it has entropy `log₂ N` and the largest entropy
of all probability tables on `space` (the 0-way maximum-entropy table), with equality only for
the uniform table itself. -/
theorem uniform_max_entropy (p : Tab (List σ) ℝ) (space : List (List σ)) (hnd : space.Nodup)
    (hp : keys p = space) (hpn : ∀ r ∈ p, 0 ≤ r.2) (hmass : mass p = 1) :
    entropyVals (Real.logb 2) (vals (uniformOn (fun k : Nat => (k : ℝ)) space))
        = Real.logb 2 (space.length : ℝ)
      ∧ entropyVals (Real.logb 2) (vals p)
          ≤ entropyVals (Real.logb 2) (vals (uniformOn (fun k : Nat => (k : ℝ)) space))
      ∧ (entropyVals (Real.logb 2) (vals p)
          = entropyVals (Real.logb 2) (vals (uniformOn (fun k : Nat => (k : ℝ)) space))
        ↔ p = uniformOn (fun k : Nat => (k : ℝ)) space) := by
  have hne : space ≠ [] := by
    rintro rfl
    rw [List.map_eq_nil_iff.mp hp] at hmass
    exact zero_ne_one hmass
  exact ⟨entropy_uniformOn space, entropy_le_of_loglinear p _ hp (keys_uniformOn space) hnd hpn
    (uniformOn_nonneg space) [] (Real.logb 2 (1 / (space.length : ℝ))) (fun _ _ => 0)
    (hmass.trans (mass_uniformOn space hne).symm) (fun _ hg => absurd hg List.not_mem_nil)
    (fun o ho _ => by rw [lookupD_uniformOn space o ho, List.map_nil, List.sum_nil, add_zero])
    (fun _ ho h0 => absurd h0 (lookupD_uniformOn_ne_zero space ho))⟩

/-- **The chain ends at the source**: when outcomes have length `n`, the `n`-way constraint
`[range n]` covers all variables, so the only feasible table — and hence the maximum-entropy one
— is `t` itself. -/
theorem chain_end (t p : Tab (List σ) ℝ) (space : List (List σ)) (hnd : space.Nodup)
    (ht : keys t = space) (n : Nat) (hlen : ∀ o ∈ space, o.length = n)
    (hp : Feasible t space [List.range n] p) : p = t :=
  maxent_full_feasible t p space hnd ht [List.range n] (List.range n) (by simp)
    (fun o ho => by rw [← hlen o ho]; exact project_range_length o) hp

end Dit.Props.C14
