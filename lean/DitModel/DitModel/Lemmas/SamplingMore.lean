/- Helper lemmas for Props/C12More: the rank of an index `j` among the positive entries,
`((pmf.take j).filter (0 < ·)).length`. -/
import DitModel.Lemmas.Sampling

namespace Dit.Lemmas.Sampling
open Dit

variable {α : Type} [Field α] [LinearOrder α]

theorem sum_filter_pos (l : List α) (hnn : ∀ p ∈ l, 0 ≤ p) :
    (l.filter (fun p => decide (0 < p))).sum = l.sum := by
  induction l with
  | nil => rfl
  | cons p ps ih =>
    have ih' := ih fun q hq => hnn q (List.mem_cons_of_mem _ hq)
    by_cases hp : 0 < p
    · rw [List.filter_cons, if_pos (decide_eq_true hp), List.sum_cons, List.sum_cons, ih']
    · have hp0 : p = 0 := le_antisymm (not_lt.mp hp) (hnn p List.mem_cons_self)
      rw [List.filter_cons, if_neg fun h => hp (of_decide_eq_true h), ih', hp0, List.sum_cons,
        zero_add]

omit [Field α] [LinearOrder α] in
theorem take_length_filter_take (l : List α) (P : α → Bool) (j : Nat) :
    (l.filter P).take ((l.take j).filter P).length = (l.take j).filter P := by
  have h : l.filter P = (l.take j).filter P ++ (l.drop j).filter P := by
    rw [← List.filter_append, List.take_append_drop]
  rw [h]
  simp

theorem cum_filter_rank (pmf : List α) (hnn : ∀ p ∈ pmf, 0 ≤ p) (j : Nat) :
    cum (pmf.filter (fun p => decide (0 < p))) ((pmf.take j).filter (fun p => decide (0 < p))).length
      = cum pmf j := by
  unfold cum
  rw [take_length_filter_take, sum_filter_pos _ (fun p hp => hnn p (List.mem_of_mem_take hp))]

theorem rank_succ (pmf : List α) (j : Nat) (hj : j < pmf.length) (hpos : 0 < pmf[j]) :
    ((pmf.take (j + 1)).filter (fun p => decide (0 < p))).length
      = ((pmf.take j).filter (fun p => decide (0 < p))).length + 1 := by
  rw [List.take_succ_eq_append_getElem hj, List.filter_append]
  simp [hpos]

theorem rank_le (pmf : List α) (j : Nat) :
    ((pmf.take j).filter (fun p => decide (0 < p))).length
      ≤ (pmf.filter (fun p => decide (0 < p))).length :=
  List.Sublist.length_le ((List.take_sublist j pmf).filter _)

end Dit.Lemmas.Sampling
