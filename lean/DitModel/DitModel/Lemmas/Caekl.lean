/-
Helper lemmas for `caeklCand` under reordering of a partition. Property theorems are in Props/C05Partitions.lean.
-/
import DitModel.Props.C05
import DitModel.Props.C16Fci

namespace Dit.Lemmas.Caekl
open Dit Dit.Lemmas.InfoAlg Dit.Lemmas.SetPart Dit.Props.C16Fci

section Sum
variable {R : Type} [CommRing R] (H : VSet → R)

/-- The block terms of a candidate, read off the blocks as finsets. -/
theorem map_Hc_eq_blocksF (Z : VSet) (P : List (List VSet)) :
    P.map (fun B => Hc H (vunions B) Z)
      = (blocksF P).map (fun S : Finset VSet => Hc H (vunions S.toList) Z) := by
  unfold blocksF
  rw [List.map_map]
  refine List.map_congr_left fun B _ => congrArg (Hc H · Z) (vunions_congr fun g => ?_)
  rw [Finset.mem_toList, List.mem_toFinset]

/-- Two presentations of the same set partition have the same block terms up to order. -/
theorem sum_Hc_eq (Z : VSet) {P Q : List (List VSet)} {l l' : List VSet}
    (hP : IsPart P l) (hQ : IsPart Q l') (h : Same P Q) :
    (P.map (fun B => Hc H (vunions B) Z)).sum = (Q.map (fun B => Hc H (vunions B) Z)).sum := by
  rw [map_Hc_eq_blocksF, map_Hc_eq_blocksF]
  exact ((h.perm_blocksF hP hQ).map _).sum_eq

end Sum

end Dit.Lemmas.Caekl
