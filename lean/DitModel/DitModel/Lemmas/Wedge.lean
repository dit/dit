/-
Helper lemmas for `I_∧` (`Core/Wedge.lean`).

`iwedge` is written as `Imap f y t = H(f) + H(y) − H(f, y)` (entropies `Hmap` of maps on one table:
Lemmas/InfoReal.lean, Lemmas/Meet.lean) of the coded meet label with the projection on the target, on
`supportTab t`; the inequalities then are data processing (`Imap_le_of_function`) applied to the meet label as
the finest common function of the source sets (Props/C16 `meet_function_of_each`, `meet_finest`).
-/
import DitModel.Core.Wedge
import DitModel.Lemmas.Chain
import DitModel.Lemmas.Lattice
import DitModel.Lemmas.Transform
import DitModel.Props.C16

namespace Dit.Lemmas.Wedge
open Dit Dit.Lemmas.Table Dit.Lemmas.Meet Dit.Lemmas.InfoAlg Dit.Lemmas.InfoReal Dit.Lemmas.Lattice

section Maps
variable {κ κ₁ κ₂ κ₃ κ₄ : Type} [DecidableEq κ₁] [DecidableEq κ₂] [DecidableEq κ₃] [DecidableEq κ₄]

noncomputable def Imap (f : κ → κ₁) (y : κ → κ₂) (t : Tab κ ℝ) : ℝ :=
  Hmap f t + Hmap y t - Hmap (fun k => (f k, y k)) t

theorem Imap_le_of_function (f : κ → κ₁) (g : κ → κ₂) (y : κ → κ₃) (t : Tab κ ℝ)
    (hnn : ∀ r ∈ t, 0 ≤ r.2)
    (h : ∀ k ∈ keys t, ∀ k' ∈ keys t, g k = g k' → f k = f k') :
    Imap f y t ≤ Imap g y t := by
  have hs := Hmap_submod (fun k => (g k, y k)) g (fun k => (f k, y k)) f t hnn h
    (fun k _ k' _ e => (Prod.mk.inj e).1)
    (fun k _ k' _ e1 e2 => by rw [e1, (Prod.mk.inj e2).2])
  unfold Imap
  linarith

theorem Imap_equiv (f : κ → κ₁) (g : κ → κ₂) (y : κ → κ₃) (t : Tab κ ℝ)
    (h : ∀ k ∈ keys t, ∀ k' ∈ keys t, f k = f k' ↔ g k = g k') :
    Imap f y t = Imap g y t := by
  unfold Imap
  rw [Hmap_equiv f g t h,
    Hmap_equiv (fun k => (f k, y k)) (fun k => (g k, y k)) t (fun k hk k' hk' => by
      rw [Prod.mk.injEq, Prod.mk.injEq, h k hk k' hk'])]

end Maps

section Wedge
variable {σ : Type}

theorem mem_supportTab {t : Tab (List σ) ℝ} {r : List σ × ℝ} :
    r ∈ supportTab t ↔ r ∈ t ∧ r.2 ≠ 0 :=
  List.mem_filter.trans (and_congr_right fun _ => by rw [Bool.not_eq_true', beq_eq_false_iff_ne])

theorem supportTab_mass (t : Tab (List σ) ℝ) :
    ((supportTab t).map (·.2)).sum = (t.map (·.2)).sum :=
  sum_map_filter_of_zero _ _ t fun _ _ h => eq_of_beq ((Bool.not_eq_false' _).mp h)

theorem mem_keys_supportTab {t : Tab (List σ) ℝ} {k : List σ} (h : k ∈ keys (supportTab t)) :
    k ∈ keys t := by
  obtain ⟨r, hr, rfl⟩ := List.mem_map.mp h
  exact List.mem_map_of_mem (mem_supportTab.mp hr).1

theorem supportTab_nonneg {t : Tab (List σ) ℝ} (hnn : ∀ r ∈ t, 0 ≤ r.2) :
    ∀ r ∈ supportTab t, 0 ≤ r.2 := fun r hr => hnn r (mem_supportTab.mp hr).1

variable [DecidableEq σ]

set_option linter.unusedSectionVars false in
theorem supportTab_eq (t : Tab (List σ) ℝ) :
    supportTab t = t.filter (fun r => !(r.2 == 0)) := rfl

theorem entropyOf_supportTab (t : Tab (List σ) ℝ) (X : List Nat) :
    entropyOf (Real.logb 2) (supportTab t) X = entropyOf (Real.logb 2) t X :=
  (congrArg (entropyOf (Real.logb 2) · X) (List.filter_congr fun r _ => Bool.eq_iff_iff.mpr
    (by rw [Bool.not_eq_true', beq_eq_false_iff_ne, decide_eq_true_iff]))).trans
    (Lemmas.Transform.entropyOf_trim (Real.logb 2) t X)

theorem miOf_supportTab (t : Tab (List σ) ℝ) (S T : VSet) :
    miOf (Real.logb 2) (supportTab t) S T = miOf (Real.logb 2) t S T := by
  unfold miOf
  rw [entropyOf_supportTab, entropyOf_supportTab, entropyOf_supportTab]

/-- The symbol appended by `withMeet` to the outcome `o`. -/
noncomputable def wlabel (code : Nat → σ) (t : Tab (List σ) ℝ) (node : RNode) (o : List σ) : σ :=
  code (labelOf (meetClasses node (keys (supportTab t))) o)

theorem withMeet_eq (code : Nat → σ) (t : Tab (List σ) ℝ) (node : RNode) :
    withMeet code t node
      = insertRvf (fun o => [wlabel code t node o]) none (supportTab t) := rfl

theorem withMeet_eq_map (code : Nat → σ) (t : Tab (List σ) ℝ) (node : RNode) :
    withMeet code t node
      = (supportTab t).map (fun r => (r.1 ++ [wlabel code t node r.1], r.2)) := rfl

theorem withMeet_nonneg (code : Nat → σ) {t : Tab (List σ) ℝ} (node : RNode)
    (hnn : ∀ r ∈ t, 0 ≤ r.2) : ∀ r ∈ withMeet code t node, 0 ≤ r.2 :=
  Lemmas.Chain.insertRvf_nonneg (fun o => [wlabel code t node o]) none _ (supportTab_nonneg hnn)

theorem withMeet_mass (code : Nat → σ) (t : Tab (List σ) ℝ) (node : RNode) :
    ((withMeet code t node).map (·.2)).sum = (t.map (·.2)).sum :=
  (Lemmas.Chain.insertRvf_mass (fun o => [wlabel code t node o]) none _).trans (supportTab_mass t)

theorem miOf_eq_Imap (t : Tab (List σ) ℝ) (S T : VSet) :
    miOf (Real.logb 2) t S T = Imap (project S) (project T) t := by
  unfold miOf Imap
  rw [← entropyOf_vnorm, ← entropyOf_vnorm, entropyOf_eq_Hmap, entropyOf_eq_Hmap,
    entropyOf_eq_Hmap]
  congr 1
  apply Hmap_equiv
  intro k _ k' _
  rw [project_vunion_eq_iff, Prod.mk.injEq]

variable (code : Nat → σ) (t : Tab (List σ) ℝ) (n : Nat) (hlen : ∀ k ∈ keys t, k.length = n)
include hlen

omit [DecidableEq σ] in
theorem supportTab_len : ∀ k ∈ keys (supportTab t), k.length = n :=
  fun k hk => hlen k (mem_keys_supportTab hk)

theorem iwedge_eq_Imap (node : RNode) (T : VSet) (hT : ∀ v ∈ T, v < n) :
    iwedge (Real.logb 2) code t n T node
      = Imap (wlabel code t node) (project T) (supportTab t) := by
  have hl := supportTab_len t n hlen
  unfold iwedge miOf
  rw [← entropyOf_vnorm, ← entropyOf_vnorm,
    entropyOf_congr (withMeet code t node) (X := vunion [n] T) (X' := T ++ [n])
      (by intro v; rw [mem_vunion, List.mem_append, or_comm]),
    withMeet_eq, entropyOf_new _ n _ hl, entropyOf_old _ n _ hl T hT,
    entropyOf_old_new _ n _ hl T hT]
  rfl

omit hlen

theorem miOf_eq_Imap_support (S T : VSet) :
    miOf (Real.logb 2) t S T = Imap (project S) (project T) (supportTab t) := by
  rw [← miOf_supportTab, miOf_eq_Imap]

theorem wlabel_function_of_source (node : RNode) {s : VSet} (hs : s ∈ node) :
    ∀ k ∈ keys (supportTab t), ∀ k' ∈ keys (supportTab t),
      project s k = project s k' → wlabel code t node k = wlabel code t node k' := by
  intro k hk k' hk' e
  unfold wlabel
  rw [Props.C16.meet_function_of_each node (keys (supportTab t)) hs hk hk' e]

theorem wlabel_finest {β : Type} (hcode : Function.Injective code) (node : RNode) (ℓ : List σ → β)
    (hℓ : ∀ g ∈ node, ∀ o ∈ keys (supportTab t), ∀ o' ∈ keys (supportTab t),
      project g o = project g o' → ℓ o = ℓ o') :
    ∀ k ∈ keys (supportTab t), ∀ k' ∈ keys (supportTab t),
      wlabel code t node k = wlabel code t node k' → ℓ k = ℓ k' :=
  fun k hk k' hk' e => (Props.C16.meet_finest node _ ℓ hℓ).1 k hk k' hk' (hcode e)

theorem wlabel_single (hcode : Function.Injective code) (s : VSet) :
    ∀ k ∈ keys (supportTab t), ∀ k' ∈ keys (supportTab t),
      wlabel code t [s] k = wlabel code t [s] k' ↔ project s k = project s k' :=
  fun k hk k' hk' =>
    ⟨wlabel_finest code t hcode [s] (project s) (List.forall_mem_singleton.2 fun _ _ _ _ h => h)
        k hk k' hk',
      wlabel_function_of_source code t [s] (List.mem_singleton_self s) k hk k' hk'⟩

/-- Every source set of `b` contains one of `a`, of which the label of `a` is a function. -/
theorem wlabel_function_of_upper (hcode : Function.Injective code) (a b : RNode)
    (h : rle a b = true) :
    ∀ k ∈ keys (supportTab t), ∀ k' ∈ keys (supportTab t),
      wlabel code t b k = wlabel code t b k' → wlabel code t a k = wlabel code t a k' := by
  refine wlabel_finest code t hcode b (wlabel code t a) fun β hβ o ho o' ho' hp => ?_
  obtain ⟨α, hα, hsub⟩ := rle_iff.mp h β hβ
  apply wlabel_function_of_source code t a hα o ho o' ho'
  rw [project_eq_iff] at hp ⊢
  exact fun i hi => hp i (hsub i hi)

end Wedge

/-! ## The two tables of the examples in Props/C17Wedge.lean -/

/-- Xor of two fair bits, with the impossible outcome `111` stored with value zero. -/
noncomputable def xorZ : Tab (List Nat) ℝ :=
  [([0, 0, 0], 1 / 4), ([0, 1, 1], 1 / 4), ([1, 0, 1], 1 / 4), ([1, 1, 0], 1 / 4), ([1, 1, 1], 0)]

noncomputable def bit3 : Tab (List Nat) ℝ := [([0, 0, 0], 1 / 2), ([1, 1, 1], 1 / 2)]

theorem xorZ_nonneg : ∀ r ∈ xorZ, 0 ≤ r.2 := by
  simp only [xorZ, List.forall_mem_cons]
  norm_num

theorem xorZ_mass : (xorZ.map (·.2)).sum = 1 := by
  simp only [xorZ, List.map_cons, List.map_nil, List.sum_cons, List.sum_nil]
  norm_num

theorem xorZ_len : ∀ k ∈ keys xorZ, k.length = 3 := by
  decide

theorem bit3_nonneg : ∀ r ∈ bit3, 0 ≤ r.2 := by
  simp only [bit3, List.forall_mem_cons]
  norm_num

theorem bit3_mass : (bit3.map (·.2)).sum = 1 := by
  simp only [bit3, List.map_cons, List.map_nil, List.sum_cons, List.sum_nil]
  norm_num

theorem bit3_len : ∀ k ∈ keys bit3, k.length = 3 := by
  decide

end Dit.Lemmas.Wedge
