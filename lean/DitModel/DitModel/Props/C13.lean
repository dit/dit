/-
C13 — Channel capacity and rate–distortion: the reported quantities and their optimality
certificates.

Theorems about `Core/Channel.lean` at `α := ℝ`, `log := Real.logb 2`, `exp2 := (2:ℝ)^·`.
A channel `P : List (List ℝ)` is `IsChannel P n m` (`n` rows, each a probability vector of
length `m`); a law `r` is `IsLaw r n`; entries are read with `vec r x = r.getD x 0` and
`ent P x y = (P.getD x []).getD y 0` (all four defined in Lemmas/Channel.lean).

* capacity: `channelMI` is `Σ_x Σ_y r_x P_xy log₂(P_xy/(rP)_y)`, non-negative; every input law
  is bounded by `max_x D(P_x‖q')` for any dominating output law `q'` (the dual bound), hence by
  `I(r;P) + capacityGap r P`; the gap is non-negative; closed forms.
* rate–distortion: the joint `Q_xy = p_x W_xy` has input marginal `p` and `jointMI Q =
  channelMI p W`; the Csiszár/Berger bound and the model's `rdLowerBound` certificate; the
  monotonicity of the Lagrangian minimisers in `β` (`rd_monotone`, pure order algebra over an
  abstract set of achievable `(R, D)` pairs: it mentions no Core definition).
Helper lemmas: Lemmas/Channel.lean.
-/
import DitModel.Lemmas.Channel

namespace Dit.Props.C13
open Dit Dit.Lemmas.Channel Finset

/-! ## Capacity -/

/-- **Output law, entrywise**: `(rP)_y = Σ_x r_x P_xy` (only the shapes are needed). -/
theorem outputLaw_apply (r : List ℝ) (P : List (List ℝ)) (n m : ℕ) (hr : r.length = n)
    (hP : IsMat P n m) (y : ℕ) :
    vec (outputLaw r P) y = ∑ x ∈ range n, vec r x * ent P x y :=
  vec_outputLaw r P n m hr hP y

/-- The output law of a channel under an input law has non-negative entries. -/
theorem outputLaw_nonneg (r : List ℝ) (P : List (List ℝ)) (n m : ℕ) (hr : IsLaw r n)
    (hP : IsChannel P n m) : ∀ a ∈ outputLaw r P, 0 ≤ a :=
  (outputLaw_isLaw r P n m hr hP).nonneg

/-- The output law of a channel under an input law has `m` entries summing to one. -/
theorem outputLaw_sum_one (r : List ℝ) (P : List (List ℝ)) (n m : ℕ) (hr : IsLaw r n)
    (hP : IsChannel P n m) : (outputLaw r P).length = m ∧ (outputLaw r P).sum = 1 :=
  ⟨(outputLaw_isLaw r P n m hr hP).len, (outputLaw_isLaw r P n m hr hP).sum_one⟩

/-- **The reported value is the mutual information**: `channelMI log₂ r P =
Σ_x Σ_y r_x P_xy log₂ (P_xy / q_y)` with `q = outputLaw r P` (shapes only; the guard
`P_xy = 0 ↦ 0` of the model agrees with `0 · log₂ _ = 0`). -/
theorem channelMI_eq_def (r : List ℝ) (P : List (List ℝ)) (n m : ℕ) (hr : r.length = n)
    (hP : IsMat P n m) :
    channelMI (Real.logb 2) r P = ∑ x ∈ range n, ∑ y ∈ range m,
      vec r x * ent P x y * Real.logb 2 (ent P x y / vec (outputLaw r P) y) := by
  rw [channelMI_eq r P n m hr hP]
  apply sum_congr rfl; intro x _
  rw [mul_sum]
  apply sum_congr rfl; intro y _
  ring

/-- Mutual information through a channel is non-negative. -/
theorem channelMI_nonneg (r : List ℝ) (P : List (List ℝ)) (n m : ℕ) (hr : IsLaw r n)
    (hP : IsChannel P n m) : 0 ≤ channelMI (Real.logb 2) r P := by
  rw [channelMI_eq r P n m hr.len hP.isMat]
  simp only [vec_outputLaw r P n m hr.len hP.isMat]
  exact mi_nonneg (range n) (range m) (vec r) (ent P) (fun x _ => hr.vec_nonneg x)
    (le_of_eq hr.sum_vec) (fun x _ y _ => hP.ent_nonneg x y)
    (fun x hx => hP.sum_ent (mem_range.mp hx))

/-- **Dual bound ("no input distribution does better")**: for ANY output law `q'` that
dominates every row of the channel (`q'_y = 0 → P_xy = 0`, needed for the divergences to be the
finite sums `klRow` computes) and ANY input law `r'`,
`I(r';P) ≤ max_x D(P_x ‖ q')`. -/
theorem capacity_dual_bound (P : List (List ℝ)) (n m : ℕ) (hP : IsChannel P n m)
    (q' : List ℝ) (hq' : IsLaw q' m)
    (hdom : ∀ x < n, ∀ y < m, vec q' y = 0 → ent P x y = 0)
    (r' : List ℝ) (hr' : IsLaw r' n) :
    channelMI (Real.logb 2) r' P ≤ lmaxOf (P.map (fun px => klRow (Real.logb 2) px q')) :=
  le_trans (channelMI_le_cross P n m hP q' hq' hdom r' hr')
    (mean_le_lmaxOf r' _ n hr' (by simp [hP.len]))

/-- The dual bound with an explicit constant, the clause "every input letter's divergence at most
the value plus tolerance, so no input distribution does better" of C13: if every row divergence
`D(P_x‖q')` is at most `C` then `I(r';P) ≤ C` for every input law `r'`. -/
theorem capacity_dual_bound_le (P : List (List ℝ)) (n m : ℕ) (hP : IsChannel P n m)
    (q' : List ℝ) (hq' : IsLaw q' m)
    (hdom : ∀ x < n, ∀ y < m, vec q' y = 0 → ent P x y = 0)
    (C : ℝ) (hC : ∀ px ∈ P, klRow (Real.logb 2) px q' ≤ C)
    (r' : List ℝ) (hr' : IsLaw r' n) :
    channelMI (Real.logb 2) r' P ≤ C := by
  refine le_trans (capacity_dual_bound P n m hP q' hq' hdom r' hr') ?_
  have hne : P ≠ [] := List.ne_nil_of_length_pos (hP.len ▸ hr'.pos_len)
  exact lmaxOf_le _ (mt List.map_eq_nil_iff.mp hne) C (List.forall_mem_map.mpr hC)

/-- **The gap is non-negative**: `channelMI` is the `r`-mean of the row divergences against
`rP`, so their maximum is at least `channelMI` (no domination needed). -/
theorem capacityGap_nonneg (r : List ℝ) (P : List (List ℝ)) (n m : ℕ) (hr : IsLaw r n)
    (hP : IsMat P n m) : 0 ≤ capacityGap (Real.logb 2) r P := by
  unfold capacityGap
  have h := mean_le_lmaxOf r (P.map (fun px => klRow (Real.logb 2) px (outputLaw r P))) n hr
    (by simp [hP.len])
  rw [← channelMI_eq_rows r P n m hr.len hP] at h
  linarith

/-- **Gap certificate**: for an input law `r` whose output law dominates every row (automatic
for the rows with `r_x > 0`; a row with `r_x = 0` that puts mass where `rP` has none has
infinite divergence, which `klRow` does not represent) and any competitor `r'`,
`I(r';P) ≤ I(r;P) + capacityGap r P`. So an `r` with gap `≤ tol` is within `tol` of capacity. -/
theorem capacity_gap_certificate (r : List ℝ) (P : List (List ℝ)) (n m : ℕ) (hr : IsLaw r n)
    (hP : IsChannel P n m)
    (hdom : ∀ x < n, ∀ y < m, vec (outputLaw r P) y = 0 → ent P x y = 0)
    (r' : List ℝ) (hr' : IsLaw r' n) :
    channelMI (Real.logb 2) r' P
      ≤ channelMI (Real.logb 2) r P + capacityGap (Real.logb 2) r P := by
  have h := capacity_dual_bound P n m hP (outputLaw r P) (outputLaw_isLaw r P n m hr hP) hdom
    r' hr'
  unfold capacityGap
  linarith

/-- The domination hypothesis of `capacity_gap_certificate` holds as soon as the input law has
full support. -/
theorem dominates_of_pos (r : List ℝ) (P : List (List ℝ)) (n m : ℕ) (hr : IsLaw r n)
    (hP : IsChannel P n m) (hpos : ∀ x < n, 0 < vec r x) :
    ∀ x < n, ∀ y < m, vec (outputLaw r P) y = 0 → ent P x y = 0 :=
  fun _ hx _ _ h0 => ent_eq_zero_of_outputLaw_eq_zero r P n m hr hP hx (hpos _ hx).ne' h0

/-- **Sufficient (KKT) condition**: if all row divergences against the output law of `r` are
equal to `C`, then `r` achieves `I(r;P) = C`, its gap is `0`, and `C` is the capacity: no input
law does better. All closed forms below are instances. -/
theorem capacity_kkt (r : List ℝ) (P : List (List ℝ)) (n m : ℕ) (hr : IsLaw r n)
    (hP : IsChannel P n m)
    (hdom : ∀ x < n, ∀ y < m, vec (outputLaw r P) y = 0 → ent P x y = 0)
    (C : ℝ) (hC : ∀ px ∈ P, klRow (Real.logb 2) px (outputLaw r P) = C) :
    channelMI (Real.logb 2) r P = C ∧ capacityGap (Real.logb 2) r P = 0
    ∧ ∀ r', IsLaw r' n → channelMI (Real.logb 2) r' P ≤ C := by
  have hne : P ≠ [] := List.ne_nil_of_length_pos (hP.len ▸ hr.pos_len)
  have hmi : channelMI (Real.logb 2) r P = C := by
    have hrow : ∀ x ∈ range n, vec r x *
        (P.map (fun px => klRow (Real.logb 2) px (outputLaw r P))).getD x 0 = vec r x * C :=
      fun x hx => by
        have hx' : x < P.length := hP.len ▸ mem_range.mp hx
        rw [Lemmas.ListBasics.getD_map _ P [] 0 hx', hC _ (Lemmas.ListBasics.getD_mem hx' [])]
    rw [channelMI_eq_rows r P n m hr.len hP.isMat, sum_congr rfl hrow, ← sum_mul, hr.sum_vec,
      one_mul]
  have hmax : lmaxOf (P.map (fun px => klRow (Real.logb 2) px (outputLaw r P))) = C := by
    obtain ⟨px, hpx, h⟩ := List.mem_map.mp (lmaxOf_mem _ (mt List.map_eq_nil_iff.mp hne))
    rw [← h, hC px hpx]
  refine ⟨hmi, ?_, ?_⟩
  · unfold capacityGap; rw [hmax, hmi, sub_self]
  · intro r' hr'
    exact capacity_dual_bound_le P n m hP _ (outputLaw_isLaw r P n m hr hP) hdom C
      (fun px hpx => le_of_eq (hC px hpx)) r' hr'

/-- **Noiseless channel**: on `n ≥ 1` letters the uniform input achieves `log₂ n`, with zero
gap, and no input law does better. -/
theorem noiseless_capacity (n : ℕ) (hn : 0 < n) :
    channelMI (Real.logb 2) (uniformLaw n) (identityChannel n) = Real.logb 2 n
    ∧ capacityGap (Real.logb 2) (uniformLaw n) (identityChannel n) = 0
    ∧ ∀ r', IsLaw r' n → channelMI (Real.logb 2) r' (identityChannel n) ≤ Real.logb 2 n :=
  capacity_kkt _ _ n n (uniformLaw_isLaw n hn) (identity_isChannel n)
    (dominates_of_pos _ _ n n (uniformLaw_isLaw n hn) (identity_isChannel n) fun x hx => by
      rw [vec_uniformLaw n x hx]; positivity) _
    (noiseless_rows n hn)

/-- **Useless channel**: if all rows are the same law, every input law has mutual information
`0` (so the capacity is `0`). -/
theorem useless_capacity (r : List ℝ) (P : List (List ℝ)) (p0 : List ℝ) (n m : ℕ)
    (hr : IsLaw r n) (hP : IsMat P n m) (hrows : ∀ row ∈ P, row = p0) :
    channelMI (Real.logb 2) r P = 0 := by
  have hent : ∀ x < n, ∀ y, ent P x y = vec p0 y := fun x hx y => by
    rw [ent, hrows _ (Lemmas.ListBasics.getD_mem (i := x) (hP.len ▸ hx) [])]
  have hout : ∀ y, vec (outputLaw r P) y = vec p0 y := fun y => by
    rw [vec_outputLaw r P n m hr.len hP,
      sum_congr rfl (fun x hx => by rw [hent x (mem_range.mp hx) y]), ← sum_mul, hr.sum_vec,
      one_mul]
  rw [channelMI_eq r P n m hr.len hP]
  refine sum_eq_zero fun x hx => ?_
  rw [sum_eq_zero fun y _ => by rw [hout y, hent x (mem_range.mp hx) y, term_self], mul_zero]

/-- **Binary symmetric channel** with crossover `e ∈ [0,1]`: the uniform input achieves
`1 − H₂(e)` (with `H₂(e) = entropyVals log₂ [e, 1−e]`), with zero gap, and no input law does
better. -/
theorem bsc_capacity (e : ℝ) (h0 : 0 ≤ e) (h1 : e ≤ 1) :
    channelMI (Real.logb 2) [1 / 2, 1 / 2] (bsc e) = 1 - entropyVals (Real.logb 2) [e, 1 - e]
    ∧ capacityGap (Real.logb 2) [1 / 2, 1 / 2] (bsc e) = 0
    ∧ ∀ r', IsLaw r' 2 →
        channelMI (Real.logb 2) r' (bsc e) ≤ 1 - entropyVals (Real.logb 2) [e, 1 - e] :=
  capacity_kkt _ _ 2 2 half_law (bsc_isChannel e h0 h1)
    (dominates_of_pos _ _ 2 2 half_law (bsc_isChannel e h0 h1) half_pos) _ (bsc_rows e)

/-- **Binary erasure channel** `[[1−ε, ε, 0], [0, ε, 1−ε]]`, `ε ∈ [0,1]`: the uniform input
achieves `1 − ε`, with zero gap, and no input law does better. -/
theorem bec_capacity (ε : ℝ) (h0 : 0 ≤ ε) (h1 : ε ≤ 1) :
    channelMI (Real.logb 2) [1 / 2, 1 / 2] (bec ε) = 1 - ε
    ∧ capacityGap (Real.logb 2) [1 / 2, 1 / 2] (bec ε) = 0
    ∧ ∀ r', IsLaw r' 2 → channelMI (Real.logb 2) r' (bec ε) ≤ 1 - ε :=
  capacity_kkt _ _ 2 3 half_law (bec_isChannel ε h0 h1)
    (dominates_of_pos _ _ 2 3 half_law (bec_isChannel ε h0 h1) half_pos) _ (bec_rows ε)

/-- **One Blahut–Arimoto step returns a probability vector**: positive weights `2^{…}`
normalised by their sum — entries positive, summing to one (for non-empty `r`, `P`; positivity
of `r` is what makes the exponents meaningful but is not needed for this). -/
theorem baCapacityStep_sum_one (r : List ℝ) (P : List (List ℝ)) (hr : r ≠ []) (hP : P ≠ []) :
    (baCapacityStep (Real.logb 2) (fun x => (2 : ℝ) ^ x) r P).sum = 1
    ∧ (∀ a ∈ baCapacityStep (Real.logb 2) (fun x => (2 : ℝ) ^ x) r P, 0 < a)
    ∧ (baCapacityStep (Real.logb 2) (fun x => (2 : ℝ) ^ x) r P).length
        = min r.length P.length := by
  unfold baCapacityStep
  simp only
  set w : List ℝ := List.zipWith (fun rx px => (2 : ℝ) ^ (lsum (List.zipWith
    (fun pxy qy => if pxy == 0 then 0 else pxy * Real.logb 2 (rx * pxy / qy)) px
    (outputLaw r P)))) r P with hw
  have hwpos : ∀ a ∈ w, 0 < a :=
    zipWith_pos _ (fun _ _ => Real.rpow_pos_of_pos (by norm_num) _) r P
  have hne : w ≠ [] := by
    rw [hw]; intro h
    rcases List.zipWith_eq_nil_iff.mp h with h | h
    · exact hr h
    · exact hP h
  have hS : 0 < lsum w := by
    rw [Lemmas.ListBasics.lsum_eq_sum]; exact List.sum_pos w hwpos hne
  refine ⟨?_, ?_, ?_⟩
  · rw [Lemmas.InfoReal.list_sum_map_div, List.map_id', ← Lemmas.ListBasics.lsum_eq_sum, div_self hS.ne']
  · intro a ha
    obtain ⟨b, hb, rfl⟩ := List.mem_map.mp ha
    exact div_pos (hwpos b hb) hS
  · rw [List.length_map, hw, List.length_zipWith]

/-- Non-vacuity (capacity): a concrete BSC and the uniform input satisfy every hypothesis of
`capacity_dual_bound` / `capacity_gap_certificate`; the model computes on `ℚ`. -/
example : IsLaw [(1 : ℝ) / 2, 1 / 2] 2 ∧ IsChannel (bsc (1 / 4)) 2 2
    ∧ (∀ x < 2, ∀ y < 2, vec (outputLaw [(1 : ℝ) / 2, 1 / 2] (bsc (1 / 4))) y = 0
        → ent (bsc (1 / 4)) x y = 0) :=
  ⟨half_law, bsc_quarter, dominates_of_pos _ _ 2 2 half_law bsc_quarter half_pos⟩
example : outputLaw [(1 : ℚ) / 3, 2 / 3] [[3 / 4, 1 / 4], [1 / 4, 3 / 4]] = [5 / 12, 7 / 12] := by
  decide +kernel
example : lmaxOf [(1 : ℚ) / 3, 2 / 3, 1 / 2] = 2 / 3 := by decide +kernel

/-! ## Rate–distortion -/

/-- **Input marginal is the source; rate is the mutual information of the joint**: for the
joint `Q_xy = p_x W_xy` of a source `p` and a test channel `W` (rows summing to one),
`rowSums Q = p`, the output marginal `colSums Q` is `outputLaw p W`, and
`jointMI log₂ Q = channelMI log₂ p W`. -/
theorem joint_spec (p : List ℝ) (W Q : List (List ℝ)) (n m : ℕ) (hp : p.length = n)
    (hW : IsMat W n m) (hWs : ∀ row ∈ W, row.sum = 1) (hQ : IsMat Q n m)
    (hQe : ∀ x < n, ∀ y < m, ent Q x y = vec p x * ent W x y) :
    jointMI (Real.logb 2) Q = channelMI (Real.logb 2) p W
    ∧ rowSums Q = p
    ∧ ∀ y < m, vec (colSums Q) y = vec (outputLaw p W) y :=
  ⟨jointMI_eq_channelMI p W Q n m hp hW hWs hQ hQe,
    rowSums_eq p W Q n m hp hW hWs hQ hQe, colSums_getD p W Q n m hp hW hQ hQe⟩

/-- For the explicit joint matrix `jointOf p W = [[p_x * W_xy]]`: its mutual information is
`channelMI log₂ p W` and its row sums are `p`. -/
theorem jointOf_spec (p : List ℝ) (W : List (List ℝ)) (n m : ℕ) (hp : p.length = n)
    (hW : IsMat W n m) (hWs : ∀ row ∈ W, row.sum = 1) :
    jointMI (Real.logb 2) (jointOf p W) = channelMI (Real.logb 2) p W
    ∧ rowSums (jointOf p W) = p :=
  have h := joint_spec p W _ n m hp hW hWs (jointOf_isMat p W n m hp hW)
    (fun x hx y hy => ent_jointOf p W n m hp hW x y hx hy)
  ⟨h.1, h.2.1⟩

/-- **Reported distortion**: `expDistortion Q d = Σ_x Σ_y Q_xy d_xy`. -/
theorem expDistortion_eq_def (Q d : List (List ℝ)) (n m : ℕ) (hQ : IsMat Q n m)
    (hd : IsMat d n m) :
    expDistortion Q d = ∑ x ∈ range n, ∑ y ∈ range m, ent Q x y * ent d x y :=
  expDistortion_eq Q d n m hQ hd

/-- **Csiszár / Berger lower bound**: for a source `p`, a distortion matrix `d`, a slope `β`
and positive multipliers `λ_x` with `Σ_x p_x λ_x 2^{−β d_xy} ≤ 1` for every output letter `y`,
EVERY test channel `W` (joint `Q_xy = p_x W_xy`) satisfies
`R + β D = jointMI Q + β · expDistortion Q d ≥ Σ_x p_x log₂ λ_x`.
(`β ≥ 0` is not needed for the inequality.) -/
theorem rd_dual_bound (p : List ℝ) (W d Q : List (List ℝ)) (lam : List ℝ) (β : ℝ) (n m : ℕ)
    (hp : IsLaw p n) (hW : IsChannel W n m) (hd : IsMat d n m) (hQ : IsMat Q n m)
    (hQe : ∀ x < n, ∀ y < m, ent Q x y = vec p x * ent W x y)
    (hlam : ∀ x < n, 0 < vec lam x)
    (hc : ∀ y < m, ∑ x ∈ range n, vec p x * vec lam x * (2 : ℝ) ^ (-(β * ent d x y)) ≤ 1) :
    ∑ x ∈ range n, vec p x * Real.logb 2 (vec lam x)
      ≤ jointMI (Real.logb 2) Q + β * expDistortion Q d :=
  rd_dual_fn p W d Q (vec lam) β n m hp hW hd hQ hQe hlam hc

/-- **The model's certificate is valid**: for any output law candidate `q` with positive
entries (so that `λ_x = 1/Σ_y q_y 2^{−β d_xy}` is defined and positive), `rdLowerBound`
(which divides the multipliers by `max_y c_y`) is a lower bound on `R + β D` of every test
channel. -/
theorem rd_certificate (p q : List ℝ) (W d Q : List (List ℝ)) (β : ℝ) (n m : ℕ)
    (hp : IsLaw p n) (hW : IsChannel W n m) (hd : IsMat d n m) (hQ : IsMat Q n m)
    (hQe : ∀ x < n, ∀ y < m, ent Q x y = vec p x * ent W x y)
    (hq : q.length = m) (hqpos : ∀ a ∈ q, 0 < a) :
    rdLowerBound (Real.logb 2) (fun x => (2 : ℝ) ^ x) β p q d
      ≤ jointMI (Real.logb 2) Q + β * expDistortion Q d := by
  rw [rdLowerBound_eq β p q d n m hp.len hq hd]
  have hm : 0 < m := (hW.row_law hp.pos_len).pos_len
  have hlam : ∀ x, 0 < lamOf β q d m x := fun x =>
    lamOf_pos β q d m x hm fun y hy => hqpos _ (Lemmas.ListBasics.getD_mem (i := y) (by omega) 0)
  set c : List ℝ := (List.range m).map (cOf β p q d n m) with hc
  have hcy : ∀ y < m, cOf β p q d n m y ≤ lmaxOf c := fun y hy => by
    rw [← vec_range_map m (cOf β p q d n m) y hy]
    exact getD_le_lmaxOf c y (by rw [hc, List.length_map, List.length_range]; exact hy)
  have hM : 0 < lmaxOf c := by
    refine lt_of_lt_of_le ?_ (hcy 0 hm)
    simp only [cOf, mul_assoc]
    exact weighted_pos (range n) (vec p) _ (fun x _ => hp.vec_nonneg x) hp.sum_vec
      (fun x _ => mul_pos (hlam x) (Real.rpow_pos_of_pos two_pos _))
  -- the multipliers `λ_x / max_y c_y` satisfy every column constraint
  have h := rd_dual_fn p W d Q (fun x => lamOf β q d m x / lmaxOf c) β n m hp hW hd hQ hQe
    (fun x _ => div_pos (hlam x) hM)
    (fun y hy => by
      -- the left side is `c_y / max_y c_y`
      rw [sum_congr rfl fun x _ => by rw [mul_div_assoc', div_mul_eq_mul_div], ← sum_div]
      exact (div_le_one hM).mpr (hcy y hy))
  have e : ∀ x ∈ range n, vec p x * Real.logb 2 (lamOf β q d m x / lmaxOf c)
      = vec p x * Real.logb 2 (lamOf β q d m x) - vec p x * Real.logb 2 (lmaxOf c) :=
    fun x _ => by rw [Real.logb_div (hlam x).ne' hM.ne', mul_sub]
  rwa [sum_congr rfl e, sum_sub_distrib, ← sum_mul, hp.sum_vec, one_mul] at h

/-- **Monotonicity along `β`**: if `(R₁, D₁)` minimises `R + β₁ D` and `(R₂, D₂)` minimises
`R + β₂ D` over the same set `S` of achievable pairs and `0 ≤ β₁ < β₂`, then the distortion does
not increase and the rate does not decrease. -/
theorem rd_monotone (S : Set (ℝ × ℝ)) (β₁ β₂ R₁ D₁ R₂ D₂ : ℝ) (h0 : 0 ≤ β₁) (hlt : β₁ < β₂)
    (h1 : (R₁, D₁) ∈ S) (h2 : (R₂, D₂) ∈ S)
    (hmin1 : ∀ z ∈ S, R₁ + β₁ * D₁ ≤ z.1 + β₁ * z.2)
    (hmin2 : ∀ z ∈ S, R₂ + β₂ * D₂ ≤ z.1 + β₂ * z.2) :
    D₂ ≤ D₁ ∧ R₁ ≤ R₂ := by
  have a : R₁ + β₁ * D₁ ≤ R₂ + β₁ * D₂ := hmin1 _ h2
  have b : R₂ + β₂ * D₂ ≤ R₁ + β₂ * D₁ := hmin2 _ h1
  have hD : D₂ ≤ D₁ :=
    le_of_mul_le_mul_left (by linarith : (β₂ - β₁) * D₂ ≤ (β₂ - β₁) * D₁) (sub_pos.mpr hlt)
  have := mul_le_mul_of_nonneg_left hD h0
  exact ⟨hD, by linarith⟩

/-- Non-vacuity (rate–distortion): the model on `ℚ`, and a concrete instance of the hypotheses
of `rd_dual_bound`: uniform binary source, Hamming distortion, `β = 1`, `λ = (4/3, 4/3)`
(`Σ_x p_x λ_x 2^{−d_xy} = (1/2)(4/3)(1 + 1/2) = 1`), test channel BSC(1/4). -/
example : (hammingMatrix 3 : List (List ℚ)) = [[0, 1, 1], [1, 0, 1], [1, 1, 0]] := by
  decide +kernel
example : expDistortion [[(3 : ℚ) / 8, 1 / 8], [1 / 8, 3 / 8]] (hammingMatrix 2) = 1 / 4 := by
  decide +kernel
example : rowSums [[(3 : ℚ) / 8, 1 / 8], [1 / 8, 3 / 8]] = [1 / 2, 1 / 2]
    ∧ colSums [[(3 : ℚ) / 8, 1 / 8], [1 / 8, 3 / 8]] = [1 / 2, 1 / 2] := by decide +kernel
example : Real.logb 2 (4 / 3)
    ≤ jointMI (Real.logb 2) (jointOf [1 / 2, 1 / 2] (bsc (1 / 4)))
      + 1 * expDistortion (jointOf [1 / 2, 1 / 2] (bsc (1 / 4))) (hammingMatrix 2) := by
  have hW := bsc_quarter
  have h := rd_dual_bound [1 / 2, 1 / 2] (bsc (1 / 4)) (hammingMatrix 2) _ [4 / 3, 4 / 3] 1 2 2
    half_law hW (hammingMatrix_isMat 2) (jointOf_isMat _ _ 2 2 rfl hW.isMat)
    (fun x hx y hy => ent_jointOf _ _ 2 2 rfl hW.isMat x y hx hy)
    (by
      have : (0 : ℝ) < 4 / 3 := by norm_num
      intro x hx; interval_cases x <;> exact this)
    (by
      intro y hy
      rw [sum_hamming_two _ 1 y hy, Real.rpow_neg_one]
      have : (1 : ℝ) / 2 * (4 / 3) + 1 / 2 * (4 / 3) * 2⁻¹ ≤ 1 := by norm_num
      interval_cases y <;> exact this)
  rw [sum_range_succ, sum_range_one] at h
  refine le_trans (le_of_eq ?_) h
  show _ = 1 / 2 * Real.logb 2 (4 / 3) + 1 / 2 * Real.logb 2 (4 / 3)
  ring

/-- Non-vacuity (`rd_monotone`): `S = {(1,0), (0,1)}`, `β₁ = 1/2` is minimised at `(0,1)`,
`β₂ = 2` at `(1,0)`: distortion drops from 1 to 0, rate rises from 0 to 1. -/
example : ((0 : ℝ), (1 : ℝ)) ∈ ({(1, 0), (0, 1)} : Set (ℝ × ℝ))
    ∧ ((1 : ℝ), (0 : ℝ)) ∈ ({(1, 0), (0, 1)} : Set (ℝ × ℝ))
    ∧ (∀ z ∈ ({(1, 0), (0, 1)} : Set (ℝ × ℝ)), (0 : ℝ) + 1 / 2 * 1 ≤ z.1 + 1 / 2 * z.2)
    ∧ (∀ z ∈ ({(1, 0), (0, 1)} : Set (ℝ × ℝ)), (1 : ℝ) + 2 * 0 ≤ z.1 + 2 * z.2) := by
  refine ⟨by simp, by simp, ?_, ?_⟩
  · intro z hz
    rcases hz with rfl | rfl <;> norm_num
  · intro z hz
    rcases hz with rfl | rfl <;> norm_num

/-- Non-vacuity (`rd_certificate`, `useless_capacity`): a positive candidate output law; a channel
with equal rows. -/
example : ([(1 : ℝ) / 2, 1 / 2]).length = 2 ∧ ∀ a ∈ [(1 : ℝ) / 2, 1 / 2], 0 < a := by
  refine ⟨rfl, ?_⟩
  intro a ha; simp at ha; rw [ha]; norm_num
example : IsMat [[(1 : ℝ) / 3, 2 / 3], [1 / 3, 2 / 3]] 2 2
    ∧ ∀ row ∈ [[(1 : ℝ) / 3, 2 / 3], [1 / 3, 2 / 3]], row = [1 / 3, 2 / 3] := by
  refine ⟨⟨rfl, ?_⟩, ?_⟩
  · intro row hrow; simp at hrow; rw [hrow]; rfl
  · intro row hrow
    simp only [List.mem_cons, List.not_mem_nil, or_false, or_self] at hrow
    exact hrow

/-! ## Bernoulli source under Hamming distortion: `R(D) = H₂(p) − H₂(D)` -/

/-- **Achievability**: for a Bernoulli source `(1−p, p)`, `0 < p < 1`, and `0 < D < 1/2`, the
textbook test channel `bernTest p D` (output law `(1−s, s)`, `s = (p−D)/(1−2D)`, backward channel
BSC(`D`)) has joint `jointOf [1−p, p] (bernTest p D)` with rate `H₂(p) − H₂(D)` and Hamming
distortion exactly `D`. (`H₂(x) = entropyVals log₂ [x, 1−x]`.) -/
theorem bernoulli_hamming_achieves (p D : ℝ) (hp0 : 0 < p) (hp1 : p < 1) (hD0 : 0 < D)
    (hD2 : D < 1 / 2) :
    jointMI (Real.logb 2) (jointOf [1 - p, p] (bernTest p D))
      = entropyVals (Real.logb 2) [p, 1 - p] - entropyVals (Real.logb 2) [D, 1 - D]
    ∧ expDistortion (jointOf [1 - p, p] (bernTest p D)) (hammingMatrix 2) = D := by
  have hsd : (p - D) / (1 - 2 * D) * (1 - 2 * D) = p - D :=
    div_mul_cancel₀ _ (sub_pos.mpr ((lt_div_iff₀' two_pos).mp hD2)).ne'
  rw [bernTest_joint p D hp0 hp1]
  constructor
  · apply bern_ach _ _ D (1 - p) p (sub_add_cancel 1 _) hD0 (hD2.trans one_half_lt_one) _ _
      (sub_pos.mpr hp1).ne' hp0.ne'
    · linear_combination (-1 : ℝ) * hsd
    · linear_combination hsd
  · rw [expDistortion_two]
    ring

/-- **The dual bound matches**: with slope `β = log₂((1−D)/D)` and the textbook multipliers
`λ_x = (1−D)/p_x` (which make every column constraint an equality), the Csiszár / Berger bound gives, for
EVERY test channel `W` of the Bernoulli source, `R + β·dist ≥ H₂(p) − H₂(D) + β·D`. -/
theorem bernoulli_hamming_dual (p D : ℝ) (hp0 : 0 < p) (hp1 : p < 1) (hD0 : 0 < D) (hD1 : D < 1)
    (W Q : List (List ℝ)) (hW : IsChannel W 2 2) (hQ : IsMat Q 2 2)
    (hQe : ∀ x < 2, ∀ y < 2, ent Q x y = vec [1 - p, p] x * ent W x y) :
    entropyVals (Real.logb 2) [p, 1 - p] - entropyVals (Real.logb 2) [D, 1 - D]
        + Real.logb 2 ((1 - D) / D) * D
      ≤ jointMI (Real.logb 2) Q
        + Real.logb 2 ((1 - D) / D) * expDistortion Q (hammingMatrix 2) := by
  have h1p : 0 < 1 - p := sub_pos.mpr hp1
  have h1D : 0 < 1 - D := sub_pos.mpr hD1
  have hpx : ∀ x < 2, 0 < vec [1 - p, p] x := fun x hx => by
    interval_cases x
    exacts [h1p, hp0]
  have h := rd_dual_fn [1 - p, p] W (hammingMatrix 2) Q (fun x => (1 - D) / vec [1 - p, p] x)
    (Real.logb 2 ((1 - D) / D)) 2 2 (isLaw_pair _ _ h1p.le hp0.le (sub_add_cancel 1 p)) hW
    (hammingMatrix_isMat 2) hQ hQe (fun x hx => div_pos h1D (hpx x hx))
    (fun y hy => by
      -- either column reads `(1 − D) + (1 − D) · 2^{−β} = (1 − D) + D`
      rw [sum_hamming_two _ _ y hy, mul_div_cancel₀ _ (hpx y hy).ne',
        mul_div_cancel₀ _ (hpx (1 - y) (by omega)).ne',
        two_rpow_neg_logb _ (div_pos h1D hD0), inv_div, mul_div_cancel₀ _ h1D.ne']
      exact (sub_add_cancel 1 D).le)
  rw [sum_range_succ, sum_range_one] at h
  refine le_trans (le_of_eq ?_) h
  show _ = (1 - p) * Real.logb 2 ((1 - D) / (1 - p)) + p * Real.logb 2 ((1 - D) / p)
  rw [entropy_two, entropy_two, Real.logb_div h1D.ne' h1p.ne', Real.logb_div h1D.ne' hp0.ne',
    Real.logb_div h1D.ne' hD0.ne']
  ring

/-- **`R(D) = H₂(p) − H₂(D)`** for `0 < p ≤ 1/2`, `0 < D ≤ p`, `D < 1/2`: the textbook test
channel is a channel, meets distortion `D` at rate `H₂(p) − H₂(D)`, and every test channel whose
distortion is at most `D` has rate at least `H₂(p) − H₂(D)`. -/
theorem bernoulli_hamming_rd (p D : ℝ) (hp0 : 0 < p) (hp : p ≤ 1 / 2) (hD0 : 0 < D) (hD : D ≤ p)
    (hD2 : D < 1 / 2) :
    IsChannel (bernTest p D) 2 2
    ∧ jointMI (Real.logb 2) (jointOf [1 - p, p] (bernTest p D))
        = entropyVals (Real.logb 2) [p, 1 - p] - entropyVals (Real.logb 2) [D, 1 - D]
    ∧ expDistortion (jointOf [1 - p, p] (bernTest p D)) (hammingMatrix 2) = D
    ∧ ∀ W Q : List (List ℝ), IsChannel W 2 2 → IsMat Q 2 2 →
        (∀ x < 2, ∀ y < 2, ent Q x y = vec [1 - p, p] x * ent W x y) →
        expDistortion Q (hammingMatrix 2) ≤ D →
        entropyVals (Real.logb 2) [p, 1 - p] - entropyVals (Real.logb 2) [D, 1 - D]
          ≤ jointMI (Real.logb 2) Q := by
  have hp1 : p < 1 := hp.trans_lt one_half_lt_one
  have hach := bernoulli_hamming_achieves p D hp0 hp1 hD0 hD2
  refine ⟨bernTest_isChannel p D hp0 hp hD0 hD hD2, hach.1, hach.2, ?_⟩
  intro W Q hW hQ hQe hdist
  have h := bernoulli_hamming_dual p D hp0 hp1 hD0 (hD2.trans one_half_lt_one) W Q hW hQ hQe
  have hβ : 0 ≤ Real.logb 2 ((1 - D) / D) :=
    Real.logb_nonneg one_lt_two ((one_le_div hD0).mpr (by linarith only [hD2]))
  exact le_of_add_le_add_right (h.trans (add_le_add_right (mul_le_mul_of_nonneg_left hdist hβ) _))

/-- Non-vacuity: `p = 1/2`, `D = 1/4` satisfy the hypotheses; the test channel is then BSC(1/4)
with uniform output. -/
example : (0 : ℝ) < 1 / 2 ∧ (1 : ℝ) / 2 ≤ 1 / 2 ∧ (0 : ℝ) < 1 / 4 ∧ (1 : ℝ) / 4 ≤ 1 / 2
    ∧ (1 : ℝ) / 4 < 1 / 2 := by norm_num
example : bernTest (1 / 2) (1 / 4) = bsc (1 / 4) := by
  simp only [bernTest, bsc]; norm_num

end Dit.Props.C13
