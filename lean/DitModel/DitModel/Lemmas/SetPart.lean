/-
Helper lemmas for set partitions and the functional common information (`Core/SetPart.lean`,
`setPartitions` in `Core/Info.lean`). Property theorems are in Props/C16Fci.lean.
-/
import DitModel.Core.SetPart
import DitModel.Lemmas.Table
import DitModel.Lemmas.InfoAlg
import Mathlib.Algebra.Field.Rat
import Mathlib.Algebra.Order.Ring.Rat
import Mathlib.Data.List.Perm.Basic
import Mathlib.Data.List.Nodup
import Mathlib.Data.Finset.Basic
import Mathlib.Algebra.BigOperators.Group.Finset.Basic

namespace Dit.Lemmas.SetPart
open Dit Dit.Lemmas.ListBasics

section Part
variable {β : Type} [DecidableEq β]

/-- `P` is a set partition of `l`. `Props.C16Fci.IsSetPartition` has the same four fields
(`isSetPartition_iff`). -/
structure IsPart (P : List (List β)) (l : List β) : Prop where
  nonempty : ∀ B ∈ P, B ≠ []
  nodup : ∀ B ∈ P, B.Nodup
  disjoint : P.Pairwise (fun B B' => ∀ x, x ∈ B → x ∉ B')
  cover : ∀ x, (∃ B ∈ P, x ∈ B) ↔ x ∈ l

def SameMem (B B' : List β) : Prop := ∀ x, x ∈ B ↔ x ∈ B'

/-- The same blocks up to their order and the order inside a block; `Props.C16Fci.SameBlocks`
unfolds to this proposition. -/
def Same (P Q : List (List β)) : Prop :=
  (∀ B ∈ P, ∃ B' ∈ Q, ∀ x, x ∈ B ↔ x ∈ B') ∧ (∀ B' ∈ Q, ∃ B ∈ P, ∀ x, x ∈ B ↔ x ∈ B')

/-- Blocks as finsets: `Same` is equality of sets of sets (`same_iff`). -/
def blocksF (P : List (List β)) : List (Finset β) := P.map List.toFinset

theorem same_iff {P Q : List (List β)} :
    Same P Q ↔ (blocksF P).toFinset = (blocksF Q).toFinset := by
  have key : ∀ {P Q : List (List β)}, (blocksF P).toFinset ⊆ (blocksF Q).toFinset ↔
      ∀ B ∈ P, ∃ B' ∈ Q, ∀ x, x ∈ B' ↔ x ∈ B := by
    intro P Q
    simp only [Finset.subset_iff, List.mem_toFinset, blocksF, List.mem_map, forall_exists_index,
      and_imp, forall_apply_eq_imp_iff₂, List.toFinset.ext_iff]
  simp only [Finset.Subset.antisymm_iff, key, Same, iff_comm]

theorem Same.refl (P : List (List β)) : Same P P := same_iff.mpr rfl

theorem Same.symm {P Q : List (List β)} (h : Same P Q) : Same Q P :=
  same_iff.mpr (same_iff.mp h).symm

theorem Same.trans {P Q R : List (List β)} (h : Same P Q) (h' : Same Q R) : Same P R :=
  same_iff.mpr ((same_iff.mp h).trans (same_iff.mp h'))

theorem Same.of_perm_blocksF {P Q : List (List β)} (h : (blocksF P).Perm (blocksF Q)) : Same P Q :=
  same_iff.mpr (List.toFinset_eq_of_perm _ _ h)

theorem Same.of_perm {P Q : List (List β)} (h : P.Perm Q) : Same P Q :=
  Same.of_perm_blocksF (h.map _)

theorem Same.cons {P Q : List (List β)} {B B' : List β} (hB : ∀ x, x ∈ B ↔ x ∈ B')
    (h : Same P Q) : Same (B :: P) (B' :: Q) := by
  rw [same_iff] at h ⊢
  rw [blocksF, blocksF, List.map_cons, List.map_cons, List.toFinset_cons, List.toFinset_cons,
    List.toFinset.ext_iff.mpr hB]
  exact congrArg _ h

omit [DecidableEq β] in
theorem IsPart.mem_of_mem {P : List (List β)} {l : List β} (h : IsPart P l) {B : List β}
    (hB : B ∈ P) {x : β} (hx : x ∈ B) : x ∈ l := (h.cover x).mp ⟨B, hB, hx⟩

theorem IsPart.eq_of_mem {P : List (List β)} {l : List β} (h : IsPart P l) {B B' : List β}
    (hB : B ∈ P) (hB' : B' ∈ P) {x : β} (hx : x ∈ B) (hx' : x ∈ B') : B = B' := by
  by_contra hne
  have : Std.Symm (fun B B' : List β => ∀ x, x ∈ B → x ∉ B') := ⟨fun _ _ h x hx hx' => h x hx' hx⟩
  exact h.disjoint.forall hB hB' hne x hx hx'

omit [DecidableEq β] in
theorem isPart_iff_flatten {P : List (List β)} {l : List β} (hl : l.Nodup) :
    IsPart P l ↔ (∀ B ∈ P, B ≠ []) ∧ P.flatten.Perm l := by
  constructor
  · intro h
    refine ⟨h.nonempty, (List.perm_ext_iff_of_nodup (List.nodup_flatten.mpr ⟨h.nodup, ?_⟩) hl).mpr
      fun x => List.mem_flatten.trans (h.cover x)⟩
    exact h.disjoint.imp fun hd x hx hx' => hd x hx hx'
  · rintro ⟨hne, hp⟩
    obtain ⟨hnd, hd⟩ := List.nodup_flatten.mp (hp.nodup_iff.mpr hl)
    exact ⟨hne, hnd, hd.imp fun hd x hx hx' => hd hx hx',
      fun x => List.mem_flatten.symm.trans hp.mem_iff⟩

omit [DecidableEq β] in
theorem IsPart.perm {P P' : List (List β)} {l : List β} (h : IsPart P l) (hp : P.Perm P') :
    IsPart P' l where
  nonempty := fun B hB => h.nonempty B (hp.mem_iff.mpr hB)
  nodup := fun B hB => h.nodup B (hp.mem_iff.mpr hB)
  disjoint := (hp.pairwise_iff (fun h x hx hx' => h x hx' hx)).mp h.disjoint
  cover := fun x => by simp only [← h.cover x, hp.mem_iff]

omit [DecidableEq β] in
theorem IsPart.eq_nil {P : List (List β)} (h : IsPart P []) : P = [] := by
  cases P with
  | nil => rfl
  | cons B R =>
    obtain ⟨x, hx⟩ := List.exists_mem_of_ne_nil B (h.nonempty B List.mem_cons_self)
    exact absurd (h.mem_of_mem List.mem_cons_self hx) List.not_mem_nil

omit [DecidableEq β] in
theorem IsPart.tail {A : List β} {b : List (List β)} {l R : List β} (h : IsPart (A :: b) l)
    (hR : ∀ x, x ∈ R ↔ x ∈ l ∧ x ∉ A) : IsPart b R := by
  have hd := List.pairwise_cons.mp h.disjoint
  refine ⟨fun B hB => h.nonempty B (List.mem_cons_of_mem _ hB),
    fun B hB => h.nodup B (List.mem_cons_of_mem _ hB), hd.2, fun x => ?_⟩
  rw [hR]
  constructor
  · rintro ⟨B, hB, hx⟩
    exact ⟨h.mem_of_mem (List.mem_cons_of_mem _ hB) hx, fun hxA => hd.1 B hB x hxA hx⟩
  · rintro ⟨hx, hxA⟩
    obtain ⟨B, hB, hxB⟩ := (h.cover x).mpr hx
    rcases List.mem_cons.mp hB with rfl | hB
    · exact absurd hxB hxA
    · exact ⟨B, hB, hxB⟩

theorem Same.block_of {P Q : List (List β)} {l : List β} (hQ : IsPart Q l) (h : Same P Q)
    {B B' : List β} (hB : B ∈ P) (hB' : B' ∈ Q) {x : β} (hx : x ∈ B) (hx' : x ∈ B') :
    ∀ y, y ∈ B ↔ y ∈ B' := by
  obtain ⟨B'', hB'', e⟩ := h.1 B hB
  rwa [hQ.eq_of_mem hB'' hB' ((e x).mp hx) hx'] at e

theorem IsPart.nodup_blocksF {P : List (List β)} {l : List β} (h : IsPart P l) :
    (blocksF P).Nodup := by
  refine List.pairwise_map.mpr (h.disjoint.imp_of_mem fun {B B'} hB _ hd he => ?_)
  obtain ⟨a, ha⟩ := List.exists_mem_of_ne_nil B (h.nonempty B hB)
  exact hd a ha (List.mem_toFinset.mp (he ▸ List.mem_toFinset.mpr ha))

theorem Same.perm_blocksF {P Q : List (List β)} {l l' : List β} (hP : IsPart P l)
    (hQ : IsPart Q l') (h : Same P Q) : (blocksF P).Perm (blocksF Q) :=
  (List.perm_ext_iff_of_nodup hP.nodup_blocksF hQ.nodup_blocksF).mpr
    (List.toFinset.ext_iff.mp (same_iff.mp h))

theorem Same.length_eq {P Q : List (List β)} {l l' : List β} (hP : IsPart P l)
    (hQ : IsPart Q l') (h : Same P Q) : P.length = Q.length := by
  simpa only [blocksF, List.length_map] using (h.perm_blocksF hP hQ).length_eq

theorem Same.tail {C C' : List β} {p q : List (List β)} {l l' : List β}
    (hp : IsPart (C :: p) l) (hq : IsPart (C' :: q) l') (hC : ∀ x, x ∈ C ↔ x ∈ C')
    (h : Same (C :: p) (C' :: q)) : Same p q := by
  have := h.perm_blocksF hp hq
  rw [blocksF, blocksF, List.map_cons, List.map_cons, List.toFinset.ext_iff.mpr hC] at this
  exact Same.of_perm_blocksF this.cons_inv

end Part

/-! ### `setPartitions` -/

section SetPartitions
variable {β : Type} [DecidableEq β]
open Dit.Lemmas.InfoAlg

omit [DecidableEq β] in
theorem mem_setPartitions_cons {x : β} {t : List β} {P : List (List β)} :
    P ∈ setPartitions (x :: t) ↔
      ∃ p ∈ setPartitions t, P = [x] :: p ∨ ∃ i, i < p.length ∧ P = p.modify i (x :: ·) := by
  simp only [setPartitions, List.mem_flatMap, List.mem_cons, List.mem_map, List.mem_range,
    eq_comm (b := P)]

theorem modify_perm {γ : Type} (f : γ → γ) (p : List γ) (i : Nat) (hi : i < p.length) :
    (p.modify i f).Perm (f p[i] :: p.eraseIdx i) := by
  rw [List.modify_eq_take_cons_drop hi, List.eraseIdx_eq_take_drop_succ]
  exact List.perm_middle

omit [DecidableEq β] in
theorem isPart_modify {x : β} {t : List β} {p : List (List β)} (hl : (x :: t).Nodup)
    (hp : IsPart p t) {i : Nat} (hi : i < p.length) : IsPart (p.modify i (x :: ·)) (x :: t) := by
  refine (isPart_iff_flatten hl).mpr ⟨fun B hB => ?_, (modify_cons_flatten_perm x p hi).trans
    (((isPart_iff_flatten hl.of_cons).mp hp).2.cons x)⟩
  rcases List.mem_cons.mp ((modify_perm _ p i hi).mem_iff.mp hB) with rfl | hB
  · exact List.cons_ne_nil _ _
  · exact hp.nonempty B (List.mem_of_mem_eraseIdx hB)

omit [DecidableEq β] in
theorem setPartitions_isPart {l : List β} (hl : l.Nodup) :
    ∀ P ∈ setPartitions l, IsPart P l := by
  induction l with
  | nil =>
    intro P hP
    rw [setPartitions, List.mem_singleton] at hP
    exact hP ▸ (isPart_iff_flatten hl).mpr ⟨by simp, .refl _⟩
  | cons x t ih =>
    intro P hP
    obtain ⟨p, hp, rfl | ⟨i, hi, rfl⟩⟩ := mem_setPartitions_cons.mp hP
    · have h := (isPart_iff_flatten hl.of_cons).mp (ih hl.of_cons p hp)
      exact (isPart_iff_flatten hl).mpr
        ⟨List.forall_mem_cons.mpr ⟨List.cons_ne_nil _ _, h.1⟩, h.2.cons x⟩
    · exact isPart_modify hl (ih hl.of_cons p hp) hi

theorem setPartitions_complete' {l : List β} (hl : l.Nodup) (Q : List (List β))
    (hQ : IsPart Q l) : ∃ P ∈ setPartitions l, Same P Q := by
  induction l generalizing Q with
  | nil =>
    rw [hQ.eq_nil]
    exact ⟨[], List.mem_singleton.mpr rfl, Same.refl _⟩
  | cons x t ih =>
    have ht := hl.of_cons
    obtain ⟨B0, hB0, hxB0⟩ := (hQ.cover x).mpr List.mem_cons_self
    have hperm := List.perm_cons_erase hB0
    have hB := List.perm_cons_erase hxB0
    obtain ⟨hne, hfl⟩ := (isPart_iff_flatten hl).mp (hQ.perm hperm)
    -- the blocks of `Q` without `x`, the one that held it first, rearrange `t`
    have hfl' : (B0.erase x ++ (Q.erase B0).flatten).Perm t :=
      (((hB.append_right _).symm.trans hfl)).cons_inv
    have hne' := (List.forall_mem_cons.mp hne).2
    by_cases h0 : B0.erase x = []
    · rw [h0] at hB hfl'
      obtain ⟨p, hp, hs⟩ := ih ht _ ((isPart_iff_flatten ht).mpr ⟨hne', hfl'⟩)
      exact ⟨[x] :: p, mem_setPartitions_cons.mpr ⟨p, hp, Or.inl rfl⟩,
        (Same.cons (fun _ => hB.mem_iff.symm) hs).trans (Same.of_perm hperm.symm)⟩
    · have hQt : IsPart (B0.erase x :: Q.erase B0) t :=
        (isPart_iff_flatten ht).mpr ⟨List.forall_mem_cons.mpr ⟨h0, hne'⟩, hfl'⟩
      obtain ⟨p, hp, hs⟩ := ih ht _ hQt
      obtain ⟨C, hC, hCe⟩ := hs.2 _ List.mem_cons_self
      obtain ⟨i, hi, rfl⟩ := List.getElem_of_mem hC
      have hpp := List.getElem_cons_eraseIdx_perm hi
      have hst := Same.tail ((setPartitions_isPart ht p hp).perm hpp.symm) hQt hCe
        ((Same.of_perm hpp).trans hs)
      refine ⟨_, mem_setPartitions_cons.mpr ⟨p, hp, Or.inr ⟨i, hi, rfl⟩⟩,
        (Same.of_perm (modify_perm _ p i hi)).trans
          ((Same.cons (fun y => ?_) hst).trans (Same.of_perm hperm.symm))⟩
      rw [hB.mem_iff, List.mem_cons, List.mem_cons, hCe y]

/-! Removing an item from every block (empty blocks dropped): a left inverse, up to `Same`, of each
way `setPartitions` inserts the item. -/

def rem (x : β) (P : List (List β)) : List (List β) :=
  (P.map (fun B => B.filter (fun y => decide (y ≠ x)))).filter (fun B => decide (B ≠ []))

theorem rem_sub {x : β} {P P' : List (List β)}
    (h : ∀ B ∈ P, ∃ B' ∈ P', ∀ y, y ∈ B ↔ y ∈ B') :
    ∀ D ∈ rem x P, ∃ D' ∈ rem x P', ∀ y, y ∈ D ↔ y ∈ D' := by
  simp only [rem, List.mem_filter, List.mem_map, decide_eq_true_eq]
  rintro D ⟨⟨B, hB, rfl⟩, hne⟩
  obtain ⟨B', hB', e⟩ := h B hB
  have hm : ∀ y, y ∈ B.filter (fun y => decide (y ≠ x)) ↔ y ∈ B'.filter (fun y => decide (y ≠ x)) :=
    fun y => by simp only [List.mem_filter, e y]
  obtain ⟨a, ha⟩ := List.exists_mem_of_ne_nil _ hne
  exact ⟨_, ⟨⟨B', hB', rfl⟩, List.ne_nil_of_mem ((hm a).mp ha)⟩, hm⟩

theorem Same.rem (x : β) {P P' : List (List β)} (h : Same P P') : Same (rem x P) (rem x P') := by
  refine ⟨rem_sub h.1, fun D hD => ?_⟩
  obtain ⟨D', hD', e⟩ := rem_sub h.symm.1 D hD
  exact ⟨D', hD', fun y => (e y).symm⟩

theorem rem_perm (x : β) {P P' : List (List β)} (h : P.Perm P') : (rem x P).Perm (rem x P') :=
  (h.map _).filter _

theorem rem_cons_self (x : β) (C : List β) (p : List (List β)) :
    rem x ((x :: C) :: p) = rem x (C :: p) := by
  have : (x :: C).filter (fun y => decide (y ≠ x)) = C.filter (fun y => decide (y ≠ x)) :=
    List.filter_cons_of_neg (by simp)
  rw [rem, rem, List.map_cons, List.map_cons, this]

theorem rem_clean {x : β} {t : List β} {p : List (List β)} (hx : x ∉ t) (hp : IsPart p t) :
    rem x p = p := by
  rw [rem, List.map_congr_left (g := id), List.map_id, List.filter_eq_self]
  · exact fun B hB => decide_eq_true (hp.nonempty B hB)
  · refine fun B hB => List.filter_eq_self.mpr fun y hy => decide_eq_true ?_
    rintro rfl
    exact hx (hp.mem_of_mem hB hy)

theorem same_rem_of_mem {x : β} {t : List β} {p P : List (List β)} (hx : x ∉ t) (hp : IsPart p t)
    (hP : P ∈ ([x] :: p) :: (List.range p.length).map (fun i => p.modify i (x :: ·))) :
    Same (rem x P) p := by
  rcases List.mem_cons.mp hP with rfl | hP
  · rw [rem_cons_self, show rem x ([] :: p) = rem x p from rfl, rem_clean hx hp]
    exact Same.refl p
  · obtain ⟨i, hi, rfl⟩ := List.mem_map.mp hP
    have hi := List.mem_range.mp hi
    have hpp := List.getElem_cons_eraseIdx_perm hi
    have h := rem_perm x (modify_perm (x :: ·) p i hi)
    rw [rem_cons_self, rem_clean hx (hp.perm hpp.symm)] at h
    exact Same.of_perm (h.trans hpp)

omit [DecidableEq β] in
theorem cons_getElem_mem_modify {x : β} {p : List (List β)} {i : Nat} (hi : i < p.length) :
    x :: p[i] ∈ p.modify i (x :: ·) :=
  (modify_perm (x :: ·) p i hi).mem_iff.mpr List.mem_cons_self

theorem not_same_new_modify {x : β} {t : List β} {p : List (List β)} (hl : (x :: t).Nodup)
    (hp : IsPart p t) {i : Nat} (hi : i < p.length) :
    ¬ Same ([x] :: p) (p.modify i (x :: ·)) := by
  intro h
  have e := h.block_of (isPart_modify hl hp hi) (B := [x]) List.mem_cons_self
    (cons_getElem_mem_modify hi) (x := x) List.mem_cons_self List.mem_cons_self
  have hpi : p[i] ∈ p := List.getElem_mem hi
  obtain ⟨a, ha⟩ := List.exists_mem_of_ne_nil _ (hp.nonempty _ hpi)
  have : a = x := List.mem_singleton.mp ((e a).mpr (List.mem_cons_of_mem _ ha))
  exact (List.nodup_cons.mp hl).1 (hp.mem_of_mem hpi (this ▸ ha))

theorem not_same_modify_modify {x : β} {t : List β} {p : List (List β)} (hl : (x :: t).Nodup)
    (hp : IsPart p t) {i j : Nat} (hij : i < j) (hj : j < p.length) :
    ¬ Same (p.modify i (x :: ·)) (p.modify j (x :: ·)) := by
  intro h
  have hi : i < p.length := hij.trans hj
  have e := h.block_of (isPart_modify hl hp hj) (cons_getElem_mem_modify hi)
    (cons_getElem_mem_modify hj) (x := x) List.mem_cons_self List.mem_cons_self
  have hpi : p[i] ∈ p := List.getElem_mem hi
  obtain ⟨a, ha⟩ := List.exists_mem_of_ne_nil _ (hp.nonempty _ hpi)
  rcases List.mem_cons.mp ((e a).mp (List.mem_cons_of_mem _ ha)) with hax | haj
  · exact (List.nodup_cons.mp hl).1 (hp.mem_of_mem hpi (hax ▸ ha))
  · exact List.pairwise_iff_getElem.mp hp.disjoint i j hi hj hij a ha haj

end SetPartitions

/-! ### `partitions1` (bit masks) -/

section Partitions1
variable {β : Type}

theorem splitByMask_cons (x : β) (t : List β) (i : Nat) :
    splitByMask (x :: t) i =
      if i % 2 = 0 then (x :: (splitByMask t (i / 2)).1, (splitByMask t (i / 2)).2)
      else ((splitByMask t (i / 2)).1, x :: (splitByMask t (i / 2)).2) := rfl

theorem splitByMask_perm (l : List β) (i : Nat) :
    ((splitByMask l i).1 ++ (splitByMask l i).2).Perm l := by
  induction l generalizing i with
  | nil => exact .refl _
  | cons x t ih =>
    rw [splitByMask_cons]
    split
    · exact (ih (i / 2)).cons x
    · exact List.perm_middle.trans ((ih (i / 2)).cons x)

theorem mem_splitByMask_fst_cons {x y : β} {t : List β} {i : Nat} :
    y ∈ (splitByMask (x :: t) i).1 ↔ y = x ∧ i % 2 = 0 ∨ y ∈ (splitByMask t (i / 2)).1 := by
  rw [splitByMask_cons]
  split <;> simp [*]

theorem div_two_lt_pow {i n : Nat} (hi : i < 2 ^ (n + 1)) : i / 2 < 2 ^ n :=
  (Nat.div_lt_iff_lt_mul Nat.two_pos).mpr (by rwa [Nat.pow_succ] at hi)

theorem getLast_mem_splitByMask_fst (x : β) (t : List β) {i : Nat} (hi : i < 2 ^ t.length) :
    (x :: t).getLast (List.cons_ne_nil x t) ∈ (splitByMask (x :: t) i).1 := by
  induction t generalizing x i with
  | nil =>
    obtain rfl : i = 0 := Nat.lt_one_iff.mp hi
    exact List.mem_singleton.mpr rfl
  | cons y t ih =>
    rw [List.getLast_cons_cons]
    exact mem_splitByMask_fst_cons.mpr (Or.inr (ih y (div_two_lt_pow hi)))

theorem splitByMask_snd_length_lt (x : β) (t : List β) {i : Nat} (hi : i < 2 ^ t.length) :
    (splitByMask (x :: t) i).2.length < (x :: t).length := by
  have h1 := (splitByMask_perm (x :: t) i).length_eq
  have h2 := List.length_pos_of_mem (getLast_mem_splitByMask_fst x t hi)
  rw [List.length_append] at h1
  omega

/-- The mask that sends the items satisfying `s` to the first part. -/
def maskOf (s : β → Bool) : List β → Nat
  | [] => 0
  | x :: t => (if s x then 0 else 1) + 2 * maskOf s t

theorem splitByMask_maskOf (s : β → Bool) (l : List β) :
    splitByMask l (maskOf s l) = (l.filter s, l.filter (fun y => !s y)) := by
  induction l with
  | nil => rfl
  | cons x t ih =>
    rw [splitByMask_cons, maskOf, Nat.add_mul_mod_self_left, Nat.add_mul_div_left _ _ Nat.two_pos]
    cases hs : s x <;> simp [hs, ih]

theorem bit_add_double_lt {b m k : Nat} (hb : b ≤ 1) (hm : m < k) : b + 2 * m < k * 2 :=
  calc b + 2 * m < 2 + 2 * m := Nat.add_lt_add_right (Nat.lt_succ_of_le hb) _
    _ = 2 * (m + 1) := by rw [Nat.mul_succ, Nat.add_comm]
    _ ≤ k * 2 := Nat.mul_comm k 2 ▸ Nat.mul_le_mul_left 2 hm

theorem maskOf_lt (s : β → Bool) (x : β) (t : List β)
    (h : s ((x :: t).getLast (List.cons_ne_nil x t)) = true) : maskOf s (x :: t) < 2 ^ t.length := by
  induction t generalizing x with
  | nil =>
    rw [List.getLast_singleton] at h
    rw [maskOf, maskOf, if_pos h]
    exact Nat.one_pos
  | cons y t ih =>
    have hb : (if s x then 0 else 1) ≤ 1 := by split <;> decide
    rw [maskOf, List.length_cons, Nat.pow_succ]
    exact bit_add_double_lt hb (ih y (by rwa [List.getLast_cons_cons] at h))

theorem partitions1Fuel_succ (fuel : Nat) (x : β) (t : List β) :
    partitions1Fuel (fuel + 1) (x :: t) = (List.range (2 ^ t.length)).flatMap (fun i =>
      (partitions1Fuel fuel (splitByMask (x :: t) i).2).map ((splitByMask (x :: t) i).1 :: ·)) := by
  rw [partitions1Fuel, List.length_cons, Nat.pow_succ, Nat.mul_div_cancel _ Nat.two_pos]

theorem partitions1_induction {motive : List β → Prop} (nil : motive [])
    (cons : ∀ x t, (∀ i < 2 ^ t.length, motive (splitByMask (x :: t) i).2) → motive (x :: t))
    (l : List β) : motive l := by
  induction hn : l.length using Nat.strong_induction_on generalizing l with
  | _ n ih =>
    cases l with
    | nil => exact nil
    | cons x t => exact cons x t fun i hi => ih _ (hn ▸ splitByMask_snd_length_lt x t hi) _ rfl

theorem partitions1Fuel_eq {fuel : Nat} {l : List β} (hf : l.length ≤ fuel) :
    partitions1Fuel fuel l = partitions1 l := by
  induction l using partitions1_induction generalizing fuel with
  | nil => cases fuel <;> rfl
  | cons x t ih =>
    obtain ⟨f, rfl⟩ := Nat.exists_eq_succ_of_ne_zero (Nat.ne_zero_of_lt hf)
    rw [partitions1, List.length_cons, partitions1Fuel_succ, partitions1Fuel_succ]
    refine List.flatMap_congr fun i hi => ?_
    have hlt := splitByMask_snd_length_lt x t (List.mem_range.mp hi)
    rw [ih i (List.mem_range.mp hi) (Nat.le_of_lt_succ (hlt.trans_le hf)),
      ih i (List.mem_range.mp hi) (Nat.le_of_lt_succ hlt)]

theorem partitions1_cons (x : β) (t : List β) :
    partitions1 (x :: t) = (List.range (2 ^ t.length)).flatMap (fun i =>
      (partitions1 (splitByMask (x :: t) i).2).map ((splitByMask (x :: t) i).1 :: ·)) := by
  rw [partitions1, List.length_cons, partitions1Fuel_succ]
  exact List.flatMap_congr fun i hi => by
    rw [partitions1Fuel_eq (Nat.le_of_lt_succ (splitByMask_snd_length_lt x t (List.mem_range.mp hi)))]

theorem mem_partitions1_cons {x : β} {t : List β} {P : List (List β)} :
    P ∈ partitions1 (x :: t) ↔
      ∃ i, i < 2 ^ t.length ∧ ∃ b ∈ partitions1 (splitByMask (x :: t) i).2,
        P = (splitByMask (x :: t) i).1 :: b := by
  simp only [partitions1_cons, List.mem_flatMap, List.mem_range, List.mem_map, eq_comm (b := P)]

theorem partitions1_isPart {l : List β} (hl : l.Nodup) : ∀ P ∈ partitions1 l, IsPart P l := by
  intro P hP
  refine (isPart_iff_flatten hl).mpr ?_
  clear hl
  induction l using partitions1_induction generalizing P with
  | nil =>
    rw [List.mem_singleton.mp hP]
    exact ⟨by simp, .refl _⟩
  | cons x t ih =>
    obtain ⟨i, hi, b, hb, rfl⟩ := mem_partitions1_cons.mp hP
    obtain ⟨hne, hfl⟩ := ih i hi b hb
    exact ⟨List.forall_mem_cons.mpr ⟨List.ne_nil_of_mem (getLast_mem_splitByMask_fst x t hi), hne⟩,
      (hfl.append_left _).trans (splitByMask_perm (x :: t) i)⟩

variable [DecidableEq β]

theorem partitions1_complete' {l : List β} (hl : l.Nodup) (Q : List (List β)) (hQ : IsPart Q l) :
    ∃ P ∈ partitions1 l, Same P Q := by
  induction l using partitions1_induction generalizing Q with
  | nil =>
    rw [hQ.eq_nil]
    exact ⟨[], List.mem_singleton.mpr rfl, Same.refl _⟩
  | cons x t ih =>
    -- the first block must be the block of `Q` that holds the last item
    obtain ⟨B0, hB0, hz⟩ := (hQ.cover _).mpr (List.getLast_mem (List.cons_ne_nil x t))
    have hperm := List.perm_cons_erase hB0
    have hsplit := splitByMask_maskOf (fun y => decide (y ∈ B0)) (x :: t)
    have hi := maskOf_lt (fun y => decide (y ∈ B0)) x t (decide_eq_true hz)
    obtain ⟨b, hb, hsame⟩ := ih _ hi (hsplit ▸ hl.filter fun y => !decide (y ∈ B0)) _
      ((hQ.perm hperm).tail fun y => by
        rw [hsplit, List.mem_filter, Bool.not_eq_true', decide_eq_false_iff_not])
    refine ⟨_, mem_partitions1_cons.mpr ⟨_, hi, b, hb, rfl⟩,
      (Same.cons (fun y => ?_) hsame).trans (Same.of_perm hperm.symm)⟩
    rw [hsplit, List.mem_filter, decide_eq_true_eq, and_iff_right_of_imp (hQ.mem_of_mem hB0)]

theorem splitByMask_inj (l : List β) (hl : l.Nodup) {i j : Nat} (hi : i < 2 ^ l.length)
    (hj : j < 2 ^ l.length)
    (h : ∀ y, y ∈ (splitByMask l i).1 ↔ y ∈ (splitByMask l j).1) : i = j := by
  induction l generalizing i j with
  | nil => exact (Nat.lt_one_iff.mp hi).trans (Nat.lt_one_iff.mp hj).symm
  | cons x t ih =>
    have hnd := List.nodup_cons.mp hl
    have hx : ∀ k, x ∉ (splitByMask t k).1 := fun k hx =>
      hnd.1 ((splitByMask_perm t k).mem_iff.mp (List.mem_append_left _ hx))
    simp only [mem_splitByMask_fst_cons] at h
    have h1 : i % 2 = 0 ↔ j % 2 = 0 := by simpa only [hx, or_false, true_and] using h x
    have h2 : i / 2 = j / 2 := ih hnd.2 (div_two_lt_pow hi) (div_two_lt_pow hj) fun y => by
      by_cases hy : y = x
      · rw [hy]
        exact iff_of_false (hx _) (hx _)
      · simpa only [hy, false_and, false_or] using h y
    have h3 : i % 2 = j % 2 := by
      by_cases hi2 : i % 2 = 0
      · rw [hi2, h1.mp hi2]
      · rw [Nat.mod_two_ne_zero.mp hi2, Nat.mod_two_ne_zero.mp (mt h1.mpr hi2)]
    rw [← Nat.div_add_mod i 2, ← Nat.div_add_mod j 2, h2, h3]

theorem partitions1_distinct {l : List β} (hl : l.Nodup) :
    (partitions1 l).Pairwise (fun P P' => ¬ Same P P') := by
  induction l using partitions1_induction with
  | nil => exact List.pairwise_singleton _ _
  | cons x t ih =>
    have hpart : ∀ i < 2 ^ t.length, ∀ b ∈ partitions1 (splitByMask (x :: t) i).2,
        IsPart ((splitByMask (x :: t) i).1 :: b) (x :: t) := fun i hi b hb =>
      partitions1_isPart hl _ (mem_partitions1_cons.mpr ⟨i, hi, b, hb, rfl⟩)
    rw [partitions1_cons, List.pairwise_flatMap]
    constructor
    · intro i hi
      have hi := List.mem_range.mp hi
      rw [List.pairwise_map]
      refine (ih i hi ((splitByMask_perm _ i).nodup_iff.mpr hl).of_append_right).imp_of_mem
        fun {b b'} hb hb' hne hs => hne (Same.tail (hpart i hi b hb) (hpart i hi b' hb')
          (fun _ => Iff.rfl) hs)
    · refine List.pairwise_lt_range.imp_of_mem fun {i j} hi hj hij P hP P' hP' hs => ?_
      have hi := List.mem_range.mp hi
      have hj := List.mem_range.mp hj
      obtain ⟨b, hb, rfl⟩ := List.mem_map.mp hP
      obtain ⟨b', hb', rfl⟩ := List.mem_map.mp hP'
      -- both first blocks hold the last item, so they agree, and so do the masks
      have hs' := hs.block_of (hpart j hj b' hb') List.mem_cons_self List.mem_cons_self
        (getLast_mem_splitByMask_fst x t hi) (getLast_mem_splitByMask_fst x t hj)
      exact hij.ne (splitByMask_inj (x :: t) hl (hi.trans (Nat.pow_lt_pow_succ Nat.one_lt_two))
        (hj.trans (Nat.pow_lt_pow_succ Nat.one_lt_two)) hs')

theorem length_eq_of_same {L1 L2 : List (List (List β))}
    (h1 : L1.Pairwise (fun P P' => ¬ Same P P')) (h2 : L2.Pairwise (fun P P' => ¬ Same P P'))
    (h12 : ∀ P ∈ L1, ∃ P' ∈ L2, Same P P') (h21 : ∀ P' ∈ L2, ∃ P ∈ L1, Same P P') :
    L1.length = L2.length := by
  have nd : ∀ {L : List (List (List β))}, L.Pairwise (fun P P' => ¬ Same P P') →
      (L.map fun P => (blocksF P).toFinset).Nodup :=
    fun h => List.pairwise_map.mpr (h.imp fun h he => h (same_iff.mpr he))
  have hp := (List.perm_ext_iff_of_nodup (nd h1) (nd h2)).mpr fun S => by
    simp only [List.mem_map]
    constructor
    · rintro ⟨P, hP, rfl⟩
      obtain ⟨P', hP', hs⟩ := h12 P hP
      exact ⟨P', hP', (same_iff.mp hs).symm⟩
    · rintro ⟨P', hP', rfl⟩
      obtain ⟨P, hP, hs⟩ := h21 P' hP'
      exact ⟨P, hP, same_iff.mp hs⟩
  simpa only [List.length_map] using hp.length_eq

end Partitions1

/-! ### Functional common information: feasibility of a partition of the outcomes -/

section Fci
variable {σ : Type} [DecidableEq σ] {α : Type} [Field α] [DecidableEq α]
open Dit.Lemmas.Table

omit [DecidableEq α] in
theorem mpow_eq (x : α) (n : Nat) : mpow x n = x ^ n := by
  induction n with
  | zero => exact (pow_zero x).symm
  | succ n ih => rw [mpow, ih, pow_succ']

theorem length_of_mem_blockValueTuples (B : List (List σ)) (groups : List (List Nat))
    (vs : List (List σ)) (h : vs ∈ blockValueTuples B groups) : vs.length = groups.length := by
  induction groups generalizing vs with
  | nil =>
    rw [blockValueTuples, List.mem_singleton] at h
    exact h ▸ rfl
  | cons g gs ih =>
    simp only [blockValueTuples, List.mem_flatMap, List.mem_map] at h
    obtain ⟨v, -, vs', hvs', rfl⟩ := h
    rw [List.length_cons, ih vs' hvs', List.length_cons]

theorem mem_blockValueTuples_congr {B B' : List (List σ)} (h : ∀ o, o ∈ B ↔ o ∈ B')
    (groups : List (List Nat)) (vs : List (List σ)) :
    vs ∈ blockValueTuples B groups ↔ vs ∈ blockValueTuples B' groups := by
  induction groups generalizing vs with
  | nil => rfl
  | cons g gs ih =>
    simp only [blockValueTuples, List.mem_flatMap, List.mem_map, mem_dedup, h, ih]

omit [DecidableEq α] in
/-- What one test of `blockIndep` says, with division. -/
theorem indep_test_iff (J M : α) (hM : M ≠ 0) (ms : List α) (hms : ms ≠ []) :
    J * mpow M (ms.length - 1) = ms.foldl (· * ·) 1 ↔ J / M = (ms.map (fun m => m / M)).prod := by
  have hp : (ms.map (fun m => m / M)).prod = ms.prod / M ^ ms.length := by
    clear hms
    induction ms with
    | nil => rw [List.map_nil, List.prod_nil, List.length_nil, pow_zero, div_one]
    | cons m ms ih => rw [List.map_cons, List.prod_cons, ih, div_mul_div_comm, List.prod_cons,
        List.length_cons, pow_succ']
  obtain ⟨k, hk⟩ := Nat.exists_eq_succ_of_ne_zero (List.length_pos_iff.mpr hms).ne'
  rw [hp, hk, mpow_eq, ← List.prod_eq_foldl, Nat.succ_sub_one,
    div_eq_div_iff hM (pow_ne_zero _ hM), pow_succ, ← mul_assoc, mul_left_inj' hM]

theorem blockValueTuples_singleton (o : List σ) (groups : List (List Nat)) :
    blockValueTuples [o] groups = [groups.map (fun g => project g o)] := by
  induction groups with
  | nil => rfl
  | cons g gs ih => simp [blockValueTuples, dedup, ih]

omit [DecidableEq α] in
theorem blockMass_singleton (t : Tab (List σ) α) (o : List σ) :
    blockMass t [o] = lookupD 0 t o := by
  simp [blockMass, lsum]

omit [DecidableEq α] in
theorem blockMargin_singleton (t : Tab (List σ) α) (o : List σ) (g : List Nat) :
    blockMargin t [o] g (project g o) = lookupD 0 t o := by
  simp [blockMargin, lsum]

omit [DecidableEq α] in
theorem blockJoint_singleton (t : Tab (List σ) α) (o : List σ) (groups : List (List Nat)) :
    blockJoint t [o] groups (groups.map (fun g => project g o)) = lookupD 0 t o := by
  simp [blockJoint, lsum]

theorem blockIndep_singleton (t : Tab (List σ) α) (groups : List (List Nat)) (hg : groups ≠ [])
    (o : List σ) : blockIndep t groups [o] = true := by
  have hm : (groups.zip (groups.map (fun g => project g o))).map
      (fun gv => blockMargin t [o] gv.1 gv.2) = List.replicate groups.length (lookupD 0 t o) := by
    clear hg
    induction groups with
    | nil => rfl
    | cons g gs ih =>
      rw [List.map_cons, List.zip_cons_cons, List.map_cons, ih, blockMargin_singleton,
        List.length_cons, List.replicate_succ]
  rw [blockIndep, blockValueTuples_singleton, List.all_cons, List.all_nil, Bool.and_true,
    decide_eq_true_eq, hm, ← List.prod_eq_foldl, List.prod_replicate, mpow_eq,
    blockJoint_singleton, blockMass_singleton, ← pow_succ',
    Nat.sub_add_cancel (List.length_pos_iff.mpr hg)]

theorem map_singleton_mem_setPartitions {β : Type} (l : List β) :
    l.map (fun o => [o]) ∈ setPartitions l := by
  induction l with
  | nil => exact List.mem_singleton.mpr rfl
  | cons x t ih =>
    simp only [setPartitions, List.mem_flatMap, List.mem_cons, List.map_cons]
    exact ⟨_, ih, Or.inl rfl⟩

theorem fciFeasible_finest (t : Tab (List σ) α) (groups : List (List Nat)) (hg : groups ≠ [])
    (l : List (List σ)) : fciFeasible t groups (l.map (fun o => [o])) = true := by
  rw [fciFeasible, List.all_map, List.all_eq_true]
  exact fun o _ => blockIndep_singleton t groups hg o

omit [DecidableEq α] in
theorem lsum_perm {l l' : List α} (h : l.Perm l') : lsum l = lsum l' := by
  rw [lsum_eq_sum, lsum_eq_sum, h.sum_eq]

omit [DecidableEq α] in
theorem blockMass_perm (t : Tab (List σ) α) {B B' : List (List σ)} (h : B.Perm B') :
    blockMass t B = blockMass t B' :=
  lsum_perm (h.map _)

omit [DecidableEq α] in
theorem blockMargin_perm (t : Tab (List σ) α) {B B' : List (List σ)} (h : B.Perm B') :
    blockMargin t B = blockMargin t B' :=
  funext fun _ => funext fun _ => lsum_perm ((h.filter _).map _)

omit [DecidableEq α] in
theorem blockJoint_perm (t : Tab (List σ) α) {B B' : List (List σ)} (h : B.Perm B') :
    blockJoint t B = blockJoint t B' :=
  funext fun _ => funext fun _ => lsum_perm ((h.filter _).map _)

theorem blockIndep_perm (t : Tab (List σ) α) (groups : List (List Nat)) {B B' : List (List σ)}
    (h : B.Perm B') : blockIndep t groups B = blockIndep t groups B' := by
  rw [Bool.eq_iff_iff, blockIndep, blockIndep, blockJoint_perm t h, blockMass_perm t h,
    blockMargin_perm t h, List.all_eq_true, List.all_eq_true]
  exact forall_congr' fun vs =>
    imp_congr_left (mem_blockValueTuples_congr (fun _ => h.mem_iff) groups vs)

theorem fciFeasible_congr' (t : Tab (List σ) α) (groups : List (List Nat))
    {P Q : List (List (List σ))} {l l' : List (List σ)} (hP : IsPart P l) (hQ : IsPart Q l')
    (h : Same P Q) : fciFeasible t groups P = fciFeasible t groups Q := by
  have key : ∀ {P Q : List (List (List σ))} {l l' : List (List σ)}, IsPart P l → IsPart Q l' →
      (∀ B ∈ P, ∃ B' ∈ Q, ∀ x, x ∈ B ↔ x ∈ B') → fciFeasible t groups Q = true →
      fciFeasible t groups P = true := by
    intro P Q l l' hP hQ h H
    rw [fciFeasible, List.all_eq_true] at H ⊢
    intro B hB
    obtain ⟨B', hB', e⟩ := h B hB
    rw [blockIndep_perm t groups
      ((List.perm_ext_iff_of_nodup (hP.nodup B hB) (hQ.nodup B' hB')).mpr e)]
    exact H B' hB'
  exact Bool.eq_iff_iff.mpr ⟨key hQ hP h.symm.1, key hP hQ h.1⟩

omit [DecidableEq α] in
theorem partMasses_perm (t : Tab (List σ) α) {P Q : List (List (List σ))} {l l' : List (List σ)}
    (hP : IsPart P l) (hQ : IsPart Q l') (h : Same P Q) :
    (partMasses t P).Perm (partMasses t Q) := by
  have key : ∀ {P : List (List (List σ))} {l : List (List σ)}, IsPart P l →
      partMasses t P = (blocksF P).map (fun S => ∑ o ∈ S, lookupD 0 t o) := by
    intro P l hP
    rw [partMasses, blocksF, List.map_map]
    refine List.map_congr_left (fun B hB => ?_)
    rw [blockMass, lsum_eq_sum, Function.comp, List.sum_toFinset _ (hP.nodup B hB)]
  rw [key hP, key hQ]
  exact (h.perm_blocksF hP hQ).map _

end Fci

end Dit.Lemmas.SetPart
