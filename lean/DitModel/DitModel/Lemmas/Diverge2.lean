/-
Helper lemmas for the C06 companion about `Core/Diverge2.lean`, over `ℝ` with `R.pow := Real.rpow`
(as a hypothesis on `R`) and `log2 := Real.logb 2`: the equations of `npPow`, `chernoffSum` as a
list sum of real powers, Hölder's inequality for list sums, and the aligned pairs inside
`lautumVals` as the list `lautumPairs` of `(P_X(x) P_Y(y), P_XY(x,y))`.
Property theorems are in Props/C06Chernoff.lean.
-/
import DitModel.Core.Diverge2
import DitModel.Lemmas.Diverge
import DitModel.Lemmas.Constructors
import Mathlib.Analysis.MeanInequalities

namespace Dit.Lemmas.Diverge2
open Dit Dit.Lemmas.ListBasics Dit.Lemmas.Table Dit.Lemmas.InfoReal Dit.Lemmas.Diverge Dit.Lemmas.Constructors

/-! ### NumPy's power and the Chernoff sum -/

section NpPow
variable (R : RealOps ℝ)

theorem npPow_zero_right (x : ℝ) : npPow R x 0 = 1 := by
  simp [npPow]

theorem npPow_zero_left {e : ℝ} (he : e ≠ 0) : npPow R 0 e = 0 := by
  simp [npPow, he]

theorem npPow_of_ne {x e : ℝ} (he : e ≠ 0) (hx : x ≠ 0) : npPow R x e = R.pow x e := by
  simp [npPow, he, hx]

end NpPow

section Chernoff
variable (R : RealOps ℝ) (hR : ∀ x e : ℝ, R.pow x e = x ^ e)
include hR

/-- The explicit case split of `npPow` is `Real.rpow` (for all real arguments: Lean's
`x ^ 0 = 1` and `0 ^ e = 0` for `e ≠ 0` are the two guarded cases). -/
theorem npPow_eq (x e : ℝ) : npPow R x e = x ^ e := by
  by_cases he : e = 0
  · rw [he, npPow_zero_right, Real.rpow_zero]
  · by_cases hx : x = 0
    · rw [hx, npPow_zero_left R he, Real.zero_rpow he]
    · rw [npPow_of_ne R he hx, hR]

theorem chernoffSum_eq_sum {a : ℝ} {pq : List (ℝ × ℝ)} {f : ℝ × ℝ → ℝ}
    (h : ∀ r ∈ pq, r.1 ^ a * r.2 ^ (1 - a) = f r) : chernoffSum R a pq = (pq.map f).sum := by
  rw [chernoffSum, lsum_eq_sum]
  refine congrArg List.sum (List.map_congr_left fun r hr => ?_)
  rw [npPow_eq R hR, npPow_eq R hR, h r hr]

theorem chernoffSum_eq (a : ℝ) (pq : List (ℝ × ℝ)) :
    chernoffSum R a pq = (pq.map (fun r => r.1 ^ a * r.2 ^ (1 - a))).sum :=
  chernoffSum_eq_sum R hR fun _ _ => rfl

theorem chernoffSum_nonneg (a : ℝ) (pq : List (ℝ × ℝ)) (hnn : ∀ r ∈ pq, 0 ≤ r.1 ∧ 0 ≤ r.2) :
    0 ≤ chernoffSum R a pq := by
  rw [chernoffSum_eq R hR]
  exact sum_map_nonneg _ _ fun r hr =>
    mul_nonneg (Real.rpow_nonneg (hnn r hr).1 _) (Real.rpow_nonneg (hnn r hr).2 _)

/-- Weighted AM–GM termwise: `Σ p^a q^(1−a) ≤ a Σp + (1−a) Σq`. -/
theorem chernoffSum_le (a : ℝ) (h0 : 0 ≤ a) (h1 : a ≤ 1) (pq : List (ℝ × ℝ))
    (hnn : ∀ r ∈ pq, 0 ≤ r.1 ∧ 0 ≤ r.2) :
    chernoffSum R a pq ≤ a * (pq.map Prod.fst).sum + (1 - a) * (pq.map Prod.snd).sum := by
  rw [chernoffSum_eq R hR, ← List.sum_map_mul_left, ← List.sum_map_mul_left, ← List.sum_map_add]
  exact List.sum_le_sum fun r hr =>
    Real.geom_mean_le_arith_mean2_weighted h0 (sub_nonneg.mpr h1) (hnn r hr).1 (hnn r hr).2
      (add_sub_cancel _ _)

end Chernoff

/-! ### Hölder's inequality for list sums; powers at convex combinations of exponents -/

section Holder

/-- Barycentric coordinates of `A`, `u` in their sum (also when the sum is `0`). -/
theorem exists_convex_split {A u : ℝ} (hA : 0 ≤ A) (hu : 0 ≤ u) :
    ∃ x₁ x₂, 0 ≤ x₁ ∧ 0 ≤ x₂ ∧ x₁ + x₂ = 1 ∧ A = (A + u) * x₁ ∧ u = (A + u) * x₂ := by
  rcases hu.eq_or_lt with rfl | hu'
  · exact ⟨1, 0, zero_le_one, le_rfl, add_zero 1, by rw [add_zero, mul_one], (mul_zero _).symm⟩
  · have hs : 0 < A + u := add_pos_of_nonneg_of_pos hA hu'
    exact ⟨A / (A + u), u / (A + u), div_nonneg hA hs.le, div_nonneg hu hs.le,
      by rw [← add_div, div_self hs.ne'], (mul_div_cancel₀ A hs.ne').symm,
      (mul_div_cancel₀ u hs.ne').symm⟩

/-- Two-term Hölder in barycentric coordinates: weighted AM–GM for each term, and the weights
of each side sum to one. -/
theorem holder_two_scaled {s t x₁ x₂ y₁ y₂ θ : ℝ} (hs : 0 ≤ s) (ht : 0 ≤ t) (hx₁ : 0 ≤ x₁)
    (hx₂ : 0 ≤ x₂) (hy₁ : 0 ≤ y₁) (hy₂ : 0 ≤ y₂) (hx : x₁ + x₂ = 1) (hy : y₁ + y₂ = 1)
    (h0 : 0 ≤ θ) (h1 : θ ≤ 1) :
    (s * x₁) ^ θ * (t * y₁) ^ (1 - θ) + (s * x₂) ^ θ * (t * y₂) ^ (1 - θ)
      ≤ s ^ θ * t ^ (1 - θ) := by
  have hw : 0 ≤ 1 - θ := sub_nonneg.mpr h1
  have k₁ := Real.geom_mean_le_arith_mean2_weighted h0 hw hx₁ hy₁ (add_sub_cancel _ _)
  have k₂ := Real.geom_mean_le_arith_mean2_weighted h0 hw hx₂ hy₂ (add_sub_cancel _ _)
  rw [Real.mul_rpow hs hx₁, Real.mul_rpow hs hx₂, Real.mul_rpow ht hy₁, Real.mul_rpow ht hy₂,
    mul_mul_mul_comm, mul_mul_mul_comm _ (x₂ ^ θ), ← mul_add]
  refine mul_le_of_le_one_right (mul_nonneg (Real.rpow_nonneg hs _) (Real.rpow_nonneg ht _)) ?_
  refine (add_le_add k₁ k₂).trans_eq ?_
  rw [add_add_add_comm, ← mul_add, ← mul_add, hx, hy, mul_one, mul_one, add_sub_cancel]

theorem holder_two (A B u v θ : ℝ) (hA : 0 ≤ A) (hB : 0 ≤ B) (hu : 0 ≤ u) (hv : 0 ≤ v)
    (h0 : 0 ≤ θ) (h1 : θ ≤ 1) :
    A ^ θ * B ^ (1 - θ) + u ^ θ * v ^ (1 - θ) ≤ (A + u) ^ θ * (B + v) ^ (1 - θ) := by
  obtain ⟨x₁, x₂, hx₁, hx₂, hx, eA, eu⟩ := exists_convex_split hA hu
  obtain ⟨y₁, y₂, hy₁, hy₂, hy, eB, ev⟩ := exists_convex_split hB hv
  have k := holder_two_scaled (add_nonneg hA hu) (add_nonneg hB hv) hx₁ hx₂ hy₁ hy₂ hx hy h0 h1
  rwa [← eA, ← eu, ← eB, ← ev] at k

theorem holder_list {β : Type} (l : List β) (u v : β → ℝ) (hu : ∀ x ∈ l, 0 ≤ u x)
    (hv : ∀ x ∈ l, 0 ≤ v x) (θ : ℝ) (h0 : 0 ≤ θ) (h1 : θ ≤ 1) :
    (l.map (fun x => u x ^ θ * v x ^ (1 - θ))).sum
      ≤ (l.map u).sum ^ θ * (l.map v).sum ^ (1 - θ) := by
  induction l with
  | nil =>
    simp only [List.map_nil, List.sum_nil]
    exact mul_nonneg (Real.rpow_nonneg le_rfl _) (Real.rpow_nonneg le_rfl _)
  | cons x t ih =>
    rw [List.forall_mem_cons] at hu hv
    simp only [List.map_cons, List.sum_cons]
    exact (add_le_add_right (ih hu.2 hv.2) _).trans
      (holder_two _ _ _ _ θ hu.1 hv.1 (sum_map_nonneg t u hu.2) (sum_map_nonneg t v hv.2) h0 h1)

theorem rpow_convex_comb {p x y θ : ℝ} (hp : 0 ≤ p) (hx : 0 ≤ x) (hy : 0 ≤ y) (h0 : 0 ≤ θ)
    (h1 : θ ≤ 1) : p ^ (θ * x + (1 - θ) * y) = (p ^ x) ^ θ * (p ^ y) ^ (1 - θ) := by
  rw [Real.rpow_add_of_nonneg hp (mul_nonneg h0 hx) (mul_nonneg (sub_nonneg.mpr h1) hy),
    mul_comm θ, mul_comm (1 - θ), Real.rpow_mul hp, Real.rpow_mul hp]

/-- The Chernoff term at a convex combination of exponents (NumPy conventions included: the
identity also holds at `p = 0` or `q = 0` because the exponents stay in `[0,1]`). -/
theorem chernoff_term_convex (p q a b θ : ℝ) (hp : 0 ≤ p) (hq : 0 ≤ q)
    (ha0 : 0 ≤ a) (ha1 : a ≤ 1) (hb0 : 0 ≤ b) (hb1 : b ≤ 1) (h0 : 0 ≤ θ) (h1 : θ ≤ 1) :
    p ^ (θ * a + (1 - θ) * b) * q ^ (1 - (θ * a + (1 - θ) * b))
      = (p ^ a * q ^ (1 - a)) ^ θ * (p ^ b * q ^ (1 - b)) ^ (1 - θ) := by
  have e : 1 - (θ * a + (1 - θ) * b) = θ * (1 - a) + (1 - θ) * (1 - b) := by ring
  rw [e, rpow_convex_comb hp ha0 hb0 h0 h1,
    rpow_convex_comb hq (sub_nonneg.mpr ha1) (sub_nonneg.mpr hb1) h0 h1,
    Real.mul_rpow (Real.rpow_nonneg hp _) (Real.rpow_nonneg hq _),
    Real.mul_rpow (Real.rpow_nonneg hp _) (Real.rpow_nonneg hq _), mul_mul_mul_comm]

theorem rpow_mul_rpow_one_sub (p a : ℝ) (hp : 0 ≤ p) : p ^ a * p ^ (1 - a) = p := by
  rw [← Real.rpow_add' hp (by simp), add_sub_cancel, Real.rpow_one]

end Holder

/-! ### Lautum information -/

theorem perm_flatMap_swap {β γ δ : Type} (l1 : List β) (l2 : List γ) (F : β → γ → δ) :
    (l1.flatMap (fun x => l2.map (fun y => F x y))).Perm
      (l2.flatMap (fun y => l1.map (fun x => F x y))) := by
  induction l1 with
  | nil => simp
  | cons x t ih =>
    simp only [List.flatMap_cons, List.map_cons]
    exact (ih.append_left _).trans (List.map_append_flatMap_perm l2 _ _)

section Lautum
variable {σ : Type} [DecidableEq σ]

/-- `P_X(x)`: the probability that the components `X` of the outcome are `x`. -/
noncomputable def margP (t : Tab (List σ) ℝ) (X : List Nat) (x : List σ) : ℝ :=
  wtBy (fun o => project X o = x) t

/-- `P_XY(x, y)`: the probability that the components `X` are `x` and the components `Y` are
`y`. -/
noncomputable def jointP (t : Tab (List σ) ℝ) (X Y : List Nat) (x y : List σ) : ℝ :=
  wtBy (fun o => project X o = x ∧ project Y o = y) t

/-- The label-aligned pairs `(P_X(x) P_Y(y), P_XY(x,y))` over the observed values `x` of `X` and
`y` of `Y`, in the order in which `lautumVals` lists them. -/
noncomputable def lautumPairs (t : Tab (List σ) ℝ) (X Y : List Nat) : List (ℝ × ℝ) :=
  (keys (pushforward (project X) t)).flatMap (fun x =>
    (keys (pushforward (project Y) t)).map (fun y =>
      (margP t X x * margP t Y y, jointP t X Y x y)))

theorem pushforward_row {κ κ' : Type} [DecidableEq κ] [DecidableEq κ'] (f : κ → κ')
    (t : Tab κ ℝ) {r : κ' × ℝ} (hr : r ∈ pushforward f t) :
    r.2 = wtBy (fun o => f o = r.1) t := by
  rw [← lookupD_pushforward, lookupD_eq_of_mem (keys_pushforward_nodup f t) hr 0]

variable (t : Tab (List σ) ℝ) (X Y : List Nat)

/-- The product table `P_X ⊗ P_Y` built inside `lautumVals`. -/
def lautumProd : Tab (List σ) ℝ :=
  (pushforward (project X) t).flatMap (fun rx =>
    (pushforward (project Y) t).map (fun ry => (rx.1 ++ ry.1, rx.2 * ry.2)))

/-- The joint table of the pair `(X, Y)` built inside `lautumVals`. -/
def lautumJoint : Tab (List σ) ℝ :=
  pushforward (fun o => project X o ++ project Y o) t

theorem lautumVals_unfold (log : ℝ → ℝ) :
    lautumVals log t X Y = klVals log (alignPair (lautumProd t X Y) (lautumJoint t X Y)) := rfl

theorem margP_eq_zero {x : List σ} (h : x ∉ keys (pushforward (project X) t)) :
    margP t X x = 0 :=
  wtBy_eq_zero _ t fun o ho e => h ((mem_keys_pushforward _ _ _).mpr ⟨o, ho, e⟩)

theorem jointP_eq_zero_left {x : List σ} (y : List σ)
    (h : x ∉ keys (pushforward (project X) t)) : jointP t X Y x y = 0 :=
  wtBy_eq_zero _ t fun o ho e => h ((mem_keys_pushforward _ _ _).mpr ⟨o, ho, e.1⟩)

theorem jointP_eq_zero_right (x : List σ) {y : List σ}
    (h : y ∉ keys (pushforward (project Y) t)) : jointP t X Y x y = 0 :=
  wtBy_eq_zero _ t fun o ho e => h ((mem_keys_pushforward _ _ _).mpr ⟨o, ho, e.2⟩)

theorem margP_nonneg (hnn : ∀ r ∈ t, 0 ≤ r.2) (x : List σ) : 0 ≤ margP t X x :=
  wtBy_nonneg _ t hnn

theorem jointP_nonneg (hnn : ∀ r ∈ t, 0 ≤ r.2) (x y : List σ) : 0 ≤ jointP t X Y x y :=
  wtBy_nonneg _ t hnn

theorem mem_lautumPairs {r : ℝ × ℝ} :
    r ∈ lautumPairs t X Y ↔ ∃ x ∈ keys (pushforward (project X) t),
      ∃ y ∈ keys (pushforward (project Y) t),
        r = (margP t X x * margP t Y y, jointP t X Y x y) := by
  simp only [lautumPairs, List.mem_flatMap, List.mem_map, @eq_comm _ r]

theorem lautumPairs_nonneg (hnn : ∀ r ∈ t, 0 ≤ r.2) :
    ∀ r ∈ lautumPairs t X Y, 0 ≤ r.1 ∧ 0 ≤ r.2 := by
  intro r hr
  obtain ⟨x, _, y, _, rfl⟩ := (mem_lautumPairs t X Y).mp hr
  exact ⟨mul_nonneg (margP_nonneg t X hnn x) (margP_nonneg t Y hnn y),
    jointP_nonneg t X Y hnn x y⟩

theorem klSum_lautumPairs :
    klSum (lautumPairs t X Y)
      = ((keys (pushforward (project X) t)).map (fun x =>
          ((keys (pushforward (project Y) t)).map (fun y =>
            margP t X x * margP t Y y
              * Real.logb 2 (margP t X x * margP t Y y / jointP t X Y x y))).sum)).sum := by
  rw [klSum, lautumPairs, List.map_flatMap, List.flatMap_def, List.sum_flatten, List.map_map]
  refine congrArg List.sum (List.map_congr_left fun x _ => ?_)
  rw [Function.comp_apply, List.map_map]
  rfl

theorem absCont_lautumPairs_false_iff :
    absCont (lautumPairs t X Y) = false
      ↔ ∃ x y, margP t X x ≠ 0 ∧ margP t Y y ≠ 0 ∧ jointP t X Y x y = 0 := by
  rw [absCont_false_iff]
  constructor
  · rintro ⟨r, hr, h1, h2⟩
    obtain ⟨x, _, y, _, rfl⟩ := (mem_lautumPairs t X Y).mp hr
    exact ⟨x, y, left_ne_zero_of_mul h1, right_ne_zero_of_mul h1, h2⟩
  · rintro ⟨x, y, h1, h2, h3⟩
    have hx := not_imp_comm.mp (margP_eq_zero t X) h1
    have hy := not_imp_comm.mp (margP_eq_zero t Y) h2
    exact ⟨_, (mem_lautumPairs t X Y).mpr ⟨x, hx, y, hy, rfl⟩, mul_ne_zero h1 h2, h3⟩

theorem lautumPairs_eq_iff :
    (∀ r ∈ lautumPairs t X Y, r.1 = r.2)
      ↔ ∀ x y, jointP t X Y x y = margP t X x * margP t Y y := by
  constructor
  · intro h x y
    by_cases hx : x ∈ keys (pushforward (project X) t)
    · by_cases hy : y ∈ keys (pushforward (project Y) t)
      · exact (h _ ((mem_lautumPairs t X Y).mpr ⟨x, hx, y, hy, rfl⟩)).symm
      · rw [jointP_eq_zero_right t X Y x hy, margP_eq_zero t Y hy, mul_zero]
    · rw [jointP_eq_zero_left t X Y y hx, margP_eq_zero t X hx, zero_mul]
  · intro h r hr
    obtain ⟨x, _, y, _, rfl⟩ := (mem_lautumPairs t X Y).mp hr
    exact (h x y).symm

theorem lautumPairs_swap :
    (lautumPairs t Y X).Perm (lautumPairs t X Y) := by
  refine (perm_flatMap_swap _ _ _).trans (List.Perm.of_eq ?_)
  refine List.flatMap_congr fun x _ => List.map_congr_left fun y _ => ?_
  rw [mul_comm, jointP, wtBy_congr _ _ t fun o _ => and_comm]
  rfl

theorem mem_keys_lautumProd (o : List σ) (ho : o ∈ keys t) :
    project X o ++ project Y o ∈ keys (lautumProd t X Y) := by
  rw [lautumProd, keys_pairs (fun a b : List σ => a ++ b)]
  simp only [List.mem_flatMap, List.mem_map]
  exact ⟨project X o, (mem_keys_pushforward _ _ _).mpr ⟨o, ho, rfl⟩, project Y o,
    (mem_keys_pushforward _ _ _).mpr ⟨o, ho, rfl⟩, rfl⟩

variable (hX : ∀ o ∈ keys t, ∀ i ∈ X, i < o.length)
include hX

theorem length_of_mem_margX {x : List σ} (hx : x ∈ keys (pushforward (project X) t)) :
    x.length = X.length := by
  obtain ⟨o, ho, rfl⟩ := (mem_keys_pushforward _ _ _).mp hx
  exact length_project (hX o ho)

/-- Looking the label `x ++ y` up in the joint table gives `P_XY(x, y)`: because all `X`-parts
have the same length, the concatenation determines its two parts. -/
theorem lookupD_lautumJoint {x : List σ} (hx : x ∈ keys (pushforward (project X) t))
    (y : List σ) : lookupD 0 (lautumJoint t X Y) (x ++ y) = jointP t X Y x y := by
  rw [lautumJoint, jointP, lookupD_pushforward]
  refine wtBy_congr _ _ t fun o ho => ⟨fun e => ?_, fun e => by rw [e.1, e.2]⟩
  exact List.append_inj e (by rw [length_project (hX o ho), length_of_mem_margX t X hX hx])

theorem alignPair_lautum :
    alignPair (lautumProd t X Y) (lautumJoint t X Y) = lautumPairs t X Y := by
  unfold alignPair lautumProd lautumPairs keys
  rw [List.map_flatMap, List.flatMap_map]
  refine List.flatMap_congr fun rx hrx => ?_
  rw [List.map_map, List.map_map]
  refine List.map_congr_left fun ry hry => ?_
  simp only [Function.comp_apply]
  rw [lookupD_lautumJoint t X Y hX (mem_keys_of_mem hrx), pushforward_row _ t hrx,
    pushforward_row _ t hry]
  rfl

theorem keys_lautumProd_nodup : (keys (lautumProd t X Y)).Nodup := by
  refine keys_pairs_nodup (fun a b : List σ => a ++ b) _ _ (keys_pushforward_nodup _ t)
    (keys_pushforward_nodup _ t) fun a ha a' ha' b _ b' _ e => List.append_inj e ?_
  rw [length_of_mem_margX t X hX ha, length_of_mem_margX t X hX ha']

theorem lautumPairs_sum_fst :
    ((lautumPairs t X Y).map Prod.fst).sum = mass t * mass t := by
  rw [← alignPair_lautum t X Y hX, map_fst_alignPair, ← mass_eq_sum, lautumProd,
    mass_pairs (fun a b : List σ => a ++ b), mass_pushforward, mass_pushforward]

theorem lautumPairs_sum_snd :
    ((lautumPairs t X Y).map Prod.snd).sum = mass t := by
  rw [← alignPair_lautum t X Y hX, map_snd_alignPair, ← wtBy_true,
    ← sum_map_wtBy_fibre (keys_lautumProd_nodup t X Y hX) (fun o => project X o ++ project Y o)
      (fun _ => True) t (mem_keys_lautumProd t X Y)]
  exact congrArg List.sum (List.map_congr_left fun k _ => lookupD_pushforward _ t k)

end Lautum

end Dit.Lemmas.Diverge2
