/-
Variable sets (`vnorm`, `vunion`, `vunions`, `vdiff`), sums over `accum` / `pushforward`, the
algebra of entropy combinations (`Comb.eval` is additive and homogeneous, `Comb.canon` preserves
it), conditional entropy `Hc` and the values of the multivariate measures, the purely algebraic
consequences of submodularity (`cmi ≥ 0` ⇒ `tc, dtc ≥ 0`), and that set partitions cover the groups.
No probability here: `H : VSet → R` is an arbitrary set function.
-/
import DitModel.Core.Info
import DitModel.Lemmas.ListBasics
import DitModel.Lemmas.Table
import Mathlib.Algebra.BigOperators.Group.List.Basic
import Mathlib.Algebra.Order.Field.Basic
import Mathlib.Data.List.Sort
import Mathlib.Data.Rat.Cast.Order
import Mathlib.Tactic.Ring
import Mathlib.Tactic.Linarith

namespace Dit.Lemmas.InfoAlg
open Dit Dit.Lemmas.ListBasics

/-! ### Variable sets -/

section Sets

theorem vnorm_sorted (a : List Nat) : (vnorm a).Pairwise (· < ·) := by
  have h1 : (vnorm a).Pairwise (· ≤ ·) := isort_nat_sorted _
  have h2 : (vnorm a).Nodup := (isort_perm _ _).nodup_iff.mpr (Table.nodup_dedup a)
  have := h1.and h2
  refine this.imp ?_
  intro x y hxy
  exact Nat.lt_of_le_of_ne hxy.1 hxy.2

theorem mem_vnorm (a : List Nat) (x : Nat) : x ∈ vnorm a ↔ x ∈ a := by
  unfold vnorm
  rw [mem_isort, Table.mem_dedup]

theorem mem_vunion (a b : List Nat) (x : Nat) : x ∈ vunion a b ↔ x ∈ a ∨ x ∈ b := by
  unfold vunion; rw [mem_vnorm]; simp

theorem mem_vunions (l : List (List Nat)) (x : Nat) : x ∈ vunions l ↔ ∃ g ∈ l, x ∈ g := by
  unfold vunions; rw [mem_vnorm]; simp

theorem mem_vdiff (a b : List Nat) (x : Nat) : x ∈ vdiff a b ↔ x ∈ a ∧ x ∉ b := by
  unfold vdiff; simp

theorem vsubset_iff (a b : List Nat) : vsubset a b = true ↔ ∀ x ∈ a, x ∈ b := by
  unfold vsubset; simp

theorem vnorm_congr {a b : List Nat} (h : ∀ x, x ∈ a ↔ x ∈ b) : vnorm a = vnorm b :=
  (vnorm_sorted a).eq_of_mem_iff (vnorm_sorted b) fun x => by rw [mem_vnorm, mem_vnorm]; exact h x

theorem vnorm_eq_iff {a b : List Nat} : vnorm a = vnorm b ↔ ∀ x, x ∈ a ↔ x ∈ b := by
  refine ⟨fun h x => ?_, vnorm_congr⟩
  rw [← mem_vnorm a, ← mem_vnorm b, h]

theorem vnorm_idem (a : List Nat) : vnorm (vnorm a) = vnorm a :=
  vnorm_congr (mem_vnorm a)

theorem vnorm_of_sorted {a : List Nat} (h : a.Pairwise (· < ·)) : vnorm a = a :=
  (vnorm_sorted a).eq_of_mem_iff h (mem_vnorm a)

theorem vunion_congr {a b a' b' : List Nat} (h : ∀ x, (x ∈ a ∨ x ∈ b) ↔ (x ∈ a' ∨ x ∈ b')) :
    vunion a b = vunion a' b' := by
  unfold vunion
  exact vnorm_congr (by intro x; simpa using h x)

theorem vunion_comm (a b : List Nat) : vunion a b = vunion b a :=
  vunion_congr fun _ => or_comm

theorem vunion_assoc (a b c : List Nat) : vunion (vunion a b) c = vunion a (vunion b c) :=
  vunion_congr fun x => by simp only [mem_vunion, or_assoc]

theorem vunion_self (a : List Nat) : vunion a a = vnorm a :=
  vnorm_congr fun x => by rw [List.mem_append, or_self]

theorem vunion_eq_right {X Z : List Nat} (h : ∀ x ∈ X, x ∈ Z) : vunion X Z = vnorm Z :=
  vnorm_congr fun x => by rw [List.mem_append]; exact ⟨fun hx => hx.elim (h x) id, Or.inr⟩

theorem vunion_vnorm_left (a b : List Nat) : vunion (vnorm a) b = vunion a b :=
  vunion_congr fun x => by rw [mem_vnorm]

theorem vunion_nil (a : List Nat) : vunion a [] = vnorm a := by
  unfold vunion
  rw [List.append_nil]

theorem vnorm_vunion (a b : List Nat) : vnorm (vunion a b) = vunion a b := vnorm_idem _

theorem subset_vunion_left (a b : List Nat) : ∀ x ∈ a, x ∈ vunion a b :=
  fun x hx => (mem_vunion a b x).mpr (Or.inl hx)

theorem subset_vunion_right (a b : List Nat) : ∀ x ∈ b, x ∈ vunion a b :=
  fun x hx => (mem_vunion a b x).mpr (Or.inr hx)

theorem forall_mem_vunion {p : Nat → Prop} {a b : List Nat} (ha : ∀ x ∈ a, p x)
    (hb : ∀ x ∈ b, p x) : ∀ x ∈ vunion a b, p x :=
  fun x hx => ((mem_vunion a b x).mp hx).elim (ha x) (hb x)

theorem forall_mem_vunions {p : Nat → Prop} {l : List (List Nat)} (h : ∀ g ∈ l, ∀ x ∈ g, p x) :
    ∀ x ∈ vunions l, p x := fun x hx =>
  let ⟨g, hg, hxg⟩ := (mem_vunions l x).mp hx
  h g hg x hxg

theorem vunions_nil : vunions [] = [] := rfl

theorem vunions_cons (g : VSet) (gs : List VSet) :
    vunions (g :: gs) = vunion g (vunions gs) := by
  unfold vunion vunions
  refine vnorm_congr ?_
  intro x
  simp only [List.flatten_cons, List.mem_append, mem_vnorm]

theorem vunions_congr {l l' : List VSet} (h : ∀ g, g ∈ l ↔ g ∈ l') : vunions l = vunions l' :=
  vnorm_congr fun x => by simp only [List.mem_flatten, h]

theorem vunions_perm {l l' : List VSet} (hp : l.Perm l') : vunions l = vunions l' :=
  vunions_congr fun _ => hp.mem_iff

theorem vunions_singleton (g : VSet) : vunions [g] = vnorm g := by
  unfold vunions; simp

theorem vunions_pair (X Y : VSet) : vunions [X, Y] = vunion X Y := by
  unfold vunions vunion; simp

theorem vdiff_vnorm_right (a b : List Nat) : vdiff a (vnorm b) = vdiff a b :=
  List.filter_congr fun x _ => by simp only [List.contains_eq_mem, mem_vnorm]

theorem vdiff_nil (L : List Nat) : vdiff L [] = L :=
  List.filter_eq_self.mpr fun _ _ => rfl

theorem vdiff_cons_of_not_mem {x : Nat} {S : List Nat} (L : List Nat) (h : x ∉ S) :
    vdiff (x :: L) S = x :: vdiff L S :=
  List.filter_cons_of_pos (by simpa using h)

theorem vdiff_cons_cons {x : Nat} {L : List Nat} (S : List Nat) (h : x ∉ L) :
    vdiff (x :: L) (x :: S) = vdiff L S := by
  unfold vdiff
  rw [List.filter_cons_of_neg (by simp)]
  refine List.filter_congr fun y hy => ?_
  have : (y == x) = false := beq_false_of_ne fun e => h (e ▸ hy)
  rw [List.contains_cons, this, Bool.false_or]

theorem vunion_vdiff_cancel {g U : List Nat} (hg : ∀ x ∈ g, x ∈ U) :
    vunion g (vdiff U g) = vnorm U :=
  vnorm_congr fun x => by
    rw [List.mem_append, mem_vdiff]
    constructor
    · rintro (h | h)
      · exact hg x h
      · exact h.1
    · intro hU
      by_cases hx : x ∈ g
      · exact Or.inl hx
      · exact Or.inr ⟨hU, hx⟩

theorem vunion_vdiff_of_inter_subset {X Y Z : List Nat} (h : ∀ v, v ∈ X → v ∈ Y → v ∈ Z) :
    vunion (vdiff X Y) Z = vunion X Z :=
  vunion_congr fun v => by
    rw [mem_vdiff]
    constructor
    · rintro (hx | hz)
      · exact Or.inl hx.1
      · exact Or.inr hz
    · rintro (hx | hz)
      · by_cases hy : v ∈ Y
        · exact Or.inr (h v hx hy)
        · exact Or.inl ⟨hx, hy⟩
      · exact Or.inr hz

/-- The set fact behind dit's shortcut `X ⊆ Z ⇒ H(X|Z) = 0`. -/
theorem vunion_of_subset {X Z : List Nat} (h : vsubset (vnorm X) (vnorm Z) = true) :
    vunion X Z = vnorm Z :=
  vunion_eq_right fun x hx =>
    (mem_vnorm Z x).mp ((vsubset_iff _ _).mp h x ((mem_vnorm X x).mpr hx))

end Sets

/-! ### Sums over `accum` / `pushforward` -/

section Push
variable {κ κ' α M : Type} [DecidableEq κ] [Add α] [AddCommMonoid M]

theorem sum_accum (φ : κ → α → M) (hφ : ∀ k v v', φ k (v + v') = φ k v + φ k v')
    (acc : Tab κ α) (k : κ) (v : α) :
    ((accum acc k v).map (fun r => φ r.1 r.2)).sum
      = (acc.map (fun r => φ r.1 r.2)).sum + φ k v := by
  induction acc with
  | nil => simp [accum]
  | cons r t ih =>
    obtain ⟨k', v'⟩ := r
    unfold accum
    split
    · rename_i h
      subst h
      simp [hφ, add_assoc, add_comm]
    · simp [ih, add_assoc]

theorem sum_foldl_accum (φ : κ → α → M) (hφ : ∀ k v v', φ k (v + v') = φ k v + φ k v')
    (f : κ' → κ) (t : Tab κ' α) (acc : Tab κ α) :
    ((t.foldl (fun acc r => accum acc (f r.1) r.2) acc).map (fun r => φ r.1 r.2)).sum
      = (acc.map (fun r => φ r.1 r.2)).sum + (t.map (fun r => φ (f r.1) r.2)).sum := by
  induction t generalizing acc with
  | nil => simp
  | cons r t ih =>
    simp only [List.foldl_cons, List.map_cons, List.sum_cons]
    rw [ih, sum_accum φ hφ, add_assoc]

theorem sum_pushforward (φ : κ → α → M) (hφ : ∀ k v v', φ k (v + v') = φ k v + φ k v')
    (f : κ' → κ) (t : Tab κ' α) :
    ((pushforward f t).map (fun r => φ r.1 r.2)).sum = (t.map (fun r => φ (f r.1) r.2)).sum := by
  unfold pushforward
  rw [sum_foldl_accum φ hφ]
  simp

end Push

theorem sum_map_filter_of_zero {β M : Type} [AddCommMonoid M] (p : β → Bool) (g : β → M)
    (l : List β) (h : ∀ x ∈ l, p x = false → g x = 0) :
    ((l.filter p).map g).sum = (l.map g).sum := by
  induction l with
  | nil => simp
  | cons x t ih =>
    have ht : ∀ y ∈ t, p y = false → g y = 0 := fun y hy => h y (List.mem_cons_of_mem _ hy)
    by_cases hp : p x = true
    · simp [hp, ih ht]
    · have hp' : p x = false := by simpa using hp
      simp [hp', ih ht, h x List.mem_cons_self hp']

/-! ### `Comb.eval` -/

section Eval
variable {R : Type} [CommRing R] (cast : ℚ →+* R) (H : VSet → R)

theorem eval_eq_sum (c : Comb) :
    Comb.eval cast H c = (c.map (fun r => cast r.1 * H r.2)).sum := lsum_eq_sum _

@[simp] theorem eval_nil : Comb.eval cast H [] = 0 := by simp [eval_eq_sum]

@[simp] theorem eval_cons (r : Rat × VSet) (c : Comb) :
    Comb.eval cast H (r :: c) = cast r.1 * H r.2 + Comb.eval cast H c := by
  simp [eval_eq_sum]

@[simp] theorem eval_append (a b : Comb) :
    Comb.eval cast H (a ++ b) = Comb.eval cast H a + Comb.eval cast H b := by
  simp [eval_eq_sum]

theorem eval_add (a b : Comb) :
    Comb.eval cast H (Comb.add a b) = Comb.eval cast H a + Comb.eval cast H b :=
  eval_append cast H a b

@[simp] theorem eval_scale (q : Rat) (c : Comb) :
    Comb.eval cast H (Comb.scale q c) = cast q * Comb.eval cast H c := by
  induction c with
  | nil => simp [Comb.scale]
  | cons r t ih =>
    have : Comb.scale q (r :: t) = (q * r.1, r.2) :: Comb.scale q t := rfl
    rw [this, eval_cons, eval_cons, ih]
    simp only [map_mul]
    ring

@[simp] theorem eval_sum (l : List Comb) :
    Comb.eval cast H (Comb.sum l) = (l.map (Comb.eval cast H)).sum := by
  induction l with
  | nil => simp [Comb.sum]
  | cons c t ih =>
    have : Comb.sum (c :: t) = c ++ Comb.sum t := rfl
    rw [this, eval_append, ih]; simp

theorem eval_sum_map {β : Type} (f : β → Comb) (l : List β) :
    Comb.eval cast H (Comb.sum (l.map f)) = (l.map fun b => Comb.eval cast H (f b)).sum := by
  rw [eval_sum, List.map_map]; rfl

theorem canon_eval (h0 : H [] = 0) (hn : ∀ s, H s = H (vnorm s)) (c : Comb) :
    Comb.eval cast H (Comb.canon c) = Comb.eval cast H c := by
  unfold Comb.canon
  simp only [eval_eq_sum, List.map_map]
  rw [((isort_perm _ _).map _).sum_eq]
  have hcomp : ((fun r : Rat × VSet => cast r.1 * H r.2) ∘ fun r : VSet × Rat => (r.2, r.1))
      = fun r : VSet × Rat => cast r.2 * H r.1 := rfl
  rw [hcomp, sum_map_filter_of_zero]
  · rw [sum_pushforward (fun (s : VSet) (q : Rat) => cast q * H s)
      (by intro k v v'; simp [add_mul]) (fun s => s)]
    simp only [List.map_map]
    congr 1
    apply List.map_congr_left
    intro r _
    simp [← hn]
  · intro r _ hr
    simp only [Bool.and_eq_false_iff, decide_eq_false_iff_not, not_not, Bool.not_eq_false',
      List.isEmpty_iff] at hr
    rcases hr with hr | hr
    · simp [hr]
    · simp [hr, h0]

end Eval

/-! ### Conditional entropy `Hc`, and the values of the multivariate measures -/

section Defs
variable {R : Type} [CommRing R] (cast : ℚ →+* R) (H : VSet → R)

/-- Conditional entropy `H(X|Z) = H(X ∪ Z) − H(Z)` of a set function. -/
def Hc (X Z : VSet) : R := H (vunion X Z) - H (vnorm Z)

theorem Hc_congr {X X' Z Z' : VSet} (hZ : ∀ x, x ∈ Z ↔ x ∈ Z')
    (hX : ∀ x, (x ∈ X ∨ x ∈ Z) ↔ (x ∈ X' ∨ x ∈ Z')) : Hc H X Z = Hc H X' Z' := by
  unfold Hc
  rw [vunion_congr hX, vnorm_congr hZ]

theorem Hc_nil (Z : VSet) : Hc H [] Z = 0 := by
  unfold Hc vunion; simp

theorem Hc_vnorm_left (X Z : VSet) : Hc H (vnorm X) Z = Hc H X Z :=
  Hc_congr H (fun _ => Iff.rfl) (by intro x; rw [mem_vnorm])

theorem Hc_vnorm_right (X Z : VSet) : Hc H X (vnorm Z) = Hc H X Z :=
  Hc_congr H (mem_vnorm Z) (by intro x; rw [mem_vnorm])

theorem Hc_union_nil (X Z : VSet) : Hc H X (vunion Z []) = Hc H X Z := by
  rw [vunion_nil, Hc_vnorm_right]

theorem Hc_sorted_nil {X : VSet} (hX : X.Pairwise (· < ·)) : Hc H X [] = H X - H [] := by
  unfold Hc
  rw [vunion_nil, vnorm_of_sorted hX]
  rfl

theorem Hc_chain (X Y Z : VSet) :
    Hc H (vunion X Y) Z = Hc H X Z + Hc H Y (vunion X Z) := by
  unfold Hc
  rw [vunion_comm X Y, vunion_assoc, vnorm_vunion]
  ring

theorem Hc_append (X Y Z : VSet) : Hc H (X ++ Y) Z = Hc H Y Z + Hc H X (Y ++ Z) := by
  unfold Hc vunion
  rw [List.append_assoc]
  ring

theorem Hc_exchange (X Y Z : VSet) :
    Hc H X Z + Hc H Y (vunion X Z) = Hc H Y Z + Hc H X (vunion Y Z) := by
  rw [← Hc_chain, ← Hc_chain, vunion_comm]

theorem Hc_agree {H H' : VSet → R} {n : Nat}
    (h : ∀ S : VSet, (∀ v ∈ S, v < n) → H S = H' S) {X Z : VSet}
    (hX : ∀ v ∈ X, v < n) (hZ : ∀ v ∈ Z, v < n) : Hc H X Z = Hc H' X Z := by
  unfold Hc
  rw [h _ (forall_mem_vunion hX hZ), h _ fun v hv => hZ v ((mem_vnorm Z v).mp hv)]

theorem Hc_vdiff {g U : VSet} (hg : ∀ x ∈ g, x ∈ U) (Z : VSet) :
    Hc H g (vunion (vdiff U (vnorm g)) Z) = H (vunion U Z) - H (vunion (vdiff U g) Z) := by
  unfold Hc
  rw [vdiff_vnorm_right, ← vunion_assoc, vunion_vdiff_cancel hg, vunion_vnorm_left, vnorm_vunion]

/-- `condH` evaluates to `H(X ∪ Z) − H(Z)`, including dit's shortcut case `X ⊆ Z`
(where `vunion X Z = vnorm Z`, so the difference is 0). -/
@[simp] theorem eval_condH (X Z : VSet) : Comb.eval cast H (condH X Z) = Hc H X Z := by
  unfold condH Hc
  split
  · rename_i h
    rw [vunion_of_subset h, eval_nil, sub_self]
  · rw [eval_cons, eval_cons, eval_nil, map_one, map_neg, map_one]; ring

theorem eval_cmiC (X Y Z : VSet) :
    Comb.eval cast H (cmiC X Y Z) = Hc H X Z + Hc H Y Z - Hc H (vunion X Y) Z := by
  simp only [cmiC, eval_append, eval_scale, eval_condH, map_neg, map_one]; ring

theorem eval_tcC (groups : List VSet) (Z : VSet) :
    Comb.eval cast H (tcC groups Z)
      = (groups.map (fun g => Hc H g Z)).sum - Hc H (vunions groups) Z := by
  simp only [tcC, eval_append, eval_sum_map, eval_scale, eval_condH, map_neg, map_one]; ring

theorem eval_residualC (groups : List VSet) (Z : VSet) :
    Comb.eval cast H (residualC groups Z)
      = (groups.map (fun g =>
          Hc H g (vunion (vdiff (vunions groups) (vnorm g)) Z))).sum := by
  simp only [residualC, eval_sum_map, eval_condH]

theorem eval_dtcC (groups : List VSet) (Z : VSet) :
    Comb.eval cast H (dtcC groups Z)
      = Hc H (vunions groups) Z - Comb.eval cast H (residualC groups Z) := by
  simp only [dtcC, eval_append, eval_scale, eval_condH, map_neg, map_one]; ring

theorem eval_oinfoC (groups : List VSet) (Z : VSet) :
    Comb.eval cast H (oinfoC groups Z)
      = Comb.eval cast H (tcC groups Z) - Comb.eval cast H (dtcC groups Z) := by
  simp only [oinfoC, eval_append, eval_scale, map_neg, map_one]; ring

theorem eval_interactionC (groups : List VSet) (Z : VSet) :
    Comb.eval cast H (interactionC groups Z)
      = (-1) ^ groups.length * Comb.eval cast H (coinfoC groups Z) := by
  unfold interactionC
  rw [eval_scale]
  congr 1
  rcases Nat.even_or_odd groups.length with h | h
  · rw [if_pos (Nat.even_iff.mp h), h.neg_one_pow, map_one]
  · rw [if_neg (by rw [Nat.odd_iff.mp h]; decide), h.neg_one_pow, map_neg, map_one]

theorem coinfoC_nil (Z : VSet) : coinfoC [] Z = [] := rfl

theorem eval_coinfoC (groups : List VSet) (Z : VSet) :
    Comb.eval cast H (coinfoC groups Z)
      = ((sublists groups).map (fun Xs =>
          (if Xs.length % 2 = 1 then (1 : R) else -1) * Hc H (vunions Xs) Z)).sum := by
  simp only [coinfoC, eval_sum_map, eval_scale, eval_condH, apply_ite cast, map_neg, map_one]

theorem eval_caeklCand (groups : List VSet) (Z : VSet) (P : List (List VSet)) :
    Comb.eval cast H (caeklCand groups Z P)
      = cast (1 / ((P.length : Rat) - 1))
        * ((P.map (fun B => Hc H (vunions B) Z)).sum - Hc H (vunions groups) Z) := by
  simp only [caeklCand, eval_append, eval_sum_map, eval_scale, eval_condH, map_neg, map_one]; ring

theorem mem_caeklCands_iff {groups : List VSet} {Z : VSet} {c : Comb} :
    c ∈ caeklCands groups Z
      ↔ ∃ P ∈ setPartitions groups, 1 < P.length ∧ caeklCand groups Z P = c := by
  simp only [caeklCands, List.mem_map, List.mem_filter, decide_eq_true_eq, and_assoc]

theorem combos_one {β : Type} (l : List β) : combos 1 l = l.map (fun x => [x]) := by
  induction l with
  | nil => rfl
  | cons x t ih => simp [combos, ih]

theorem eval_cohesionC (k : Nat) (groups : List VSet) (Z : VSet) :
    Comb.eval cast H (cohesionC k groups Z)
      = ((combos k groups).map (fun S => Hc H (vunions S) Z)).sum
        - (choose (groups.length - 1) (k - 1) : R) * Hc H (vunions groups) Z := by
  simp only [cohesionC, eval_append, eval_sum_map, eval_scale, eval_condH, map_neg, map_natCast]
  ring

theorem eval_tseC (groups : List VSet) (Z : VSet) :
    Comb.eval cast H (tseC groups Z)
      = ((List.range groups.length).tail.map (fun k =>
          cast (1 / (choose groups.length k : Rat))
            * ((combos k groups).map (fun S => Hc H (vunions S) Z)).sum
          + cast (-(k : Rat) / (groups.length : Rat)) * Hc H (vunions groups) Z)).sum := by
  simp only [tseC, eval_sum_map, eval_append, eval_scale, eval_condH]

end Defs

/-! ### Consequences of submodularity (`I(X:Y|Z) ≥ 0`) for an arbitrary set function -/

section Order
variable {R : Type} [CommRing R] [LinearOrder R] [IsStrictOrderedRing R] (H : VSet → R)

/-- `I(X:Y|Z) ≥ 0` for all `X Y Z` (conditional submodularity of `H`). -/
def Submod : Prop := ∀ X Y Z : VSet, 0 ≤ Hc H X Z + Hc H Y Z - Hc H (vunion X Y) Z

variable {H}

omit [IsStrictOrderedRing R] in
theorem Hc_nonneg (h : Submod H) (X Z : VSet) : 0 ≤ Hc H X Z := by
  have h1 := h X X Z
  rwa [vunion_self, Hc_vnorm_left, add_sub_cancel_right] at h1

theorem Hc_anti (h : Submod H) (X Z Z' : VSet) (hsub : ∀ x ∈ Z, x ∈ Z') :
    Hc H X Z' ≤ Hc H X Z := by
  -- `0 ≤ I(X:Z'|Z) = H(X|Z) + H(Z'|Z) − H(Z'∪X|Z)`, and `H(Z'∪X|Z) = H(Z'|Z) + H(X|Z'∪Z)`
  have h1 := h X Z' Z
  rw [vunion_comm X Z', Hc_chain, vunion_comm Z' Z, vunion_eq_right hsub, Hc_vnorm_right] at h1
  exact sub_nonneg.mp (h1.trans_eq (by ring))

theorem Hc_zero_mono (h : Submod H) {V g B : VSet} (h0 : Hc H V g = 0)
    (hsub : ∀ x ∈ g, x ∈ B) : Hc H V B = 0 :=
  le_antisymm (h0 ▸ Hc_anti h V g B hsub) (Hc_nonneg h V B)

theorem Hc_cond_function (h : Submod H) {T Z : VSet} (h0 : Hc H T Z = 0) (X : VSet) :
    Hc H X (vunion T Z) = Hc H X Z := by
  have e := Hc_exchange H X T Z
  rw [h0, Hc_zero_mono h h0 (subset_vunion_right X Z), add_zero, zero_add] at e
  exact e.symm

/-- Total correlation is a sum of conditional mutual informations, hence non-negative. -/
theorem tc_sum_nonneg (h : Submod H) (groups : List VSet) (Z : VSet) :
    0 ≤ (groups.map (fun g => Hc H g Z)).sum - Hc H (vunions groups) Z := by
  induction groups with
  | nil => simp [vunions_nil, Hc_nil]
  | cons g gs ih =>
    rw [vunions_cons, List.map_cons, List.sum_cons]
    exact (add_nonneg (h g (vunions gs) Z) ih).trans_eq (by ring)

def VDisj (a b : VSet) : Prop := ∀ x, x ∈ a → x ∉ b

/-- Core of `dtc ≥ 0`: for pairwise disjoint groups contained in `U`, and a conditioning set `W`
contained in every `(U ∖ g) ∪ Z`, the residual terms are bounded by `H(⋃gs | W)`. -/
theorem residual_le (h : Submod H) (U Z : VSet) (gs : List VSet) (W : VSet)
    (hdis : gs.Pairwise VDisj) (hU : ∀ g ∈ gs, ∀ x ∈ g, x ∈ U)
    (hW : ∀ g ∈ gs, ∀ x ∈ W, x ∈ Z ∨ (x ∈ U ∧ x ∉ g)) :
    (gs.map (fun g => Hc H g (vunion (vdiff U (vnorm g)) Z))).sum ≤ Hc H (vunions gs) W := by
  induction gs generalizing W with
  | nil => simp [vunions_nil, Hc_nil]
  | cons g gs ih =>
    rw [List.map_cons, List.sum_cons, vunions_cons, Hc_chain]
    have hd := List.pairwise_cons.mp hdis
    have h1 : Hc H g (vunion (vdiff U (vnorm g)) Z) ≤ Hc H g W := by
      apply Hc_anti h
      intro x hx
      rw [mem_vunion, mem_vdiff, mem_vnorm]
      rcases hW g List.mem_cons_self x hx with hz | hz
      · exact Or.inr hz
      · exact Or.inl hz
    have h2 := ih (vunion g W) hd.2 (fun g' hg' => hU g' (List.mem_cons_of_mem _ hg'))
      (by
        intro g' hg' x hx
        rcases (mem_vunion _ _ _).mp hx with hx | hx
        · exact Or.inr ⟨hU g List.mem_cons_self x hx, hd.1 g' hg' x hx⟩
        · exact hW g' (List.mem_cons_of_mem _ hg') x hx)
    exact add_le_add h1 h2

theorem dtc_sum_nonneg (h : Submod H) (groups : List VSet) (Z : VSet)
    (hdis : groups.Pairwise VDisj) :
    0 ≤ Hc H (vunions groups) Z
        - (groups.map (fun g =>
            Hc H g (vunion (vdiff (vunions groups) (vnorm g)) Z))).sum := by
  exact sub_nonneg.mpr <| residual_le h (vunions groups) Z groups Z hdis
    (fun g hg x hx => (mem_vunions _ _).mpr ⟨g, hg, hx⟩)
    (fun _ _ x hx => Or.inl hx)

theorem residual_sum_nonneg (h : Submod H) (U : VSet) (groups : List VSet) (Z : VSet) :
    0 ≤ (groups.map (fun g => Hc H g (vunion (vdiff U (vnorm g)) Z))).sum := by
  induction groups with
  | nil => simp
  | cons g gs ih =>
    rw [List.map_cons, List.sum_cons]
    exact add_nonneg (Hc_nonneg h g _) ih

end Order

/-! ### Set partitions cover the groups -/

theorem modify_cons_flatten_perm {β : Type} (x : β) (p : List (List β)) {i : Nat}
    (hi : i < p.length) : (p.modify i (x :: ·)).flatten.Perm (x :: p.flatten) := by
  induction p generalizing i with
  | nil => exact absurd hi (Nat.not_lt_zero _)
  | cons a t ih =>
    cases i with
    | zero => exact List.Perm.refl _
    | succ i =>
      rw [List.modify_succ_cons, List.flatten_cons, List.flatten_cons]
      exact ((ih (Nat.lt_of_succ_lt_succ hi)).append_left a).trans List.perm_middle

theorem setPartitions_flatten_perm {β : Type} (l : List β) (P : List (List β))
    (hP : P ∈ setPartitions l) : P.flatten.Perm l := by
  induction l generalizing P with
  | nil =>
    rw [setPartitions, List.mem_singleton] at hP
    subst hP; exact List.Perm.refl _
  | cons x t ih =>
    simp only [setPartitions, List.mem_flatMap, List.mem_cons, List.mem_map, List.mem_range] at hP
    obtain ⟨p, hp, rfl | ⟨i, hi, rfl⟩⟩ := hP
    · exact (ih p hp).cons x
    · exact (modify_cons_flatten_perm x p hi).trans ((ih p hp).cons x)

theorem setPartitions_cover {β : Type} (l : List β) (P : List (List β))
    (hP : P ∈ setPartitions l) (g : β) : (∃ B ∈ P, g ∈ B) ↔ g ∈ l :=
  List.mem_flatten.symm.trans (setPartitions_flatten_perm l P hP).mem_iff

theorem vunions_partition (groups : List VSet) (P : List (List VSet))
    (hP : P ∈ setPartitions groups) : vunions (P.map vunions) = vunions groups := by
  unfold vunions
  refine vnorm_congr ?_
  intro x
  simp only [List.mem_flatten, List.mem_map, ← vunions.eq_1]
  constructor
  · rintro ⟨_, ⟨B, hB, rfl⟩, hx⟩
    obtain ⟨g, hg, hxg⟩ := (mem_vunions _ _).mp hx
    exact ⟨g, (setPartitions_cover groups P hP g).mp ⟨B, hB, hg⟩, hxg⟩
  · rintro ⟨g, hg, hxg⟩
    obtain ⟨B, hB, hgB⟩ := (setPartitions_cover groups P hP g).mpr hg
    exact ⟨vunions B, ⟨B, hB, rfl⟩, (mem_vunions _ _).mpr ⟨g, hgB, hxg⟩⟩

end Dit.Lemmas.InfoAlg
