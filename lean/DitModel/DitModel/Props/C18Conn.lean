/-
C18 (connected-information part) — "the connected informations are non-negative and sum, from
order 2, to the total correlation".

`ConnectedInformations._compute` (dit/profiles/schneidman.py) is `-np.diff` of the entropies of
the chain returned by `marginal_maxent_dists`; the model is `connectedProfile H chain
= negDiffs (chain.map H)` (Core/Connected.lean). dit's optimiser is not modelled (C14): the
statements below are about every chain that is what `marginal_maxent_dists` is meant to return,
`IsMaxentChain t as chain` (Lemmas/Connected.lean): `n + 1` tables on the product space of the
`n` alphabets `as`, the first uniform, the `k`-th (`1 ≤ k ≤ n`) with the `k`-way marginals of `t`
(`Feasible t space (kWayGroups n k)` of C14) and of maximal entropy among the tables with those
marginals (`∀ p, Feasible … p → H p ≤ H P_k`, the way C14 states optimality). The entropy
functional is C14's, `Hbits p = entropyVals (Real.logb 2) (vals p)`.
Helper lemmas: Lemmas/Connected.lean.
-/
import DitModel.Lemmas.Connected

namespace Dit.Props.C18Conn
open Dit Dit.Lemmas.Table Dit.Lemmas.Maxent Dit.Lemmas.Connected

/-! ## `-np.diff` -/

section NegDiffs
variable {α : Type} [AddCommGroup α]

/-- **`-np.diff`, length**: one entry fewer than the list (none for lists of length ≤ 1). -/
theorem negDiffs_length (l : List α) : (negDiffs l).length = l.length - 1 :=
  Lemmas.Connected.negDiffs_length l

/-- **`-np.diff`, entries**: entry `k` is `h_k − h_{k+1}`. -/
theorem negDiffs_getElem (l : List α) (k : Nat) (h : k + 1 < l.length) :
    (negDiffs l)[k]'(by rw [Lemmas.Connected.negDiffs_length]; omega) = l[k] - l[k + 1] := by
  simp only [negDiffs_eq_zipWith, List.getElem_zipWith, List.getElem_tail]

/-- **`-np.diff`, telescoping**: the entries sum to the first minus the last element. -/
theorem negDiffs_sum (l : List α) (hne : l ≠ []) :
    (negDiffs l).sum = l.head hne - l.getLast hne := by
  induction l with
  | nil => exact absurd rfl hne
  | cons a t ih =>
    cases t with
    | nil => exact (sub_self a).symm
    | cons b t =>
      rw [negDiffs_cons_cons, List.sum_cons, ih (List.cons_ne_nil b t)]
      exact sub_add_sub_cancel a b _

/-- **`-np.diff`, telescoping from index `j`**: the entries from index `j` on sum to
`h_j − last`. -/
theorem negDiffs_sum_drop (l : List α) (j : Nat) (hj : j < l.length) :
    ((negDiffs l).drop j).sum = l[j] - l.getLast (List.ne_nil_of_length_pos (by omega)) := by
  have hne : l.drop j ≠ [] := mt List.drop_eq_nil_iff.mp hj.not_ge
  rw [negDiffs_drop, negDiffs_sum _ hne, List.getLast_drop hne, List.head_drop]

theorem negDiffs_sum_drop_of {l : List α} {j : Nat} {a b : α} (ha : l[j]? = some a)
    (hb : l.getLast? = some b) : ((negDiffs l).drop j).sum = a - b := by
  obtain ⟨hj, rfl⟩ := List.getElem?_eq_some_iff.mp ha
  rw [negDiffs_sum_drop l j hj,
    ← Option.some.inj ((List.getLast?_eq_some_getLast _).symm.trans hb)]

/-- **`-np.diff`, sign**: if no entry of the list exceeds its predecessor, every difference is
non-negative. -/
theorem negDiffs_nonneg [PartialOrder α] [IsOrderedAddMonoid α] (l : List α)
    (h : ∀ (k : Nat) (hk : k + 1 < l.length), l[k + 1] ≤ l[k]) : ∀ x ∈ negDiffs l, 0 ≤ x := by
  intro x hx
  obtain ⟨k, hk, rfl⟩ := List.getElem_of_mem hx
  have hk' : k + 1 < l.length := Nat.add_lt_of_lt_sub (Lemmas.Connected.negDiffs_length l ▸ hk)
  rw [negDiffs_getElem l k hk']
  exact sub_nonneg.mpr (h k hk')

/-- Non-vacuity, computed: a non-increasing list of rationals. -/
example : negDiffs [(2 : ℚ), 3 / 2, 3 / 2, 1] = [1 / 2, 0, 1 / 2] := by decide +kernel
example : ∀ (k : Nat) (hk : k + 1 < [(2 : ℝ), 3 / 2, 3 / 2, 1].length),
    [(2 : ℝ), 3 / 2, 3 / 2, 1][k + 1] ≤ [(2 : ℝ), 3 / 2, 3 / 2, 1][k] := fun
  | 0, _ => show (3 / 2 : ℝ) ≤ 2 by norm_num
  | 1, _ => le_refl (3 / 2 : ℝ)
  | 2, _ => show (1 : ℝ) ≤ 3 / 2 by norm_num
  | k + 3, h => absurd h (Nat.not_lt.mpr (Nat.le_add_left 4 k))

end NegDiffs

/-! ## The connected informations of a maximum-entropy chain -/

section Chain
variable {σ : Type} [DecidableEq σ]
variable (t : Tab (List σ) ℝ) (as : List (List σ)) (chain : List (Tab (List σ) ℝ))

/-- **The profile has one entry per order** `1..n`. -/
theorem connected_length (hc : IsMaxentChain t as chain) :
    (connectedProfile Hbits chain).length = as.length := by
  unfold connectedProfile
  rw [Lemmas.Connected.negDiffs_length, List.length_map, hc.len]
  rfl

/-- **The connected informations are non-negative.** For a probability table `t` on the product
space of duplicate-free alphabets and a maximum-entropy chain of `t`, every entry of the profile
is `≥ 0`: the uniform table has the largest entropy of all probability tables on the space
(`uniform_max_entropy`), and a table with the `(k+1)`-way marginals of `t` has its `k`-way
marginals (`marginal_of_submarginal`), so the `k`-way maximiser has at least its entropy
(`chain_monotone`). Mass 1 is used for the step from order 0 to order 1 only; `htn` is not used. -/
theorem connected_nonneg (hnd : ∀ a ∈ as, a.Nodup) (hk : keys t = cartesian as)
    (htn : ∀ r ∈ t, 0 ≤ r.2) (hmass : mass t = 1) (hc : IsMaxentChain t as chain) :
    ∀ x ∈ connectedProfile Hbits chain, 0 ≤ x := by
  have _ := htn  -- not needed
  refine negDiffs_nonneg _ fun k _ => ?_
  rw [List.getElem_map, List.getElem_map]
  exact chain_antitone t as chain hc hnd hk hmass (List.getElem?_eq_getElem _)
    (List.getElem?_eq_getElem _)

/-- **The first entry** (order 1) is `log₂ |space| − Σ_i H(X_i)`: the entropy of the uniform
table minus that of the product of the marginals (`maxent_singletons`). Needs at least one
variable. -/
theorem connected_first (hnd : ∀ a ∈ as, a.Nodup) (hk : keys t = cartesian as)
    (htn : ∀ r ∈ t, 0 ≤ r.2) (hmass : mass t = 1) (hc : IsMaxentChain t as chain)
    (hn : 1 ≤ as.length) :
    (connectedProfile Hbits chain)[0]?
      = some (Real.logb 2 ((cartesian as).length : ℝ)
          - ((List.range as.length).map (fun i => entropyOf (Real.logb 2) t [i])).sum) :=
  (negDiffs_getElem? _ 0 _).mpr ⟨_, _, chain_H_zero t as chain hc,
    chain_H_one t as chain hc hnd hk hmass htn hn, rfl⟩

/-- **From order 2 on, the connected informations sum to the total correlation**
`Σ_i H(X_i) − H(X_0 … X_{n−1})`, written both with `entropyOf` and as the value of C05's
combination `tcC (singletons n) []`: the sum telescopes to `H(P_1) − H(P_n)`, `P_1` has the
entropy of the product of the marginals and `P_n = t` (`chain_end`). -/
theorem connected_sum_tc (hnd : ∀ a ∈ as, a.Nodup) (hk : keys t = cartesian as)
    (htn : ∀ r ∈ t, 0 ≤ r.2) (hmass : mass t = 1) (hc : IsMaxentChain t as chain)
    (hn : 1 ≤ as.length) :
    ((connectedProfile Hbits chain).drop 1).sum
        = ((List.range as.length).map (fun i => entropyOf (Real.logb 2) t [i])).sum
          - entropyOf (Real.logb 2) t (List.range as.length)
      ∧ ((connectedProfile Hbits chain).drop 1).sum
        = Comb.eval (Rat.castHom ℝ) (entropyOf (Real.logb 2) t) (tcC (singletons as.length) []) := by
  have hsum := (negDiffs_sum_drop_of (chain_H_one t as chain hc hnd hk hmass htn hn)
    (chain_H_last t as chain hc hnd hk hn)).trans
    (congrArg _ (entropyOf_range_eq t as.length (hk ▸ nodup_cartesian hnd)
      fun o ho => length_of_mem_cartesian (hk ▸ ho)).symm)
  exact ⟨hsum, hsum.trans (eval_tc_singletons t as.length hmass).symm⟩

/-- **All orders together** sum to `log₂ |space| − H(t)`; `htn` and `hmass` are not used. -/
theorem connected_sum_all (hnd : ∀ a ∈ as, a.Nodup) (hk : keys t = cartesian as)
    (htn : ∀ r ∈ t, 0 ≤ r.2) (hmass : mass t = 1) (hc : IsMaxentChain t as chain)
    (hn : 1 ≤ as.length) :
    (connectedProfile Hbits chain).sum
      = Real.logb 2 ((cartesian as).length : ℝ) - Hbits t := by
  have _ := htn  -- not needed
  have _ := hmass  -- not needed
  exact negDiffs_sum_drop_of (j := 0) (chain_H_zero t as chain hc)
    (chain_H_last t as chain hc hnd hk hn)

/-- Non-vacuity of the hypotheses of `connected_*`: the correlated bits `exCorr` on the 2×2 space
with the chain `[uniform, product of the marginals, exCorr]`. -/
example : (∀ a ∈ exAlph, a.Nodup) ∧ keys exCorr = cartesian exAlph ∧ (∀ r ∈ exCorr, 0 ≤ r.2)
    ∧ mass exCorr = 1 ∧ 1 ≤ exAlph.length
    ∧ IsMaxentChain exCorr exAlph
        [uniformOn (fun k : Nat => (k : ℝ)) (cartesian exAlph),
         prodMarg exCorr (singletons 2) (cartesian exAlph), exCorr] :=
  ⟨exAlph_nodup, exCorr_keys, exCorr_nonneg, exCorr_mass, by decide,
    isMaxentChain_two exCorr [0, 1] [0, 1] exAlph_nodup exCorr_keys exCorr_nonneg exCorr_mass⟩

end Chain

end Dit.Props.C18Conn
