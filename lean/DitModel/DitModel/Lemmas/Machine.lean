/-
Helper definitions and lemmas for C09 (mutation histories track a plain table model).

`tabOf L f` is the canonical table of a function `f` along the enumeration `L`, and `conc s`
the state whose table is `tabOf` of `s.stored` along the sample space. A well-formed state is
`conc` of its abstraction, and every operation of the implementation maps `conc s` with `s.OK`
to `conc` of the specification's next state (`step_conc`), which again satisfies `Spec.OK`
(`ok_specStep`); that gives refinement and invariance at once.

Property theorems are in Props/C09.lean.
-/
import DitModel.Lemmas.Construct

namespace Dit.Lemmas.Machine
open Dit
open Dit.Lemmas.Table (lookup?_cons lookup?_append lookup?_isSome_iff lookup?_eq_none_iff
  keys_sortBy_perm keys_zip_sublist)

/-! ## The canonical table of a function along an enumeration -/

section TabOf
variable {κ α : Type}

/-- Rows `(k, v)` for the `k` of `L` (in that order) with `f k = some v`. -/
def tabOf (L : List κ) (f : κ → Option α) : Tab κ α :=
  L.filterMap (fun k => (f k).map (fun v => (k, v)))

@[simp] theorem tabOf_nil (f : κ → Option α) : tabOf [] f = [] := rfl

theorem tabOf_cons_none {a : κ} {L : List κ} {f : κ → Option α} (h : f a = none) :
    tabOf (a :: L) f = tabOf L f := by
  simp [tabOf, h]

theorem tabOf_cons_some {a : κ} {L : List κ} {f : κ → Option α} {v : α} (h : f a = some v) :
    tabOf (a :: L) f = (a, v) :: tabOf L f := by
  simp [tabOf, h]

theorem tabOf_none (L : List κ) : tabOf L (fun _ => (none : Option α)) = [] :=
  List.filterMap_eq_nil_iff.mpr fun _ _ => rfl

theorem tabOf_some (L : List κ) (F : κ → α) :
    tabOf L (fun k => some (F k)) = L.map (fun k => (k, F k)) := by
  simp [tabOf]

theorem tabOf_congr {L : List κ} {f g : κ → Option α} (h : ∀ k ∈ L, f k = g k) :
    tabOf L f = tabOf L g :=
  List.filterMap_congr fun k hk => by rw [h k hk]

theorem keys_tabOf (L : List κ) (f : κ → Option α) :
    keys (tabOf L f) = L.filter (fun k => (f k).isSome) := by
  rw [keys, tabOf, List.map_filterMap, ← List.filterMap_eq_filter]
  exact List.filterMap_congr fun k _ => by cases h : f k <;> simp [h, Option.guard]

theorem vals_tabOf (L : List κ) (f : κ → Option α) :
    vals (tabOf L f) = L.filterMap f := by
  rw [vals, tabOf, List.map_filterMap]
  exact List.filterMap_congr fun k _ => by cases f k <;> rfl

theorem mem_keys_tabOf {L : List κ} {f : κ → Option α} {k : κ} (h : k ∈ keys (tabOf L f)) :
    k ∈ L := by
  rw [keys_tabOf] at h
  exact (List.mem_filter.mp h).1

theorem tabOf_filter_isSome (L : List κ) (f : κ → Option α) :
    tabOf (L.filter (fun k => (f k).isSome)) f = tabOf L f := by
  rw [tabOf, List.filterMap_filter]
  exact List.filterMap_congr fun k _ => by cases h : f k <;> simp

theorem tabOf_filter_val (L : List κ) (f : κ → Option α) (p : α → Bool) :
    (tabOf L f).filter (fun r => p r.2) = tabOf L (fun k => (f k).filter p) := by
  rw [tabOf, List.filter_filterMap]
  exact List.filterMap_congr fun k _ => by cases h : f k <;> simp [h, Option.filter]

theorem tabOf_map_val (L : List κ) (f : κ → Option α) (h : α → α) :
    (tabOf L f).map (fun r => (r.1, h r.2)) = tabOf L (fun k => (f k).map h) := by
  rw [tabOf, List.map_filterMap]
  exact List.filterMap_congr fun k _ => by cases hf : f k <;> simp [hf]

variable [DecidableEq κ]

theorem lookup?_tabOf (L : List κ) (f : κ → Option α) (k : κ) :
    lookup? (tabOf L f) k = if k ∈ L then f k else none := by
  induction L with
  | nil => rfl
  | cons a L ih =>
    by_cases hka : a = k
    · subst hka
      cases hf : f a with
      | none => rw [tabOf_cons_none hf, ih]; simp [hf]
      | some v => rw [tabOf_cons_some hf, lookup?_cons]; simp
    · have hmem : k ∈ a :: L ↔ k ∈ L := by simp [Ne.symm hka]
      cases hf : f a with
      | none => rw [tabOf_cons_none hf, ih]; simp only [hmem]
      | some v => rw [tabOf_cons_some hf, lookup?_cons, if_neg hka, ih]; simp only [hmem]

theorem eq_tabOf_keys {t : Tab κ α} (h : (keys t).Nodup) : t = tabOf (keys t) (lookup? t) := by
  induction t with
  | nil => rfl
  | cons r t ih =>
    obtain ⟨hn, ht⟩ : r.1 ∉ keys t ∧ (keys t).Nodup := List.nodup_cons.mp h
    show r :: t = tabOf (r.1 :: keys t) (lookup? (r :: t))
    rw [tabOf_cons_some (v := r.2) (by rw [lookup?_cons, if_pos rfl])]
    congr 1
    refine (ih ht).trans (tabOf_congr fun k hk => ?_)
    rw [lookup?_cons, if_neg (fun e : r.1 = k => hn (e ▸ hk))]

/-! ### Each row change of the implementation on canonical tables

The three ways the implementation changes one row (`map` over a stored key, `filter` it out,
append it and sort) are the point updates of the function. -/

theorem tabOf_filter_key (L : List κ) (f : κ → Option α) (o : κ) :
    (tabOf L f).filter (fun r => r.1 ≠ o) = tabOf L (fun k => if k = o then none else f k) := by
  rw [tabOf, List.filter_filterMap]
  exact List.filterMap_congr fun k _ => by
    by_cases hk : k = o <;> cases h : f k <;> simp [h, hk, Option.filter]

theorem tabOf_map_key (L : List κ) (f : κ → Option α) (o : κ) (v : α) (ho : (f o).isSome) :
    (tabOf L f).map (fun r => if r.1 = o then (r.1, v) else r)
      = tabOf L (fun k => if k = o then some v else f k) := by
  rw [tabOf, List.map_filterMap]
  refine List.filterMap_congr fun k _ => ?_
  by_cases hk : k = o
  · subst hk
    obtain ⟨w, hw⟩ := Option.isSome_iff_exists.mp ho
    simp [hw]
  · cases h : f k <;> simp [h, hk]

/-! ### Insertion and sorting by a rank that increases along the enumeration -/

omit [DecidableEq κ] in
theorem insertBy_lt_head (rank : κ → Nat) (r : κ × α) (t : Tab κ α)
    (h : ∀ s ∈ t, rank r.1 < rank s.1) : insertBy rank r t = r :: t := by
  cases t with
  | nil => rfl
  | cons s t => exact if_pos (h s (List.mem_cons_self ..))

omit [DecidableEq κ] in
theorem insertBy_tabOf (rank : κ → Nat) (L : List κ)
    (hL : L.Pairwise (fun a b => rank a < rank b)) {f g : κ → Option α} (r : κ × α)
    (hr : r.1 ∈ L) (hf : f r.1 = none) (hg : g r.1 = some r.2) (hfg : ∀ k, k ≠ r.1 → g k = f k) :
    insertBy rank r (tabOf L f) = tabOf L g := by
  induction L with
  | nil => cases hr
  | cons a L ih =>
    obtain ⟨hLa, hLL⟩ := List.pairwise_cons.mp hL
    by_cases ha : a = r.1
    · -- the new key is the head of the enumeration: every stored row ranks above it
      subst ha
      rw [tabOf_cons_none hf, tabOf_cons_some hg, insertBy_lt_head]
      · congr 1
        exact tabOf_congr fun k hk => (hfg k fun e => Nat.lt_irrefl _ (e ▸ hLa k hk)).symm
      · exact fun s hs => hLa _ (mem_keys_tabOf (List.mem_map_of_mem hs))
    · have hr' : r.1 ∈ L := (List.mem_cons.mp hr).resolve_left (Ne.symm ha)
      cases hfa : f a with
      | none => rw [tabOf_cons_none hfa, tabOf_cons_none ((hfg a ha).trans hfa), ih hLL hr']
      | some w =>
        rw [tabOf_cons_some hfa, tabOf_cons_some ((hfg a ha).trans hfa), ← ih hLL hr']
        exact if_neg (Nat.lt_asymm (hLa _ hr'))

theorem sortBy_eq_tabOf (rank : κ → Nat) (L : List κ)
    (hL : L.Pairwise (fun a b => rank a < rank b)) (t : Tab κ α)
    (hnd : (keys t).Nodup) (hmem : ∀ k ∈ keys t, k ∈ L) :
    sortBy rank t = tabOf L (lookup? t) := by
  induction t with
  | nil => exact (tabOf_none L).symm
  | cons r t ih =>
    obtain ⟨hn, ht⟩ := List.nodup_cons.mp hnd
    obtain ⟨hr, hm⟩ := List.forall_mem_cons.mp hmem
    show insertBy rank r (sortBy rank t) = _
    rw [ih ht hm]
    refine insertBy_tabOf rank L hL r hr (lookup?_eq_none_iff.mpr hn) ?_ fun k hk => ?_
    · rw [lookup?_cons, if_pos rfl]
    · rw [lookup?_cons, if_neg (Ne.symm hk)]

theorem sortBy_append_tabOf (rank : κ → Nat) (L : List κ)
    (hL : L.Pairwise (fun a b => rank a < rank b)) (f : κ → Option α) (o : κ) (v : α)
    (ho : o ∈ L) (hf : f o = none) :
    sortBy rank (tabOf L f ++ [(o, v)]) = tabOf L (fun k => if k = o then some v else f k) := by
  have hkeys : keys (tabOf L f ++ [(o, v)]) = (L.filter fun k => (f k).isSome).concat o := by
    rw [keys, List.map_append, ← keys, keys_tabOf, List.concat_eq_append]; rfl
  have hnd : L.Nodup := hL.imp fun h => mt (congrArg rank) (Nat.ne_of_lt h)
  rw [sortBy_eq_tabOf rank L hL]
  · refine tabOf_congr fun k hk => ?_
    rw [lookup?_append, lookup?_tabOf, if_pos hk, lookup?_cons]
    by_cases hko : k = o
    · simp [hko, hf]
    · cases f k <;> simp [hko, Ne.symm hko, lookup?]
  · rw [hkeys]
    exact (hnd.filter _).concat fun hm => by simpa [hf] using (List.mem_filter.mp hm).2
  · intro k hk
    rw [hkeys, List.concat_eq_append, List.mem_append, List.mem_singleton] at hk
    exact hk.elim (fun h => (List.mem_filter.mp h).1) (fun h => h ▸ ho)

set_option linter.unusedSectionVars false in
theorem sortBy_keys_perm (rank : κ → Nat) (t : Tab κ α) : (keys (sortBy rank t)).Perm (keys t) :=
  keys_sortBy_perm rank t

end TabOf

/-! ## The specification machine -/

variable {σ α : Type}

/-- State of the plain table model: the sample space, a *function* from outcomes to the
stored value (`none`: not stored), the sparse flag and the base tag. -/
structure Spec (σ α : Type) where
  space : Space σ
  stored : List σ → Option α
  sparse : Bool
  base : Base

/-- Point update `f[o ↦ x]`. -/
def upd [DecidableEq σ] (f : List σ → Option α) (o : List σ) (x : Option α) :
    List σ → Option α :=
  fun k => if k = o then x else f k

/-- Stored values in sample-space order (`d.pmf`). -/
def Spec.pmf (s : Spec σ α) : List α := s.space.toList.filterMap s.stored

/-- Stored outcomes in sample-space order (`d.outcomes`). -/
def Spec.outcomes (s : Spec σ α) : List (List σ) :=
  s.space.toList.filter (fun o => (s.stored o).isSome)

/-- `d[o]`: the stored value, the null value for a member that is not stored, `none`
(`InvalidOutcome`) outside the sample space. -/
def Spec.get [DecidableEq σ] [Zero α] (s : Spec σ α) (o : List σ) : Option α :=
  if s.space.mem o then some ((s.stored o).getD 0) else none

/-- `o in d`. -/
def Spec.has (s : Spec σ α) (o : List σ) : Bool := (s.stored o).isSome

/-- `len(d)`. -/
def Spec.length (s : Spec σ α) : Nat := s.outcomes.length

/-- Verdict of `validate()`: normalisation of the sum of the stored values in sample-space
order, then the range of every stored value. -/
def Spec.validate [Add α] [Zero α] (cfg : NumCfg α) (s : Spec σ α) : Option Err :=
  if !cfg.normOK s.base (lsum s.pmf) then some .invalidNormalization
  else if !s.pmf.all (cfg.rangeOK s.base) then some .invalidProbability
  else none

def specStep [DecidableEq σ] [Add α] [Zero α] [Mul α] [Inv α] (cfg : NumCfg α)
    (s : Spec σ α) : Op σ α → Spec σ α × Out α
  | .set o v =>
      if s.space.mem o then ({ s with stored := upd s.stored o (some v) }, .ok)
      else (s, .err .invalidOutcome)
  | .del o =>
      if s.space.mem o then
        ({ s with stored := upd s.stored o (if s.sparse then none else some 0) }, .ok)
      else (s, .err .invalidOutcome)
  | .makeDense =>
      ({ s with stored := fun k => if s.space.mem k then some ((s.stored k).getD 0) else none,
                sparse := false }, .ok)
  | .makeSparse trim =>
      ({ s with stored := if trim then
                  fun k => (s.stored k).filter (fun v => !cfg.isNull s.base v)
                else s.stored,
                sparse := true }, .ok)
  | .normalize =>
      let z := lsum s.pmf
      ({ s with stored := fun k => (s.stored k).map (· * z⁻¹) }, .val z)
  | .setBase b => ({ s with base := b }, .ok)
  | .copy => (s, .ok)

def run {S O R : Type} (step : S → O → S × R) : S → List O → S × List R
  | s, [] => (s, [])
  | s, o :: os =>
      let r := step s o
      let rest := run step r.1 os
      (rest.1, r.2 :: rest.2)

theorem run_fst {S O R : Type} (step : S → O → S × R) (s : S) (ops : List O) :
    (run step s ops).1 = ops.foldl (fun s o => (step s o).1) s := by
  induction ops generalizing s with
  | nil => rfl
  | cons o os ih => exact ih _

theorem run_length {S O R : Type} (step : S → O → S × R) (s : S) (ops : List O) :
    (run step s ops).2.length = ops.length := by
  induction ops generalizing s with
  | nil => rfl
  | cons o os ih => simp [run, ih]

variable [DecidableEq σ]

/-- The abstraction function: forget the list, keep the lookup function. -/
def abs (d : Dist σ α) : Spec σ α := ⟨d.space, lookup? d.tab, d.sparse, d.base⟩

/-- The canonical representation of a specification state. -/
def conc (s : Spec σ α) : Dist σ α :=
  ⟨s.space, tabOf s.space.toList s.stored, s.sparse, s.base⟩

def _root_.Dit.Space.WF (sp : Space σ) : Prop := sp.toList.Nodup

/-- Representation invariant of `Dist`: the stored keys are exactly the stored members of
the sample space, in sample-space order (hence duplicate-free, members, strictly increasing
rank), and a dense state stores every member. -/
structure WF (d : Dist σ α) : Prop where
  nodup : d.space.WF
  keys_eq : keys d.tab = d.space.toList.filter (fun o => (lookup? d.tab o).isSome)
  dense : d.sparse = false → keys d.tab = d.space.toList

/-- The corresponding invariant of specification states: nothing is stored outside the
sample space, and a dense state stores every member. -/
structure Spec.OK (s : Spec σ α) : Prop where
  nodup : s.space.WF
  outside : ∀ o, o ∉ s.space.toList → s.stored o = none
  dense : s.sparse = false → ∀ o ∈ s.space.toList, (s.stored o).isSome

theorem WF.keys_nodup {d : Dist σ α} (h : WF d) : (keys d.tab).Nodup := by
  rw [h.keys_eq]; exact h.nodup.filter _

theorem WF.mem_of_key {d : Dist σ α} (h : WF d) {o : List σ} (ho : o ∈ keys d.tab) :
    o ∈ d.space.toList := by
  rw [h.keys_eq] at ho; exact (List.mem_filter.mp ho).1

/-- Stored keys are in strictly increasing sample-space rank. -/
theorem WF.keys_sorted {d : Dist σ α} (h : WF d) :
    (keys d.tab).Pairwise (fun a b => d.space.rank a < d.space.rank b) := by
  rw [h.keys_eq]
  exact (Table.Space.pairwise_rank _ h.nodup).sublist List.filter_sublist

theorem WF.tab_eq {d : Dist σ α} (h : WF d) :
    d.tab = tabOf d.space.toList (lookup? d.tab) := by
  rw [← tabOf_filter_isSome, ← h.keys_eq]
  exact eq_tabOf_keys h.keys_nodup

theorem WF.abs_ok {d : Dist σ α} (h : WF d) : (abs d).OK where
  nodup := h.nodup
  outside := fun _ ho => lookup?_eq_none_iff.mpr (fun hk => ho (h.mem_of_key hk))
  dense := fun hs _ ho => lookup?_isSome_iff.mpr (h.dense hs ▸ ho)

theorem WF.eq_conc {d : Dist σ α} (h : WF d) : d = conc (abs d) := by
  cases d with
  | mk sp tab sparse base => exact congrArg (Dist.mk sp · sparse base) h.tab_eq

/-- Every well-formed implementation state is the canonical representation of a
well-formed specification state. -/
theorem WF.exists_conc {d : Dist σ α} (h : WF d) : ∃ s : Spec σ α, s.OK ∧ d = conc s :=
  ⟨abs d, h.abs_ok, h.eq_conc⟩

theorem lookup?_conc (s : Spec σ α) (o : List σ) (ho : o ∈ s.space.toList) :
    lookup? (conc s).tab o = s.stored o :=
  (lookup?_tabOf _ _ o).trans (if_pos ho)

theorem abs_conc {s : Spec σ α} (h : s.OK) : abs (conc s) = s := by
  cases s with
  | mk sp st sparse base =>
    refine congrArg (Spec.mk sp · sparse base) (funext fun k => (lookup?_tabOf _ _ k).trans ?_)
    split
    · rfl
    · exact (h.outside k ‹_›).symm

theorem wf_conc {s : Spec σ α} (h : s.OK) : WF (conc s) where
  nodup := h.nodup
  keys_eq := (keys_tabOf _ _).trans
    (List.filter_congr fun o ho => by rw [lookup?_conc s o ho])
  dense := fun hs => (keys_tabOf _ _).trans (List.filter_eq_self.mpr (h.dense hs))

/-! ### Observables -/

theorem get_abs [Zero α] (d : Dist σ α) (o : List σ) : d.get o = (abs d).get o := rfl

theorem outcomes_abs {d : Dist σ α} (h : WF d) : keys d.tab = (abs d).outcomes := h.keys_eq

theorem pmf_abs {d : Dist σ α} (h : WF d) : vals d.tab = (abs d).pmf := by
  conv => lhs; rw [h.tab_eq]
  exact vals_tabOf _ _

theorem length_abs {d : Dist σ α} (h : WF d) : d.tab.length = (abs d).length := by
  rw [Spec.length, ← outcomes_abs h, keys, List.length_map]

theorem has_abs (d : Dist σ α) (o : List σ) : (keys d.tab).contains o = (abs d).has o := by
  rw [Bool.eq_iff_iff, List.contains_iff_mem]
  exact lookup?_isSome_iff.symm

theorem validate_abs [Add α] [Zero α] (cfg : NumCfg α) {d : Dist σ α} (h : WF d) :
    d.validate cfg = (abs d).validate cfg := by
  have hall : (keys d.tab).all d.space.mem = true :=
    List.all_eq_true.mpr fun o ho => (Table.Space.mem_iff _ _).mpr (h.mem_of_key ho)
  unfold Dist.validate Spec.validate
  rw [hall, pmf_abs h]
  rfl

theorem Spec.get_upd [Zero α] (s : Spec σ α) (o : List σ) (x : Option α) (o' : List σ) :
    Spec.get { s with stored := upd s.stored o x } o'
      = if o' = o then (if s.space.mem o then some (x.getD 0) else none) else s.get o' := by
  by_cases h : o' = o
  · simp only [Spec.get, Machine.upd, h, if_true]
  · simp only [Spec.get, Machine.upd, h, if_false]

theorem getD_filter_not (p : α → Bool) (x : Option α) (z : α) :
    (x.filter fun v => !p v).getD z = if p (x.getD z) then z else x.getD z := by
  cases x with
  | none => exact (ite_self z).symm
  | some w => cases hp : p w <;> simp [Option.filter, hp]

/-! ### One step on canonical representations -/

omit [DecidableEq σ] in
theorem dist_eq {a b : Dist σ α} (h1 : a.space = b.space) (h2 : a.tab = b.tab)
    (h3 : a.sparse = b.sparse) (h4 : a.base = b.base) : a = b := by
  cases a; cases b; simp only [Dist.mk.injEq]; exact ⟨h1, h2, h3, h4⟩

set_option linter.unusedSectionVars false in
theorem spec_eq {a b : Spec σ α} (h1 : a.space = b.space) (h2 : a.stored = b.stored)
    (h3 : a.sparse = b.sparse) (h4 : a.base = b.base) : a = b := by
  cases a; cases b; simp only [Spec.mk.injEq]; exact ⟨h1, h2, h3, h4⟩

omit [DecidableEq σ] in
theorem conc_space (s : Spec σ α) : (conc s).space = s.space := rfl

theorem setIn_conc {s : Spec σ α} (h : s.OK) (o : List σ) (v : α) (ho : o ∈ s.space.toList) :
    (conc s).setIn o v = conc { s with stored := upd s.stored o (some v) } := by
  have hl := lookup?_conc s o ho
  cases hst : s.stored o with
  | some w =>
    simp only [Dist.setIn, hl.trans hst]
    exact dist_eq rfl (tabOf_map_key _ _ o v (hst ▸ rfl)) rfl rfl
  | none =>
    simp only [Dist.setIn, hl.trans hst]
    exact dist_eq rfl (sortBy_append_tabOf _ _ (Table.Space.pairwise_rank _ h.nodup) _ o v ho hst) rfl rfl

theorem delIn_conc [Zero α] {s : Spec σ α} (h : s.OK) (o : List σ) (ho : o ∈ s.space.toList) :
    (conc s).delIn o
      = conc { s with stored := upd s.stored o (if s.sparse then none else some 0) } := by
  cases hsp : s.sparse with
  | true =>
    have : (conc s).sparse = true := hsp
    simp only [Dist.delIn, this, if_true]
    exact dist_eq rfl (tabOf_filter_key _ _ o) rfl rfl
  | false =>
    have : (conc s).sparse = false := hsp
    simp only [Dist.delIn, this, Bool.false_eq_true, if_false]
    exact dist_eq rfl (tabOf_map_key _ _ o 0 (h.dense hsp o ho)) rfl rfl

theorem makeDense_conc [Zero α] (s : Spec σ α) :
    (conc s).makeDense
      = conc { s with stored := fun k => if s.space.mem k then some ((s.stored k).getD 0) else none,
                      sparse := false } := by
  refine dist_eq rfl ?_ rfl rfl
  show s.space.toList.map (fun o => (o, lookupD 0 (tabOf s.space.toList s.stored) o))
    = tabOf s.space.toList
        (fun k => if s.space.mem k then some ((s.stored k).getD 0) else none)
  rw [← tabOf_some]
  refine tabOf_congr fun k hk => ?_
  rw [lookupD, lookup?_tabOf, if_pos hk, if_pos ((Table.Space.mem_iff _ _).mpr hk)]

omit [DecidableEq σ] in
theorem makeSparse_conc (cfg : NumCfg α) (s : Spec σ α) (trim : Bool) :
    (conc s).makeSparse cfg trim
      = conc { s with stored := if trim then
                        fun k => (s.stored k).filter (fun v => !cfg.isNull s.base v)
                      else s.stored,
                      sparse := true } := by
  refine dist_eq rfl ?_ rfl rfl
  cases trim with
  | false => rfl
  | true => exact tabOf_filter_val _ _ (fun v => !cfg.isNull s.base v)

omit [DecidableEq σ] in
theorem normalize_conc [Add α] [Zero α] [Mul α] [Inv α] (s : Spec σ α) :
    (conc s).normalize
      = (conc { s with stored := fun k => (s.stored k).map (· * (lsum s.pmf)⁻¹) }, lsum s.pmf) := by
  have hv : vals (conc s).tab = s.pmf := vals_tabOf _ _
  unfold Dist.normalize
  simp only [hv]
  congr 1
  exact dist_eq rfl (tabOf_map_val _ _ (fun x => x * (lsum s.pmf)⁻¹)) rfl rfl

theorem step_conc [Add α] [Zero α] [Mul α] [Inv α] (cfg : NumCfg α) {s : Spec σ α} (h : s.OK)
    (op : Op σ α) :
    (conc s).step cfg op = (conc (specStep cfg s op).1, (specStep cfg s op).2) := by
  cases op with
  | set o v =>
    cases ho : s.space.mem o with
    | true =>
      simp only [Dist.step, specStep, conc_space, ho, if_true,
        setIn_conc h o v ((Table.Space.mem_iff _ _).mp ho)]
    | false => simp only [Dist.step, specStep, conc_space, ho, Bool.false_eq_true, if_false]
  | del o =>
    cases ho : s.space.mem o with
    | true =>
      simp only [Dist.step, specStep, conc_space, ho, if_true,
        delIn_conc h o ((Table.Space.mem_iff _ _).mp ho)]
    | false => simp only [Dist.step, specStep, conc_space, ho, Bool.false_eq_true, if_false]
  | makeDense => simp only [Dist.step, specStep, makeDense_conc]
  | makeSparse t => simp only [Dist.step, specStep, makeSparse_conc]
  | normalize => simp only [Dist.step, specStep, normalize_conc]
  | setBase b => rfl
  | copy => rfl

/-! ### The specification step preserves the specification invariant -/

theorem ok_upd {s : Spec σ α} (h : s.OK) {o : List σ} (ho : o ∈ s.space.toList) {x : Option α}
    (hx : s.sparse = false → x.isSome) : Spec.OK { s with stored := upd s.stored o x } where
  nodup := h.nodup
  outside := fun k hk => (if_neg fun e : k = o => hk (e ▸ ho)).trans (h.outside k hk)
  dense := fun hs k hk => by
    show Option.isSome (if k = o then x else s.stored k)
    split
    · exact hx hs
    · exact h.dense hs k hk

theorem ok_makeDense [Zero α] (s : Spec σ α) (hsp : s.space.WF) :
    Spec.OK { s with stored := fun k => if s.space.mem k then some ((s.stored k).getD 0) else none,
                     sparse := false } where
  nodup := hsp
  outside := fun k hk => if_neg fun e => hk ((Table.Space.mem_iff _ _).mp e)
  dense := fun _ k hk => by
    simp only [(Table.Space.mem_iff _ _).mpr hk, if_true, Option.isSome_some]

omit [DecidableEq σ] in
theorem ok_makeSparse (cfg : NumCfg α) (s : Spec σ α) (trim : Bool) (hsp : s.space.WF)
    (hout : ∀ o, o ∉ s.space.toList → s.stored o = none) :
    Spec.OK { s with stored := if trim then
                       fun k => (s.stored k).filter (fun v => !cfg.isNull s.base v)
                     else s.stored,
                     sparse := true } where
  nodup := hsp
  outside := fun k hk => by cases trim <;> simp [hout k hk]
  dense := fun hs => nomatch hs

theorem ok_specStep [Add α] [Zero α] [Mul α] [Inv α] (cfg : NumCfg α) {s : Spec σ α} (h : s.OK)
    (op : Op σ α) : (specStep cfg s op).1.OK := by
  cases op with
  | set o v =>
    simp only [specStep]
    split
    · exact ok_upd h ((Table.Space.mem_iff _ _).mp ‹_›) fun _ => rfl
    · exact h
  | del o =>
    simp only [specStep]
    split
    · exact ok_upd h ((Table.Space.mem_iff _ _).mp ‹_›) fun hs => by rw [hs]; rfl
    · exact h
  | makeDense => exact ok_makeDense s h.nodup
  | makeSparse t => exact ok_makeSparse cfg s t h.nodup h.outside
  | normalize =>
    exact ⟨h.nodup, fun k hk => congrArg (Option.map _) (h.outside k hk),
      fun hs k hk => Option.isSome_map.trans (h.dense hs k hk)⟩
  | setBase b => exact ⟨h.nodup, h.outside, h.dense⟩
  | copy => exact h

/-! ### The constructor establishes the invariant -/

theorem wf_finish [Zero α] (cfg : NumCfg α) (space : Space σ) (hsp : space.WF)
    (outs : List (List σ)) (pmf : List α) (houts : outs.Nodup)
    (hmem : ∀ o ∈ outs, o ∈ space.toList) (base : Base) (sparse trim : Bool) :
    WF (Construct.finish cfg space outs pmf base sparse trim) := by
  unfold Construct.finish
  have hsub := keys_zip_sublist outs pmf
  have hm : ∀ k ∈ keys (outs.zip pmf), k ∈ space.toList := fun k hk => hmem k (hsub.subset hk)
  have hd0 : Dist.mk space (sortBy space.rank (outs.zip pmf)) sparse base
      = conc ⟨space, lookup? (outs.zip pmf), sparse, base⟩ :=
    congrArg (Dist.mk space · sparse base)
      (sortBy_eq_tabOf space.rank space.toList (Table.Space.pairwise_rank _ hsp) _ (houts.sublist hsub) hm)
  rw [hd0]
  cases sparse with
  | false =>
    rw [if_neg Bool.false_ne_true, makeDense_conc]
    exact wf_conc (ok_makeDense _ hsp)
  | true =>
    rw [if_pos rfl, makeSparse_conc]
    exact wf_conc (ok_makeSparse cfg _ trim hsp fun k hk =>
      lookup?_eq_none_iff.mpr fun e => hk (hm k e))

/-! ### Concrete data for the non-vacuity examples of Props/C09.lean -/

/-- A concrete configuration: exact comparison with 0 and 1. -/
def exCfg : NumCfg Rat :=
  { isNull := fun _ v => v == 0, normOK := fun _ v => v == 1,
    rangeOK := fun _ v => decide (0 ≤ v) && decide (v ≤ 1) }

/-- A sparse distribution on `{0,1}²` that does not store `[1,0]`. -/
def exDist : Dist Nat Rat :=
  { space := .cart [[0, 1], [0, 1]],
    tab := [([0, 0], 1 / 4), ([0, 1], 1 / 4), ([1, 1], 1 / 2)],
    sparse := true, base := .linear }

theorem exDist_wf : WF exDist :=
  ⟨by unfold Space.WF; decide +kernel, by decide +kernel, by decide +kernel⟩

/-- `Out` has no decidable equality; code outputs as pairs for examples. -/
def outCode : Out Rat → Nat × Rat
  | .ok => (0, 0)
  | .err _ => (1, 0)
  | .val v => (2, v)

end Dit.Lemmas.Machine
