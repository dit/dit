/-
Helper lemmas for the rate–distortion Blahut–Arimoto iteration of `Core/BA.lean` over `ℝ` with
`exp2 := fun x => 2 ^ x`, `log2 := Real.logb 2`.

The iteration is an alternating minimisation of `baLagrangian`; its core is the row minimiser
`w_y ∝ q_y 2^{−β d_y}` of `Σ_y w_y (log₂ (w_y/q_y) + β d_y)`, with value `−log₂ Z`.
-/
import DitModel.Core.BA
import DitModel.Lemmas.Channel

namespace Dit.Lemmas.BA
open Dit Dit.Lemmas.Table Dit.Lemmas.ListBasics Dit.Lemmas.Channel Finset

theorem getD_zipWith {β γ δ : Type} (f : β → γ → δ) (l1 : List β) (l2 : List γ) (d1 : β)
    (d2 : γ) (d3 : δ) (y : ℕ) (h1 : y < l1.length) (h2 : y < l2.length) :
    (List.zipWith f l1 l2).getD y d3 = f (l1.getD y d1) (l2.getD y d2) := by
  simp [List.getD_eq_getElem?_getD, h1, h2]

theorem getD_zip {β γ : Type} (l1 : List β) (l2 : List γ) (d1 : β) (d2 : γ) (y : ℕ)
    (h1 : y < l1.length) (h2 : y < l2.length) :
    (l1.zip l2).getD y (d1, d2) = (l1.getD y d1, l2.getD y d2) := by
  simp [List.getD_eq_getElem?_getD, h1, h2]

theorem vec_map_div (u : List ℝ) (c : ℝ) (y : ℕ) : vec (u.map (· / c)) y = vec u y / c := by
  unfold vec
  by_cases h : y < u.length
  · rw [getD_map _ u 0 0 h]
  · simp [List.getD_eq_getElem?_getD, Nat.le_of_not_lt h]

theorem isChannel_of_ent (P : List (List ℝ)) (n m : ℕ) (hM : IsMat P n m)
    (hnn : ∀ x < n, ∀ y < m, 0 ≤ ent P x y) (hs : ∀ x < n, ∑ y ∈ range m, ent P x y = 1) :
    IsChannel P n m := by
  refine ⟨hM.len, ?_⟩
  intro row hrow
  obtain ⟨i, hi, rfl⟩ := List.mem_iff_getElem.mp hrow
  have hi' : i < n := by rw [← hM.len]; exact hi
  have e : P[i] = P.getD i [] := by simp [List.getD_eq_getElem?_getD, hi]
  rw [e]
  exact isLaw_of_vec _ m (hM.row_len hi') (fun y hy => hnn i hi' y hy) (hs i hi')

/-! ### Entry formulas for the Core definitions -/

/-- The normaliser `Z_x = Σ_y q_y 2^{−β d_xy}` of row `x`. -/
noncomputable def baZ (β : ℝ) (q : List ℝ) (d : List (List ℝ)) (m x : ℕ) : ℝ :=
  ∑ y ∈ range m, vec q y * (2 : ℝ) ^ (-(β * ent d x y))

theorem lamOf_eq (β : ℝ) (q : List ℝ) (d : List (List ℝ)) (m x : ℕ) :
    lamOf β q d m x = 1 / baZ β q d m x := rfl

theorem baNextW_isMat (β : ℝ) (q : List ℝ) (d : List (List ℝ)) (n m : ℕ) (hq : q.length = m)
    (hd : IsMat d n m) : IsMat (baNextW (fun x => (2 : ℝ) ^ x) β q d) n m := by
  refine ⟨by simp [baNextW, hd.len], ?_⟩
  intro row hrow
  unfold baNextW at hrow
  obtain ⟨dr, hdr, rfl⟩ := List.mem_map.mp hrow
  simp [hq, hd.row dr hdr]

theorem ent_baNextW (β : ℝ) (q : List ℝ) (d : List (List ℝ)) (n m : ℕ) (hq : q.length = m)
    (hd : IsMat d n m) (x y : ℕ) (hx : x < n) (hy : y < m) :
    ent (baNextW (fun x => (2 : ℝ) ^ x) β q d) x y
      = vec q y * (2 : ℝ) ^ (-(β * ent d x y)) / baZ β q d m x := by
  have hx' : x < d.length := by rw [hd.len]; exact hx
  have hrl : (d.getD x []).length = m := hd.row_len hx
  unfold ent baNextW
  rw [getD_map _ d [] [] hx']
  simp only
  rw [vec_map_div, lsum_eq_sum, sum_zipWith_range _ 0 0 q (d.getD x []) m hq hrl]
  unfold vec
  rw [getD_zipWith _ q (d.getD x []) 0 0 0 y (by omega) (by omega)]
  rfl

theorem baAvDist_eq (p : List ℝ) (W d : List (List ℝ)) (n m : ℕ) (hp : p.length = n)
    (hW : IsMat W n m) (hd : IsMat d n m) :
    baAvDist p W d = ∑ x ∈ range n, vec p x * ∑ y ∈ range m, ent W x y * ent d x y := by
  unfold baAvDist
  rw [lsum_eq_sum, sum_zipWith_range _ 0 0 p _ n hp (by simp [hW.len, hd.len])]
  apply sum_congr rfl
  intro x hx
  have hx' : x < n := mem_range.mp hx
  rw [getD_zipWith _ W d [] [] 0 x (by rw [hW.len]; exact hx') (by rw [hd.len]; exact hx'),
    lsum_eq_sum, sum_zipWith_range _ 0 0 _ _ m (hW.row_len hx') (hd.row_len hx')]
  rfl

theorem baLagrangian_eq (β : ℝ) (p q : List ℝ) (W d : List (List ℝ)) (n m : ℕ)
    (hp : p.length = n) (hq : q.length = m) (hW : IsMat W n m) (hd : IsMat d n m) :
    baLagrangian (Real.logb 2) β p W d q = ∑ x ∈ range n, vec p x *
      ∑ y ∈ range m, ent W x y * (Real.logb 2 (ent W x y / vec q y) + β * ent d x y) := by
  unfold baLagrangian
  rw [lsum_eq_sum, sum_zipWith_range _ 0 ([], []) p (W.zip d) n hp (by simp [hW.len, hd.len])]
  apply sum_congr rfl
  intro x hx
  have hx' : x < n := mem_range.mp hx
  rw [getD_zip W d [] [] x (by rw [hW.len]; exact hx') (by rw [hd.len]; exact hx')]
  simp only
  rw [lsum_eq_sum, sum_zipWith_range _ (0, 0) 0 _ _ m
    (by rw [List.length_zip, hW.row_len hx', hq, Nat.min_self]) (hd.row_len hx')]
  congr 1
  apply sum_congr rfl
  intro y hy
  have hy' : y < m := mem_range.mp hy
  rw [getD_zip _ q 0 0 y (by rw [hW.row_len hx']; exact hy') (by omega), ite_beq_zero_mul]
  rfl

/-! ### The finitary core: the row minimiser -/

section Core
variable {κ : Type}

theorem row_term (w q Z dd β : ℝ) (hZ : 0 < Z) (hdom : q = 0 → w = 0) :
    w * Real.logb 2 (w / (q * (2 : ℝ) ^ (-(β * dd)) / Z))
      = w * (Real.logb 2 (w / q) + β * dd) + w * Real.logb 2 Z := by
  rw [div_eq_inv_mul _ Z, mul_comm q, ← mul_assoc, tilt_term w q Z⁻¹ β dd (inv_pos.mpr hZ) hdom,
    Real.logb_inv, mul_neg, sub_neg_eq_add]

/-- For `Σ w = 1`, `w` dominated by `q`, any `Z > 0` and `v_y = q_y 2^{−β d_y}/Z`:
`Σ_y w_y (log₂ (w_y/q_y) + β d_y) = D(w‖v) − log₂ Z`. -/
theorem row_split (t : Finset κ) (w q dd : κ → ℝ) (β Z : ℝ) (hws : ∑ y ∈ t, w y = 1) (hZ : 0 < Z)
    (hdom : ∀ y ∈ t, q y = 0 → w y = 0) :
    ∑ y ∈ t, w y * (Real.logb 2 (w y / q y) + β * dd y)
      = ∑ y ∈ t, w y * Real.logb 2 (w y / (q y * (2 : ℝ) ^ (-(β * dd y)) / Z)) - Real.logb 2 Z := by
  rw [sum_congr rfl (fun y hy => row_term (w y) (q y) Z (dd y) β hZ (hdom y hy)), sum_add_distrib,
    ← sum_mul, hws, one_mul, add_sub_cancel_right]

/-- For a probability vector `w` dominated by `q ≥ 0`:
`Σ_y w_y (log₂ (w_y/q_y) + β d_y) ≥ −log₂ Σ_y q_y 2^{−β d_y}` (Gibbs against `q_y 2^{−βd_y}/Z`). -/
theorem row_lower (t : Finset κ) (w q dd : κ → ℝ) (β : ℝ) (hw : ∀ y ∈ t, 0 ≤ w y)
    (hws : ∑ y ∈ t, w y = 1) (hq : ∀ y ∈ t, 0 ≤ q y)
    (hZ : 0 < ∑ y ∈ t, q y * (2 : ℝ) ^ (-(β * dd y)))
    (hdom : ∀ y ∈ t, q y = 0 → w y = 0) :
    -Real.logb 2 (∑ y ∈ t, q y * (2 : ℝ) ^ (-(β * dd y)))
      ≤ ∑ y ∈ t, w y * (Real.logb 2 (w y / q y) + β * dd y) := by
  rw [row_split t w q dd β _ hws hZ hdom, sub_eq_add_neg]
  exact le_add_of_nonneg_left (Lemmas.InfoReal.gibbs t w _ hw
    (fun y hy => div_nonneg (mul_nonneg (hq y hy) (Real.rpow_pos_of_pos two_pos (-(β * dd y))).le) hZ.le)
    (by rw [← sum_div, div_self hZ.ne', hws])
    (fun y hy h0 => hdom y hy ((mul_eq_zero.mp
      ((div_eq_zero_iff.mp h0).resolve_right hZ.ne')).resolve_right (Real.rpow_pos_of_pos two_pos _).ne')))

/-- The minimiser `w_y = q_y 2^{−β d_y}/Z` attains `−log₂ Z`. -/
theorem row_min (t : Finset κ) (q dd : κ → ℝ) (β : ℝ)
    (hZ : 0 < ∑ y ∈ t, q y * (2 : ℝ) ^ (-(β * dd y))) :
    ∑ y ∈ t, (q y * (2 : ℝ) ^ (-(β * dd y)) / ∑ y ∈ t, q y * (2 : ℝ) ^ (-(β * dd y)))
        * (Real.logb 2 ((q y * (2 : ℝ) ^ (-(β * dd y)) / ∑ y ∈ t, q y * (2 : ℝ) ^ (-(β * dd y)))
            / q y) + β * dd y)
      = -Real.logb 2 (∑ y ∈ t, q y * (2 : ℝ) ^ (-(β * dd y))) := by
  rw [row_split t _ q dd β _ (by rw [← sum_div, div_self hZ.ne']) hZ (fun y _ h0 => by simp [h0]),
    sum_congr rfl (fun y _ => term_self _), sum_const_zero, zero_sub]

end Core

/-! ### Every iterate is a channel -/

theorem baZ_pos (β : ℝ) (q : List ℝ) (d : List (List ℝ)) (m x : ℕ) (hq : IsLaw q m) :
    0 < baZ β q d m x :=
  weighted_pos (range m) (vec q) _ (fun y _ => hq.vec_nonneg y) hq.sum_vec (fun _ _ => Real.rpow_pos_of_pos two_pos _)

theorem baNextW_isChannel_of_pos (β : ℝ) (q : List ℝ) (d : List (List ℝ)) (n m : ℕ)
    (hq : q.length = m) (hqnn : ∀ y < m, 0 ≤ vec q y) (hd : IsMat d n m)
    (hZ : ∀ x < n, 0 < baZ β q d m x) :
    IsChannel (baNextW (fun x => (2 : ℝ) ^ x) β q d) n m := by
  apply isChannel_of_ent _ n m (baNextW_isMat β q d n m hq hd)
  · intro x hx y hy
    rw [ent_baNextW β q d n m hq hd x y hx hy]
    exact div_nonneg (mul_nonneg (hqnn y hy) (Real.rpow_pos_of_pos two_pos _).le) (hZ x hx).le
  · intro x hx
    rw [sum_congr rfl (fun y hy => ent_baNextW β q d n m hq hd x y hx (mem_range.mp hy)),
      ← sum_div]
    exact div_self (hZ x hx).ne'

theorem baNextW_isChannel (β : ℝ) (q : List ℝ) (d : List (List ℝ)) (n m : ℕ) (hq : IsLaw q m)
    (hd : IsMat d n m) : IsChannel (baNextW (fun x => (2 : ℝ) ^ x) β q d) n m :=
  baNextW_isChannel_of_pos β q d n m hq.len (fun y _ => hq.vec_nonneg y) hd
    (fun x _ => baZ_pos β q d m x hq)

theorem baStep_fst (e : ℝ → ℝ) (β : ℝ) (p : List ℝ) (distFn : List (List ℝ) → List (List ℝ))
    (W : List (List ℝ)) :
    (baStep e β p distFn W).1 = baNextW e β (outputLaw p W) (distFn W) := rfl

theorem baStep_isChannel (β : ℝ) (p : List ℝ) (distFn : List (List ℝ) → List (List ℝ))
    (W : List (List ℝ)) (n m : ℕ) (hp : IsLaw p n) (hW : IsChannel W n m)
    (hdist : IsMat (distFn W) n m) :
    IsChannel (baStep (fun x => (2 : ℝ) ^ x) β p distFn W).1 n m :=
  baNextW_isChannel β _ _ n m (outputLaw_isLaw p W n m hp hW) hdist

/-- The `k`-th iterate of the step map. -/
noncomputable def baIter (β : ℝ) (p : List ℝ) (distFn : List (List ℝ) → List (List ℝ)) (k : ℕ)
    (W : List (List ℝ)) : List (List ℝ) :=
  (fun V => (baStep (fun x => (2 : ℝ) ^ x) β p distFn V).1)^[k] W

theorem baIter_succ' (β : ℝ) (p : List ℝ) (distFn : List (List ℝ) → List (List ℝ)) (k : ℕ)
    (W : List (List ℝ)) :
    baIter β p distFn (k + 1) W
      = (baStep (fun x => (2 : ℝ) ^ x) β p distFn (baIter β p distFn k W)).1 :=
  Function.iterate_succ_apply' _ _ _

theorem baIter_isChannel (β : ℝ) (p : List ℝ) (distFn : List (List ℝ) → List (List ℝ))
    (n m : ℕ) (hp : IsLaw p n) (hdist : ∀ V, IsChannel V n m → IsMat (distFn V) n m) (k : ℕ)
    (W : List (List ℝ)) (hW : IsChannel W n m) : IsChannel (baIter β p distFn k W) n m := by
  induction k with
  | zero => exact hW
  | succ k ih =>
    rw [baIter_succ']
    exact baStep_isChannel β p distFn _ n m hp ih (hdist _ ih)

/-- What the loop returns from any state: some iterate `k ≤ fuel`, the counter advanced by `k`, and
that iterate's own distortion value (the value handed in, if no step was made). -/
theorem baLoop_spec (β : ℝ) (p : List ℝ) (distFn : List (List ℝ) → List (List ℝ))
    (close : ℝ → ℝ → Bool) (fuel : ℕ) (W : List (List ℝ)) (prev dv : ℝ) (it : ℕ) :
    ∃ k, k ≤ fuel ∧ baLoop (fun x => (2 : ℝ) ^ x) β p distFn close fuel W prev dv it
      = (baIter β p distFn k W,
          if k = 0 then dv
          else baAvDist p (baIter β p distFn k W) (distFn (baIter β p distFn k W)), it + k) := by
  induction fuel generalizing W prev dv it with
  | zero => exact ⟨0, le_refl _, rfl⟩
  | succ fuel ih =>
    by_cases hc : close prev dv = true
    · exact ⟨0, Nat.zero_le _, by rw [baLoop, if_pos hc]; rfl⟩
    · obtain ⟨k, hk, he⟩ := ih (baStep (fun x => (2 : ℝ) ^ x) β p distFn W).1 dv
        (baStep (fun x => (2 : ℝ) ^ x) β p distFn W).2 (it + 1)
      refine ⟨k + 1, Nat.succ_le_succ hk, ?_⟩
      rw [baLoop, if_neg hc]
      refine he.trans ?_
      rw [Nat.add_assoc, Nat.add_comm 1 k]
      -- `baIter (k + 1) W` unfolds to `baIter k` of the next channel, whose value for `k = 0` is
      -- the second component of `baStep`
      rcases k with _ | k <;> rfl

theorem baRun_spec (β : ℝ) (p : List ℝ) (distFn : List (List ℝ) → List (List ℝ))
    (close : ℝ → ℝ → Bool) (maxIters : ℕ) (W0 : List (List ℝ)) :
    ∃ k, k ≤ maxIters ∧ baRun (fun x => (2 : ℝ) ^ x) β p distFn close maxIters W0
      = (baIter β p distFn k W0,
          baAvDist p (baIter β p distFn k W0) (distFn (baIter β p distFn k W0)), k) := by
  obtain ⟨k, hk, he⟩ := baLoop_spec β p distFn close maxIters W0 0
    (baAvDist p W0 (distFn W0)) 0
  refine ⟨k, hk, ?_⟩
  rw [baRun, he, Nat.zero_add]
  rcases k with _ | k <;> rfl

theorem baIterates_eq_map (β : ℝ) (p : List ℝ) (distFn : List (List ℝ) → List (List ℝ)) (k : ℕ)
    (W : List (List ℝ)) :
    baIterates (fun x => (2 : ℝ) ^ x) β p distFn k W = (List.range (k + 1)).map (fun j =>
      (baIter β p distFn j W,
        baAvDist p (baIter β p distFn j W) (distFn (baIter β p distFn j W)))) := by
  induction k generalizing W with
  | zero => rfl
  | succ k ih =>
    rw [baIterates, ih, List.range_succ_eq_map (n := k + 1), List.map_cons, List.map_map]
    rfl

/-! ### Descent for a fixed distortion matrix -/

/-- The objective `F(W) = I(p;W) + β·E[d]`. -/
noncomputable def baF (β : ℝ) (p : List ℝ) (W d : List (List ℝ)) : ℝ :=
  channelMI (Real.logb 2) p W + β * baAvDist p W d

theorem lagrangian_split (β : ℝ) (p q : List ℝ) (W d : List (List ℝ)) (n m : ℕ)
    (hp : p.length = n) (hq : q.length = m) (hW : IsMat W n m) (hd : IsMat d n m) :
    baLagrangian (Real.logb 2) β p W d q
      = ∑ x ∈ range n, vec p x * ∑ y ∈ range m, ent W x y * Real.logb 2 (ent W x y / vec q y)
        + β * baAvDist p W d := by
  rw [baLagrangian_eq β p q W d n m hp hq hW hd, baAvDist_eq p W d n m hp hW hd, mul_sum,
    ← sum_add_distrib]
  refine sum_congr rfl fun x _ => ?_
  rw [mul_left_comm β, ← mul_add]
  refine congrArg _ ?_
  rw [mul_sum, ← sum_add_distrib]
  exact sum_congr rfl fun _ _ => by ring

theorem baLagrangian_outputLaw (β : ℝ) (p : List ℝ) (W d : List (List ℝ)) (n m : ℕ)
    (hp : p.length = n) (hn : 0 < n) (hW : IsMat W n m) (hd : IsMat d n m) :
    baLagrangian (Real.logb 2) β p W d (outputLaw p W) = baF β p W d := by
  rw [lagrangian_split β p _ W d n m hp (outputLaw_length p W n m hW hn) hW hd, baF,
    channelMI_eq p W n m hp hW]

/-- Minimisation in `q`: the output law of `W` is the best `q` for `W`,
`F(W) = L(W, pW) ≤ L(W, q)`. -/
theorem baF_le_lagrangian (β : ℝ) (p q : List ℝ) (W d : List (List ℝ)) (n m : ℕ)
    (hp : IsLaw p n) (hW : IsChannel W n m) (hd : IsMat d n m) (hq : IsLaw q m)
    (hdom : ∀ x < n, vec p x ≠ 0 → ∀ y < m, vec q y = 0 → ent W x y = 0) :
    baF β p W d ≤ baLagrangian (Real.logb 2) β p W d q := by
  rw [lagrangian_split β p q W d n m hp.len hq.len hW.isMat hd, baF]
  exact add_le_add (channelMI_le_sum_kl W n m hW q hq p hp hdom) le_rfl

theorem lagrangian_nextW (β : ℝ) (p q : List ℝ) (d : List (List ℝ)) (n m : ℕ)
    (hp : p.length = n) (hq : IsLaw q m) (hd : IsMat d n m) :
    baLagrangian (Real.logb 2) β p (baNextW (fun x => (2 : ℝ) ^ x) β q d) d q
      = -∑ x ∈ range n, vec p x * Real.logb 2 (baZ β q d m x) := by
  rw [baLagrangian_eq β p q _ d n m hp hq.len (baNextW_isMat β q d n m hq.len hd) hd,
    ← sum_neg_distrib]
  refine sum_congr rfl fun x hx => ?_
  rw [sum_congr rfl fun y hy => by
    rw [ent_baNextW β q d n m hq.len hd x y (mem_range.mp hx) (mem_range.mp hy)], ← mul_neg]
  exact congrArg _ (row_min (range m) (vec q) (ent d x) β (baZ_pos β q d m x hq))

/-- Minimisation in `W`: `L(W, q) ≥ −Σ_x p_x log₂ Z_x` for every channel `W` (rows of positive
source probability dominated by `q`). -/
theorem lagrangian_ge (β : ℝ) (p q : List ℝ) (W d : List (List ℝ)) (n m : ℕ)
    (hp : IsLaw p n) (hW : IsChannel W n m) (hd : IsMat d n m) (hq : IsLaw q m)
    (hdom : ∀ x < n, vec p x ≠ 0 → ∀ y < m, vec q y = 0 → ent W x y = 0) :
    -∑ x ∈ range n, vec p x * Real.logb 2 (baZ β q d m x)
      ≤ baLagrangian (Real.logb 2) β p W d q := by
  rw [baLagrangian_eq β p q W d n m hp.len hq.len hW.isMat hd, ← sum_neg_distrib]
  refine sum_le_sum fun x hx => ?_
  have hx' : x < n := mem_range.mp hx
  by_cases h0 : vec p x = 0
  · rw [h0, zero_mul, zero_mul, neg_zero]
  rw [← mul_neg]
  exact mul_le_mul_of_nonneg_left (row_lower (range m) (ent W x) (vec q) (ent d x) β
    (fun y _ => hW.ent_nonneg x y) (hW.sum_ent hx') (fun y _ => hq.vec_nonneg y)
    (baZ_pos β q d m x hq) (fun y hy => hdom x hx' h0 y (mem_range.mp hy))) (hp.vec_nonneg x)

theorem baStep_descent (β : ℝ) (p : List ℝ) (W d : List (List ℝ)) (n m : ℕ) (hp : IsLaw p n)
    (hW : IsChannel W n m) (hd : IsMat d n m) :
    baF β p (baStep (fun x => (2 : ℝ) ^ x) β p (fun _ => d) W).1 d ≤ baF β p W d := by
  rw [baStep_fst]
  have hq := outputLaw_isLaw p W n m hp hW
  have hW' := baNextW_isChannel β (outputLaw p W) d n m hq hd
  have h1 := baF_le_lagrangian β p (outputLaw p W) _ d n m hp hW' hd hq (by
    intro x hx _ y hy h0
    rw [ent_baNextW β _ d n m hq.len hd x y hx hy, h0]; simp)
  have h2 := lagrangian_ge β p (outputLaw p W) W d n m hp hW hd hq
    (fun _ hx hne _ _ h0 => ent_eq_zero_of_outputLaw_eq_zero p W n m hp hW hx hne h0)
  rw [← lagrangian_nextW β p _ d n m hp.len hq hd,
    baLagrangian_outputLaw β p W d n m hp.len hp.pos_len hW.isMat hd] at h2
  exact h1.trans h2

theorem baIter_antitone (β : ℝ) (p : List ℝ) (d : List (List ℝ)) (n m : ℕ) (hp : IsLaw p n)
    (hd : IsMat d n m) (W : List (List ℝ)) (hW : IsChannel W n m) (j k : ℕ) (hjk : j ≤ k) :
    baF β p (baIter β p (fun _ => d) k W) d ≤ baF β p (baIter β p (fun _ => d) j W) d :=
  antitone_nat_of_succ_le (f := fun k => baF β p (baIter β p (fun _ => d) k W) d) (fun k => by
    rw [baIter_succ']
    exact baStep_descent β p _ d n m hp (baIter_isChannel β p _ n m hp (fun _ _ => hd) k W hW) hd)
    hjk

/-! ### The returned joint -/

theorem baJoint_eq_jointOf (p : List ℝ) (W : List (List ℝ)) : baJoint p W = jointOf p W := rfl

theorem baJoint_isMat (p : List ℝ) (W : List (List ℝ)) (n m : ℕ) (hp : p.length = n)
    (hW : IsMat W n m) : IsMat (baJoint p W) n m :=
  baJoint_eq_jointOf p W ▸ jointOf_isMat p W n m hp hW

theorem ent_baJoint (p : List ℝ) (W : List (List ℝ)) (n m : ℕ) (hp : p.length = n)
    (hW : IsMat W n m) : ∀ x < n, ∀ y < m, ent (baJoint p W) x y = vec p x * ent W x y :=
  fun x hx y hy => baJoint_eq_jointOf p W ▸ ent_jointOf p W n m hp hW x y hx hy

theorem baJoint_nonneg (p : List ℝ) (W : List (List ℝ)) (n m : ℕ) (hp : IsLaw p n)
    (hW : IsChannel W n m) : ∀ row ∈ baJoint p W, ∀ a ∈ row, 0 ≤ a := by
  intro row hrow a ha
  obtain ⟨i, hi, rfl⟩ := List.mem_iff_getElem.mp hrow
  obtain ⟨j, hj, rfl⟩ := List.mem_iff_getElem.mp ha
  have hM := baJoint_isMat p W n m hp.len hW.isMat
  have hi' : i < n := by rw [← hM.len]; exact hi
  have hj' : j < m := by rw [← hM.row _ (List.getElem_mem hi)]; exact hj
  have e : ((baJoint p W)[i])[j] = ent (baJoint p W) i j := by
    simp [ent, vec, List.getD_eq_getElem?_getD, hi, hj]
  rw [e, ent_baJoint p W n m hp.len hW.isMat i hi' j hj']
  exact mul_nonneg (hp.vec_nonneg i) (hW.ent_nonneg i j)

theorem expDistortion_joint (p : List ℝ) (V d : List (List ℝ)) (n m : ℕ) (hp : p.length = n)
    (hV : IsMat V n m) (hd : IsMat d n m) :
    expDistortion (baJoint p V) d = baAvDist p V d := by
  rw [expDistortion_eq _ d n m (baJoint_isMat p V n m hp hV) hd, baAvDist_eq p V d n m hp hV hd]
  refine sum_congr rfl fun x hx => ?_
  rw [mul_sum]
  refine sum_congr rfl fun y hy => ?_
  rw [ent_baJoint p V n m hp hV x (mem_range.mp hx) y (mem_range.mp hy), mul_assoc]

theorem jointMI_joint (p : List ℝ) (V : List (List ℝ)) (n m : ℕ) (hp : p.length = n)
    (hV : IsChannel V n m) :
    jointMI (Real.logb 2) (baJoint p V) = channelMI (Real.logb 2) p V :=
  jointMI_eq_channelMI p V _ n m hp hV.isMat
    (fun row hr => (hV.row row hr).sum_one) (baJoint_isMat p V n m hp hV.isMat)
    (ent_baJoint p V n m hp hV.isMat)

/-! ### Fixed points and optimality -/

/-- Lower bound from the multipliers `1/Z_x` of ANY output law `q` whose column constraints hold:
every test channel has `F(V) ≥ −Σ_x p_x log₂ Z_x`. -/
theorem baF_ge_of_constraints (β : ℝ) (p q : List ℝ) (V d : List (List ℝ)) (n m : ℕ)
    (hp : IsLaw p n) (hV : IsChannel V n m) (hd : IsMat d n m) (hq : IsLaw q m)
    (hc : ∀ y < m, ∑ x ∈ range n,
      vec p x * (1 / baZ β q d m x) * (2 : ℝ) ^ (-(β * ent d x y)) ≤ 1) :
    -∑ x ∈ range n, vec p x * Real.logb 2 (baZ β q d m x) ≤ baF β p V d := by
  have h := rd_dual_fn p V d (baJoint p V) (fun x => 1 / baZ β q d m x) β n m hp hV hd
    (baJoint_isMat p V n m hp.len hV.isMat) (ent_baJoint p V n m hp.len hV.isMat)
    (fun x _ => one_div_pos.mpr (baZ_pos β q d m x hq)) hc
  rw [jointMI_joint p V n m hp.len hV, expDistortion_joint p V d n m hp.len hV.isMat hd] at h
  refine le_trans (le_of_eq ?_) h
  rw [← sum_neg_distrib]
  apply sum_congr rfl; intro x _
  rw [one_div, Real.logb_inv]; ring

theorem baF_fixed (β : ℝ) (p : List ℝ) (W d : List (List ℝ)) (n m : ℕ) (hp : IsLaw p n)
    (hW : IsChannel W n m) (hd : IsMat d n m)
    (hfix : (baStep (fun x => (2 : ℝ) ^ x) β p (fun _ => d) W).1 = W) :
    baF β p W d = -∑ x ∈ range n, vec p x * Real.logb 2 (baZ β (outputLaw p W) d m x) := by
  have hfix' : baNextW (fun x => (2 : ℝ) ^ x) β (outputLaw p W) d = W := hfix
  have h := lagrangian_nextW β p (outputLaw p W) d n m hp.len (outputLaw_isLaw p W n m hp hW) hd
  rwa [hfix', baLagrangian_outputLaw β p W d n m hp.len hp.pos_len hW.isMat hd] at h

/-- At a fixed point the column constraint is an equality on the support of the output law. -/
theorem fixed_constraint (β : ℝ) (p : List ℝ) (W d : List (List ℝ)) (n m : ℕ) (hp : IsLaw p n)
    (hW : IsChannel W n m) (hd : IsMat d n m)
    (hfix : (baStep (fun x => (2 : ℝ) ^ x) β p (fun _ => d) W).1 = W) (y : ℕ) (hy : y < m)
    (hqy : vec (outputLaw p W) y ≠ 0) :
    ∑ x ∈ range n, vec p x * (1 / baZ β (outputLaw p W) d m x) * (2 : ℝ) ^ (-(β * ent d x y))
      = 1 := by
  have hfix' : baNextW (fun x => (2 : ℝ) ^ x) β (outputLaw p W) d = W := hfix
  have hq := outputLaw_isLaw p W n m hp hW
  have h := vec_outputLaw p W n m hp.len hW.isMat y
  have e : ∀ x ∈ range n, vec p x * ent W x y = vec (outputLaw p W) y *
      (vec p x * (1 / baZ β (outputLaw p W) d m x) * (2 : ℝ) ^ (-(β * ent d x y))) := by
    intro x hx
    conv_lhs => rw [← hfix']
    rw [ent_baNextW β _ d n m hq.len hd x y (mem_range.mp hx) hy]
    ring
  rw [sum_congr rfl e, ← mul_sum] at h
  exact mul_left_cancel₀ hqy (by rw [mul_one]; exact h.symm)

/-! ### Hamming distortion -/

theorem hammingDist_isMat (n m : ℕ) : IsMat (hammingDist n m : List (List ℝ)) n m :=
  isMat_range_map n m _

theorem ent_hammingDist (n m x y : ℕ) (hx : x < n) (hy : y < m) :
    ent (hammingDist n m : List (List ℝ)) x y = if x = y then 0 else 1 :=
  (ent_range_map n m _ x y hx hy).trans (by by_cases h : x = y <;> simp [h])

/-! ### The information-bottleneck distortion -/

section IBCore
variable {ι τ κ : Type}

theorem ib_term (a w px py Q qt r : ℝ) (ha : 0 ≤ a) (hw : 0 ≤ w) (hpx : a ≤ px) (hpy : a ≤ py)
    (hQ : a * w ≤ Q) (hqt : Q ≤ qt) (hr : qt ≠ 0 → r = Q / qt) :
    px * (w * ((a / px) * Real.logb 2 ((a / px) / r)))
      = w * (a * Real.logb 2 (a / (px * py))) - a * w * Real.logb 2 (Q / (qt * py)) := by
  by_cases h1 : a = 0
  · simp only [h1, zero_div, zero_mul, mul_zero, sub_zero]
  by_cases h2 : w = 0
  · simp only [h2, zero_mul, mul_zero, sub_zero]
  have hapos : 0 < a := lt_of_le_of_ne ha (Ne.symm h1)
  have hpx0 : px ≠ 0 := (lt_of_lt_of_le hapos hpx).ne'
  have hpy0 : py ≠ 0 := (lt_of_lt_of_le hapos hpy).ne'
  have hQpos : 0 < Q := lt_of_lt_of_le (mul_pos hapos (lt_of_le_of_ne hw (Ne.symm h2))) hQ
  have hqt0 : qt ≠ 0 := (lt_of_lt_of_le hQpos hqt).ne'
  have e : a / (px * py) / (Q / (qt * py)) = a / px / (Q / qt) := by
    rw [← div_div, ← div_div, div_div_div_cancel_right₀ hpy0]
  rw [hr hqt0, ← e, Real.logb_div (div_ne_zero h1 (mul_ne_zero hpx0 hpy0))
    (div_ne_zero hQpos.ne' (mul_ne_zero hqt0 hpy0)), mul_left_comm px, ← mul_assoc px,
    mul_div_cancel₀ a hpx0]
  ring

/-- `Σ_x p_x Σ_t W_xt D(p(·|x) ‖ q(·|t)) = I(X;Y) − I(T;Y)` for a joint `a` of `(X, Y)` with
marginals `px`, `py`, the joint `Q_ty = Σ_x a_xy W_xt` of `(T, Y)` with marginals `qt`, `qy`, and
`r = Q/qt`. -/
theorem ib_core (s : Finset ι) (t : Finset τ) (u : Finset κ) (a : ι → κ → ℝ) (W : ι → τ → ℝ)
    (r Q : τ → κ → ℝ) (px : ι → ℝ) (py qy : κ → ℝ) (qt : τ → ℝ)
    (ha : ∀ x ∈ s, ∀ y ∈ u, 0 ≤ a x y) (hW : ∀ x ∈ s, ∀ t' ∈ t, 0 ≤ W x t')
    (hrow : ∀ x ∈ s, ∑ t' ∈ t, W x t' = 1)
    (hpx : ∀ x ∈ s, px x = ∑ y ∈ u, a x y) (hpy : ∀ y ∈ u, py y = ∑ x ∈ s, a x y)
    (hQ : ∀ t' ∈ t, ∀ y ∈ u, Q t' y = ∑ x ∈ s, a x y * W x t')
    (hqt : ∀ t' ∈ t, qt t' = ∑ y ∈ u, Q t' y) (hqy : ∀ y ∈ u, qy y = ∑ t' ∈ t, Q t' y)
    (hr : ∀ t' ∈ t, ∀ y ∈ u, qt t' ≠ 0 → r t' y = Q t' y / qt t') :
    ∑ x ∈ s, px x * ∑ t' ∈ t, W x t' *
        ∑ y ∈ u, (a x y / px x) * Real.logb 2 ((a x y / px x) / r t' y)
      = ∑ x ∈ s, ∑ y ∈ u, a x y * Real.logb 2 (a x y / (px x * py y))
        - ∑ t' ∈ t, ∑ y ∈ u, Q t' y * Real.logb 2 (Q t' y / (qt t' * qy y)) := by
  have haW : ∀ t' ∈ t, ∀ y ∈ u, ∀ x ∈ s, 0 ≤ a x y * W x t' :=
    fun t' ht y hy x hx => mul_nonneg (ha x hx y hy) (hW x hx t' ht)
  have hqy' : ∀ y ∈ u, qy y = py y := fun y hy => by
    rw [hqy y hy, hpy y hy, sum_congr rfl (fun t' ht => hQ t' ht y hy), sum_comm]
    exact sum_congr rfl fun x hx => by rw [← mul_sum, hrow x hx, mul_one]
  calc _ = ∑ x ∈ s, ∑ t' ∈ t, ∑ y ∈ u,
          (W x t' * (a x y * Real.logb 2 (a x y / (px x * py y)))
            - a x y * W x t' * Real.logb 2 (Q t' y / (qt t' * py y))) := by
        refine sum_congr rfl fun x hx => ?_
        rw [mul_sum]
        refine sum_congr rfl fun t' ht => ?_
        rw [mul_sum, mul_sum]
        refine sum_congr rfl fun y hy => ?_
        apply ib_term _ _ _ _ _ _ _ (ha x hx y hy) (hW x hx t' ht)
        · rw [hpx x hx]
          exact single_le_sum (f := a x) (ha x hx) hy
        · rw [hpy y hy]
          exact single_le_sum (f := fun x' => a x' y) (fun x' hx' => ha x' hx' y hy) hx
        · rw [hQ t' ht y hy]
          exact single_le_sum (f := fun x' => a x' y * W x' t') (haW t' ht y hy) hx
        · rw [hqt t' ht]
          exact single_le_sum (f := Q t')
            (fun y' hy' => by rw [hQ t' ht y' hy']; exact sum_nonneg (haW t' ht y' hy')) hy
        · exact hr t' ht y hy
    _ = _ := by
        simp only [sum_sub_distrib]
        refine congrArg₂ _ ?_ ?_
        · refine sum_congr rfl fun x hx => ?_
          rw [sum_comm]
          exact sum_congr rfl fun y _ => by rw [← sum_mul, hrow x hx, one_mul]
        · rw [sum_comm]
          refine sum_congr rfl fun t' ht => ?_
          rw [sum_comm]
          exact sum_congr rfl fun y hy => by rw [← sum_mul, hQ t' ht y hy, hqy' y hy]

end IBCore

/-- `Q(t,y) = Σ_x p(x,y) W(t|x)`. -/
noncomputable def ibQ (pxy W : List (List ℝ)) (n t y : ℕ) : ℝ :=
  ∑ x ∈ range n, ent pxy x y * ent W x t

/-- `q(t) = Σ_y Q(t,y)`. -/
noncomputable def ibQt (pxy W : List (List ℝ)) (n k t : ℕ) : ℝ :=
  ∑ y ∈ range k, ibQ pxy W n t y

theorem ibQyt_row (pxy W : List (List ℝ)) (n m k : ℕ) (hn : 0 < n) (hP : IsMat pxy n k)
    (hW : IsMat W n m) :
    ibQyt pxy W = (List.range m).map fun t => (List.range k).map fun y =>
      if ibQt pxy W n k t = 0 then 1 else ibQ pxy W n t y / ibQt pxy W n k t := by
  cases W with
  | nil => rw [← hW.len] at hn; cases hn
  | cons w0 W' =>
    cases pxy with
    | nil => rw [← hP.len] at hn; cases hn
    | cons r0 P' =>
      have hw0 : w0.length = m := hW.row w0 List.mem_cons_self
      have hr0 : r0.length = k := hP.row r0 List.mem_cons_self
      unfold ibQyt
      simp only
      rw [hw0, hr0]
      apply List.map_congr_left
      intro t _
      have hcol : (List.range k).map (fun y => lsum (List.zipWith
            (fun prow wrow => prow.getD y 0 * wrow.getD t 0) (r0 :: P') (w0 :: W')))
          = (List.range k).map (fun y => ibQ (r0 :: P') (w0 :: W') n t y) := by
        apply List.map_congr_left
        intro y _
        rw [lsum_eq_sum, sum_zipWith_range _ [] [] _ _ n hP.len hW.len]
        rfl
      rw [hcol]
      have hz : lsum ((List.range k).map (fun y => ibQ (r0 :: P') (w0 :: W') n t y))
          = ibQt (r0 :: P') (w0 :: W') n k t := by
        rw [lsum_eq_sum, ListBasics.sum_range_map]; rfl
      rw [hz]
      by_cases h0 : ibQt (r0 :: P') (w0 :: W') n k t = 0
      · rw [if_pos (beq_iff_eq.mpr h0), List.map_map]
        exact List.map_congr_left fun y _ => (if_pos h0).symm
      · rw [if_neg (mt beq_iff_eq.mp h0), List.map_map]
        exact List.map_congr_left fun y _ => (if_neg h0).symm

theorem ibQyt_isMat (pxy W : List (List ℝ)) (n m k : ℕ) (hn : 0 < n) (hP : IsMat pxy n k)
    (hW : IsMat W n m) : IsMat (ibQyt pxy W) m k :=
  ibQyt_row pxy W n m k hn hP hW ▸ isMat_range_map m k _

theorem ent_ibQyt (pxy W : List (List ℝ)) (n m k : ℕ) (hn : 0 < n) (hP : IsMat pxy n k)
    (hW : IsMat W n m) (t y : ℕ) (ht : t < m) (hy : y < k) :
    ent (ibQyt pxy W) t y
      = if ibQt pxy W n k t = 0 then 1 else ibQ pxy W n t y / ibQt pxy W n k t := by
  rw [ibQyt_row pxy W n m k hn hP hW]
  exact ent_range_map m k _ t y ht hy

theorem ibQt_eq (pxy W : List (List ℝ)) (n k t : ℕ) :
    ibQt pxy W n k t = ∑ x ∈ range n, (∑ y ∈ range k, ent pxy x y) * ent W x t := by
  unfold ibQt ibQ
  rw [sum_comm]
  apply sum_congr rfl; intro x _
  rw [sum_mul]

theorem ibQ_nonneg (pxy W : List (List ℝ)) (n m k : ℕ)
    (hPnn : ∀ x < n, ∀ y < k, 0 ≤ ent pxy x y) (hW : IsChannel W n m) (t y : ℕ) (hy : y < k) :
    0 ≤ ibQ pxy W n t y :=
  sum_nonneg (fun x hx => mul_nonneg (hPnn x (mem_range.mp hx) y hy) (hW.ent_nonneg x t))

theorem ibQyt_row_isLaw (pxy W : List (List ℝ)) (n m k : ℕ) (hn : 0 < n) (hP : IsMat pxy n k)
    (hPnn : ∀ x < n, ∀ y < k, 0 ≤ ent pxy x y) (hW : IsChannel W n m) (t : ℕ) (ht : t < m)
    (hqt : ibQt pxy W n k t ≠ 0) : IsLaw ((ibQyt pxy W).getD t []) k := by
  have e : ∀ y < k, vec ((ibQyt pxy W).getD t []) y = ibQ pxy W n t y / ibQt pxy W n k t :=
    fun y hy => (ent_ibQyt pxy W n m k hn hP hW.isMat t y ht hy).trans (if_neg hqt)
  apply isLaw_of_vec _ k ((ibQyt_isMat pxy W n m k hn hP hW.isMat).row_len ht)
  · intro y hy
    rw [e y hy]
    exact div_nonneg (ibQ_nonneg pxy W n m k hPnn hW t y hy)
      (sum_nonneg fun y' hy' => ibQ_nonneg pxy W n m k hPnn hW t y' (mem_range.mp hy'))
  · rw [sum_congr rfl fun y hy => e y (mem_range.mp hy), ← sum_div]
    exact div_self hqt

theorem ibDist_isMat (pxy W : List (List ℝ)) (n m k : ℕ) (hn : 0 < n) (hP : IsMat pxy n k)
    (hW : IsMat W n m) : IsMat (ibDist (Real.logb 2) pxy W) n m := by
  have hM := ibQyt_isMat pxy W n m k hn hP hW
  refine ⟨by simp [ibDist, hP.len], ?_⟩
  intro row hrow
  unfold ibDist at hrow
  obtain ⟨pr, _, rfl⟩ := List.mem_map.mp hrow
  simp [hM.len]

theorem ent_ibDist (pxy W : List (List ℝ)) (n m k : ℕ) (hn : 0 < n) (hP : IsMat pxy n k)
    (hW : IsMat W n m) (x t : ℕ) (hx : x < n) (ht : t < m) :
    ent (ibDist (Real.logb 2) pxy W) x t
      = ∑ y ∈ range k, (ent pxy x y / vec (rowSums pxy) x) *
          Real.logb 2 ((ent pxy x y / vec (rowSums pxy) x) / ent (ibQyt pxy W) t y) := by
  have hM := ibQyt_isMat pxy W n m k hn hP hW
  have hx' : x < pxy.length := by rw [hP.len]; exact hx
  have hz : vec (rowSums pxy) x = lsum (pxy.getD x []) := getD_map lsum pxy [] 0 hx'
  unfold ent ibDist
  simp only
  rw [getD_map _ pxy [] [] hx']
  unfold vec
  rw [getD_map _ (ibQyt pxy W) [] 0 (by rw [hM.len]; exact ht),
    klRow_eq _ _ k (by rw [List.length_map]; exact hP.row_len hx) (hM.row_len ht)]
  apply sum_congr rfl
  intro y _
  rw [vec_map_div, ← hz]
  rfl

/-- Gibbs: the IB distortion `D(p(·|x) ‖ q(·|t))` is non-negative when `p(x) > 0`, `q(t) > 0`
and `q(·|t)` dominates `p(·|x)`. -/
theorem ibDist_nonneg (pxy W : List (List ℝ)) (n m k : ℕ) (hn : 0 < n) (hP : IsMat pxy n k)
    (hPnn : ∀ x < n, ∀ y < k, 0 ≤ ent pxy x y) (hW : IsChannel W n m) (x t : ℕ) (hx : x < n)
    (ht : t < m) (hpx : ∑ y ∈ range k, ent pxy x y ≠ 0) (hqt : ibQt pxy W n k t ≠ 0)
    (hdom : ∀ y < k, ent (ibQyt pxy W) t y = 0 → ent pxy x y = 0) :
    0 ≤ ent (ibDist (Real.logb 2) pxy W) x t := by
  rw [ent_ibDist pxy W n m k hn hP hW.isMat x t hx ht, vec_rowSums pxy n k hP x hx]
  have hlaw := ibQyt_row_isLaw pxy W n m k hn hP hPnn hW t ht hqt
  apply Lemmas.InfoReal.gibbs (range k) (fun y => ent pxy x y / ∑ y' ∈ range k, ent pxy x y')
    (fun y => ent (ibQyt pxy W) t y)
  · intro y hy
    exact div_nonneg (hPnn x hx y (mem_range.mp hy))
      (sum_nonneg fun y' hy' => hPnn x hx y' (mem_range.mp hy'))
  · intro y _; exact hlaw.vec_nonneg y
  · rw [← sum_div, div_self hpx]; exact le_of_eq hlaw.sum_vec
  · intro y hy h0
    rw [hdom y (mem_range.mp hy) h0, zero_div]

/-- Domination is automatic where the channel puts mass: `p(x) W(t|x) > 0`. -/
theorem ibQyt_dom (pxy W : List (List ℝ)) (n m k : ℕ) (hn : 0 < n) (hP : IsMat pxy n k)
    (hPnn : ∀ x < n, ∀ y < k, 0 ≤ ent pxy x y) (hW : IsChannel W n m) (x t : ℕ) (hx : x < n)
    (ht : t < m) (hpx : ∑ y ∈ range k, ent pxy x y ≠ 0) (hw : ent W x t ≠ 0) :
    ibQt pxy W n k t ≠ 0 ∧ ∀ y < k, ent (ibQyt pxy W) t y = 0 → ent pxy x y = 0 := by
  have hqt : ibQt pxy W n k t ≠ 0 := by
    rw [ibQt_eq]
    refine (lt_of_lt_of_le (mul_pos ?_ ?_) (single_le_sum
      (f := fun x' => (∑ y ∈ range k, ent pxy x' y) * ent W x' t) (fun x' hx' => mul_nonneg
        (sum_nonneg fun y hy => hPnn x' (mem_range.mp hx') y (mem_range.mp hy))
        (hW.ent_nonneg x' t)) (mem_range.mpr hx))).ne'
    · exact lt_of_le_of_ne (sum_nonneg fun y hy => hPnn x hx y (mem_range.mp hy)) (Ne.symm hpx)
    · exact lt_of_le_of_ne (hW.ent_nonneg x t) (Ne.symm hw)
  refine ⟨hqt, fun y hy h0 => ?_⟩
  rw [ent_ibQyt pxy W n m k hn hP hW.isMat t y ht hy, if_neg hqt, div_eq_zero_iff,
    or_iff_left hqt] at h0
  exact (mul_eq_zero.mp ((sum_eq_zero_iff_of_nonneg fun x' hx' =>
    mul_nonneg (hPnn x' (mem_range.mp hx') y hy) (hW.ent_nonneg x' t)).mp h0 x
      (mem_range.mpr hx))).resolve_right hw

/-- A concrete matrix for `Q(t,y)`. -/
noncomputable def ibJointTY (pxy W : List (List ℝ)) (n m k : ℕ) : List (List ℝ) :=
  (List.range m).map (fun t => (List.range k).map (fun y => ibQ pxy W n t y))

theorem ibJointTY_isMat (pxy W : List (List ℝ)) (n m k : ℕ) : IsMat (ibJointTY pxy W n m k) m k :=
  isMat_range_map m k _

theorem ent_ibJointTY (pxy W : List (List ℝ)) (n m k t y : ℕ) (ht : t < m) (hy : y < k) :
    ent (ibJointTY pxy W n m k) t y = ibQ pxy W n t y :=
  ent_range_map m k _ t y ht hy

/-! ### Concrete instances (used by the non-vacuity examples of Props/C13BA.lean) -/

theorem ex_hamming : (hammingDist 2 2 : List (List ℝ)) = [[0, 1], [1, 0]] := rfl

/-- Uniform binary source, Hamming distortion, `β = 1`: BSC(1/3) is a fixed point. -/
theorem ex_fix : (baStep (fun x => (2 : ℝ) ^ x) 1 [1 / 2, 1 / 2] (fun _ => hammingDist 2 2)
    (bsc (1 / 3))).1 = bsc (1 / 3) := by
  rw [baStep_fst, bsc_out, ex_hamming]
  simp only [baNextW, bsc, lsum, List.map, List.zipWith, List.foldl]
  norm_num [Real.rpow_neg_one]

theorem ex_fix_pos : ∀ y < 2, 0 < vec (outputLaw [(1 : ℝ) / 2, 1 / 2] (bsc (1 / 3))) y := by
  rw [bsc_out]
  intro y hy
  interval_cases y <;> exact half_pos one_pos

theorem ex_law34 : IsLaw [(3 : ℝ) / 4, 1 / 4] 2 :=
  isLaw_pair _ _ (by norm_num) (by norm_num) (by norm_num)

theorem ex_collapse : IsChannel [[(1 : ℝ), 0], [1, 0]] 2 2 :=
  have h : IsLaw [(1 : ℝ), 0] 2 := isLaw_pair 1 0 zero_le_one le_rfl (add_zero 1)
  isChannel_pair _ _ 2 h h

theorem ex_kkt_out : outputLaw [(3 : ℝ) / 4, 1 / 4] [[1, 0], [1, 0]] = [1, 0] := by
  show [(0 : ℝ) + 3 / 4 * 1 + 1 / 4 * 1, 0 + 3 / 4 * 0 + 1 / 4 * 0] = [1, 0]
  norm_num

/-- Source `(3/4, 1/4)`, Hamming, `β = 1`: the channel sending everything to output `0` is a
fixed point; its output law `(1, 0)` has a zero entry. -/
theorem ex_kkt_fix : (baStep (fun x => (2 : ℝ) ^ x) 1 [3 / 4, 1 / 4] (fun _ => hammingDist 2 2)
    [[1, 0], [1, 0]]).1 = [[1, 0], [1, 0]] := by
  rw [baStep_fst, ex_hamming, ex_kkt_out]
  simp only [baNextW, lsum, List.map, List.zipWith, List.foldl]
  norm_num [Real.rpow_neg_one]

/-- For the fixed point of `ex_kkt_fix`, the column constraint on the unused output letter reads
`7/8 ≤ 1`. -/
theorem ex_kkt_c : ∀ y < 2, vec (outputLaw [(3 : ℝ) / 4, 1 / 4] [[1, 0], [1, 0]]) y = 0 →
    ∑ x ∈ range 2, vec [(3 : ℝ) / 4, 1 / 4] x
      * (1 / ∑ y' ∈ range 2, vec (outputLaw [(3 : ℝ) / 4, 1 / 4] [[1, 0], [1, 0]]) y'
          * (2 : ℝ) ^ (-(1 * ent (hammingDist 2 2) x y')))
      * (2 : ℝ) ^ (-(1 * ent (hammingDist 2 2) x y)) ≤ 1 := by
  rw [ex_kkt_out, ex_hamming]
  intro y hy h0
  interval_cases y
  · exact absurd h0 one_ne_zero
  · simp only [sum_range_succ, sum_range_zero, ent, vec, List.getD_cons_zero, List.getD_cons_succ]
    norm_num [Real.rpow_neg_one]

/-- A joint law `p(x,y)` for the information-bottleneck examples. -/
theorem ex_pxy : IsMat [[(1 : ℝ) / 4, 1 / 4], [0, 1 / 2]] 2 2
    ∧ ∀ x < 2, ∀ y < 2, 0 ≤ ent [[(1 : ℝ) / 4, 1 / 4], [0, 1 / 2]] x y := by
  refine ⟨⟨rfl, by decide⟩, fun x hx y hy => ?_⟩
  interval_cases x <;> interval_cases y <;>
    simp only [ent, vec, List.getD_cons_zero, List.getD_cons_succ] <;> norm_num

end Dit.Lemmas.BA
