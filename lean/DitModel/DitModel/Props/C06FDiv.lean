/-
C06 (companion) — the textbook f-divergence (`Core/FDiv.lean`) and its axioms.

For a convex `f` on `[0, ∞)` with `f(1) = 0`, and a list of pairs `(p, q)` of non-negative numbers with
`Σ p = Σ q = 1`: `D_f(P‖P) = 0`, `D_f(P‖Q) ≥ 0` (Jensen), and the classical instances: `f(t) = |t − 1| / 2` gives the
variational distance, `f(t) = t log₂ t` the Kullback–Leibler divergence (with `f'(∞) = +∞`: infinite exactly when the
first support leaves the second), `f(t) = (t − 1)²` the chi-square divergence.
-/
import DitModel.Lemmas.FDiv

namespace Dit.Props.C06FDiv
open Dit Dit.Lemmas.Table Dit.Lemmas.InfoReal Dit.Lemmas.Diverge Dit.Lemmas.FDiv

/-- **`f'(∞)` finite**: the value is the plain sum of the terms. -/
theorem fdivVals_finite (f : ℝ → ℝ) (c : ℝ) (pq : List (ℝ × ℝ)) :
    fdivVals f (some c) pq
      = some ((pq.map (fun r => if r.2 = 0 then (if r.1 = 0 then 0 else r.1 * c) else r.2 * f (r.1 / r.2))).sum) :=
  fdivVals_of_some f (some c) _ pq (fun r _ => fdivTerm_some f c r)

/-- **Infinite exactly on a support violation** when `f'(∞) = +∞`. -/
theorem fdivVals_none_iff (f : ℝ → ℝ) (pq : List (ℝ × ℝ)) :
    fdivVals f none pq = none ↔ ∃ r ∈ pq, r.2 = 0 ∧ r.1 ≠ 0 := by
  constructor
  · intro h
    by_contra hac
    push Not at hac
    rw [fdivVals_of_some f none _ pq (fun r hr => fdivTerm_of_ac f none r (hac r hr))] at h
    cases h
  · rintro ⟨r, hr, h⟩
    exact fdivVals_of_none f none pq ⟨r, hr, (fdivTerm_none_iff f r).mpr h⟩

/-- **`D_f(P‖P) = 0`** for `f(1) = 0`, whatever `f'(∞)` is. -/
theorem fdiv_self (f : ℝ → ℝ) (finf : Option ℝ) (hf1 : f 1 = 0) (p : List ℝ) :
    fdivVals f finf (p.map (fun x => (x, x))) = some 0 := by
  rw [fdivVals_of_some f finf (fun _ => 0), List.sum_map_zero]
  intro r hr
  obtain ⟨x, _, rfl⟩ := List.mem_map.mp hr
  rw [fdivTerm_of_ac f finf (x, x) id]
  by_cases hx : x = 0
  · rw [hx, zero_mul]
  · rw [div_self hx, hf1, mul_zero]

/-- **Non-negativity (Jensen)**: for `f` convex on `[0, ∞)` with `f(1) = 0`, non-negative pairs with `Σ p = Σ q = 1`,
every `q > 0` where `p > 0` (so all terms are finite): `0 ≤ D_f(P‖Q)`. -/
theorem fdiv_nonneg (f : ℝ → ℝ) (hconv : ConvexOn ℝ (Set.Ici 0) f) (hf1 : f 1 = 0) (c : ℝ)
    (pq : List (ℝ × ℝ)) (hnn : ∀ r ∈ pq, 0 ≤ r.1 ∧ 0 ≤ r.2)
    (hp : (pq.map (·.1)).sum = 1) (hq : (pq.map (·.2)).sum = 1)
    (hac : ∀ r ∈ pq, r.2 = 0 → r.1 = 0) :
    ∃ v, fdivVals f (some c) pq = some v ∧ 0 ≤ v := by
  have h := jensen_list f hconv pq hnn hq hac
  rw [hp, hf1] at h
  exact ⟨_, fdivVals_of_some f (some c) _ pq (fun r hr => fdivTerm_of_ac f (some c) r (hac r hr)), h⟩

/-- Non-vacuity of the hypotheses of `fdiv_nonneg`: `f(t) = (t − 1)²` is convex on `[0, ∞)` with `f(1) = 0`, and the
pairs `(1/4, 1/2), (3/4, 1/2)` are non-negative, sum to one in each component and satisfy the support condition. -/
example : ConvexOn ℝ (Set.Ici 0) (fun t : ℝ => (t - 1) ^ 2) ∧ (fun t : ℝ => (t - 1) ^ 2) 1 = 0
    ∧ (∀ r ∈ [((1 : ℝ) / 4, (1 : ℝ) / 2), (3 / 4, 1 / 2)], 0 ≤ r.1 ∧ 0 ≤ r.2)
    ∧ ([((1 : ℝ) / 4, (1 : ℝ) / 2), (3 / 4, 1 / 2)].map (·.1)).sum = 1
    ∧ ([((1 : ℝ) / 4, (1 : ℝ) / 2), (3 / 4, 1 / 2)].map (·.2)).sum = 1
    ∧ (∀ r ∈ [((1 : ℝ) / 4, (1 : ℝ) / 2), (3 / 4, 1 / 2)], r.2 = 0 → r.1 = 0) := by
  refine ⟨⟨convex_Ici 0, fun x _ y _ a b ha hb hab => ?_⟩, by norm_num, ?_, by norm_num, by norm_num, ?_⟩
  · obtain rfl : b = 1 - a := eq_sub_of_add_eq' hab
    simp only [smul_eq_mul]
    linear_combination mul_nonneg (mul_nonneg ha hb) (sq_nonneg (x - y))
  · simp only [List.forall_mem_cons, List.not_mem_nil, false_imp_iff, implies_true, and_true]
    norm_num
  · intro r hr h; simp at hr; rcases hr with rfl | rfl <;> norm_num at h

/-- **Variational distance** is the f-divergence of `f(t) = |t − 1| / 2` with `f'(∞) = 1/2`. -/
theorem fdiv_tv (pq : List (ℝ × ℝ)) (hnn : ∀ r ∈ pq, 0 ≤ r.1 ∧ 0 ≤ r.2) :
    fdivVals (fun t => |t - 1| / 2) (some (1 / 2)) pq = some (tvVals 2 pq) := by
  rw [fdivVals_of_some _ _ _ pq (fun r hr => fdivTerm_tv r (hnn r hr).1 (hnn r hr).2), tvVals_eq]
  simp only [div_eq_mul_inv, List.sum_map_mul_right]

/-- **Kullback–Leibler divergence** is the f-divergence of `f(t) = t log₂ t` (`f(0) = 0`) with `f'(∞) = +∞`. -/
theorem fdiv_kl (pq : List (ℝ × ℝ)) (hnn : ∀ r ∈ pq, 0 ≤ r.1 ∧ 0 ≤ r.2) :
    fdivVals (fun t => t * Real.logb 2 t) none pq = klVals (Real.logb 2) pq := by
  have _ := hnn
  rw [klVals_eq]
  by_cases hac : absCont pq = true
  · rw [if_pos hac]
    have hac' := (absCont_iff pq).mp hac
    rw [fdivVals_of_some _ none (fun r => r.1 * Real.logb 2 (r.1 / r.2)) pq (fun r hr => by
      rw [fdivTerm_of_ac _ none r (hac' r hr), ← mul_assoc, mul_div_cancel_of_imp' (hac' r hr)])]
    rfl
  · rw [if_neg hac]
    obtain ⟨r, hr, h1, h2⟩ := (absCont_false_iff pq).mp (by simpa using hac)
    exact fdivVals_of_none _ none pq ⟨r, hr, (fdivTerm_none_iff _ r).mpr ⟨h2, h1⟩⟩

/-- **Chi-square**: `f(t) = (t − 1)²` on pairs with `q > 0` gives `Σ (p − q)² / q`. -/
theorem fdiv_chi2 (pq : List (ℝ × ℝ)) (hq : ∀ r ∈ pq, r.2 ≠ 0) :
    fdivVals (fun t => (t - 1) ^ 2) none pq = some ((pq.map (fun r => (r.1 - r.2) ^ 2 / r.2)).sum) := by
  refine fdivVals_of_some _ none _ pq (fun r hr => ?_)
  have h := hq r hr
  rw [fdivTerm_of_ne _ none r h, div_sub_one h, div_pow, sq r.2, ← div_div, mul_div_cancel₀ _ h]

/-- The variational distance of `(1/4, 3/4, 0)` and `(1/4, 1/4, 1/2)` as an f-divergence. -/
example : fdivVals (fun t : ℝ => |t - 1| / 2) (some (1 / 2)) [(1 / 4, 1 / 4), (3 / 4, 1 / 4), (0, 1 / 2)]
    = some (1 / 2) := by
  rw [fdiv_tv _ (by simp only [List.forall_mem_cons, List.not_mem_nil, false_imp_iff, implies_true]; norm_num),
    tvVals_eq]
  norm_num [abs_of_nonneg]

end Dit.Props.C06FDiv
