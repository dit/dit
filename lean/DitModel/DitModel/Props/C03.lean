/-
C03 — Conditioning factorises the joint distribution, and `joint_from_factors` inverts it.

Theorems about `Dist.conditionOn`, `interleave` and `jointFromFactors` (Core/Coalesce.lean) over
an arbitrary field of "probabilities".  Throughout, `(d.makeSparse cfg true).tab` is the list of
the *non-null stored rows* of `d` (`condition_on` starts with `d.make_sparse()`), `wtBy p t` is
the weight of the event `p` in the table `t`, and the joint fibre sum of a conditioning outcome
`c` and a kept outcome `r` is
`wtBy (fun o => project cidx o = c ∧ project idx o = r) (d.makeSparse cfg true).tab`.
No assumption is made on the stored table of `d` (it may even repeat outcomes: all rows count).
`condTab cidx idx ds (c, pc)` (Lemmas/Cond.lean) is a name for the internal, un-trimmed
conditional table `t` of the model (`conditionOn_conds` holds by `rfl`).
Helper lemmas: Lemmas/Cond.lean, Lemmas/Table.lean, Props/C02.lean.
-/
import DitModel.Lemmas.Cond
import DitModel.Props.C02
import Mathlib.Algebra.Field.Rat

namespace Dit.Props.C03
open Dit Dit.Lemmas.ListBasics Dit.Lemmas.Table Dit.Lemmas.Cond Dit.Props.C02

/-! ### Stored rows of the two marginals used by `condition_on` -/

section Rows
variable {σ α : Type} [DecidableEq σ] [Field α]

variable (cfg : NumCfg α) (outLt : List σ → List σ → Bool) (d : Dist σ α)

theorem sparse_marginal_row (g : List Nat) (c : List σ) (pc : α)
    (h : (c, pc) ∈ ((d.makeSparse cfg true).marginal cfg outLt g).tab) :
    pc = wtBy (fun k => project g k = c) (d.makeSparse cfg true).tab
      ∧ cfg.isNull d.base pc = false := by
  have hs := coalesce1_sparse cfg outLt (d.makeSparse cfg true) g rfl
  have h1 := hs.2.2.2 c pc h
  have h2 := ((hs.2.2.1 c).mp (mem_keys.mpr ⟨pc, h⟩)).2
  exact ⟨h1, by rw [h1]; exact h2⟩

theorem sparse_marginal_keys_nodup (g : List Nat) :
    (keys ((d.makeSparse cfg true).marginal cfg outLt g).tab).Nodup :=
  (coalesce1_sparse cfg outLt (d.makeSparse cfg true) g rfl).1

theorem mem_keys_sparse_marginal (g : List Nat) (o : List σ) :
    o ∈ keys ((d.makeSparse cfg true).marginal cfg outLt g).tab
      ↔ (∃ k ∈ keys (d.makeSparse cfg true).tab, project g k = o)
        ∧ cfg.isNull d.base (wtBy (fun k => project g k = o) (d.makeSparse cfg true).tab)
            = false :=
  (coalesce1_sparse cfg outLt (d.makeSparse cfg true) g rfl).2.2.1 o

theorem sparse_marginal_space (g : List Nat) :
    ((d.makeSparse cfg true).marginal cfg outLt g).space = d.space.extract outLt g :=
  (coalesce1_meta cfg outLt (d.makeSparse cfg true) g).2.2.1

/-- `wtBy_condDist_tab` for the tables `condition_on` builds. `hnn`: every row agreeing with `c`
has a non-null `idx`-marginal, so its outcome is listed by the `idx`-marginal. -/
theorem wtBy_condDist_marginal (cidx idx : List Nat) (c : List σ × α) (q : List σ → Prop)
    [DecidablePred q]
    (hex : ∀ x, cfg.isNull d.base x = true → x = 0)
    (hnn : ∀ k ∈ keys (d.makeSparse cfg true).tab, project cidx k = c.1 →
      cfg.isNull d.base
        (wtBy (fun o => project idx o = project idx k) (d.makeSparse cfg true).tab) = false)
    (hin : d.sparse = false → ∀ k ∈ keys (d.makeSparse cfg true).tab, k ∈ d.space.toList)
    (hsp : d.sparse = false → (d.space.extract outLt idx).toList.Nodup) :
    wtBy q (condDist cfg d ((d.makeSparse cfg true).marginal cfg outLt idx)
        (condTab cidx idx (d.makeSparse cfg true).tab c)).tab
      = wtBy q (condTab cidx idx (d.makeSparse cfg true).tab c) := by
  refine wtBy_condDist_tab cfg d _ _ q hex (sparse_marginal_keys_nodup cfg outLt d idx)
    (keys_condTab_nodup _ _ _ _) (fun o ho => ?_) (fun hd => ?_)
  · obtain ⟨k, hk, hkc, rfl⟩ := (mem_keys_condTab _ _ _ _ _).mp ho
    exact (mem_keys_sparse_marginal cfg outLt d idx _).mpr ⟨⟨k, hk, rfl⟩, hnn k hk hkc⟩
  · rw [sparse_marginal_space]
    refine ⟨hsp hd, fun o ho => ?_⟩
    obtain ⟨⟨k, hk, rfl⟩, _⟩ := (mem_keys_sparse_marginal cfg outLt d idx o).mp ho
    exact space_projection outLt d.space idx k (hin hd k hk)

end Rows

section Cond
variable {σ α : Type} [DecidableEq σ] [Field α]

/-- **The first component is the marginal on the conditioning variables** of the non-null
stored rows: by definition, and hence (C02 `marginal_get`) its value at an outcome `o` of the
projected sample space is the fibre sum of the non-null stored rows — read as an exact zero
when that sum is itself null (the marginal is built sparse and trimmed). -/
theorem cond_cdist (cfg : NumCfg α) (outLt : List σ → List σ → Bool) (d : Dist σ α)
    (cidx idx : List Nat) :
    (d.conditionOn cfg outLt cidx idx).cdist = (d.makeSparse cfg true).marginal cfg outLt cidx
      ∧ ∀ o ∈ (d.space.extract outLt cidx).toList,
          (d.conditionOn cfg outLt cidx idx).cdist.get o
              = some (wtBy (fun k => project cidx k = o) (d.makeSparse cfg true).tab)
          ∨ (cfg.isNull d.base (wtBy (fun k => project cidx k = o) (d.makeSparse cfg true).tab)
                = true
              ∧ (d.conditionOn cfg outLt cidx idx).cdist.get o = some 0) :=
  ⟨rfl, fun o ho => (marginal_get cfg outLt (d.makeSparse cfg true) cidx o ho).imp_right And.right⟩

/-- **Stored conditioning outcomes.** The marginal on the conditioning variables stores each
outcome once; a stored row `(c, pc)` carries the fibre sum of `c`, which is not null — hence
non-zero as soon as zero is null (`np.isclose(0, 0)`). These are the "positive-probability
outcomes" the conditionals are listed for. -/
theorem cond_cdist_rows (cfg : NumCfg α) (outLt : List σ → List σ → Bool) (d : Dist σ α)
    (cidx idx : List Nat) :
    (keys (d.conditionOn cfg outLt cidx idx).cdist.tab).Nodup
      ∧ ∀ c pc, (c, pc) ∈ (d.conditionOn cfg outLt cidx idx).cdist.tab →
          pc = wtBy (fun k => project cidx k = c) (d.makeSparse cfg true).tab
            ∧ cfg.isNull d.base pc = false
            ∧ (cfg.isNull d.base 0 = true → pc ≠ 0) := by
  refine ⟨sparse_marginal_keys_nodup cfg outLt d cidx, fun c pc h => ?_⟩
  obtain ⟨h1, h2⟩ := sparse_marginal_row cfg outLt d cidx c pc h
  refine ⟨h1, h2, fun h0 hz => ?_⟩
  rw [hz, h0] at h2; cases h2

/-- **One conditional per stored conditioning outcome, in order.** The list of conditionals
has the length of the stored table of the marginal, and its `i`-th member is the conditional
built for the `i`-th stored row. -/
theorem cond_count (cfg : NumCfg α) (outLt : List σ → List σ → Bool) (d : Dist σ α)
    (cidx idx : List Nat) :
    (d.conditionOn cfg outLt cidx idx).conds.length
        = (d.conditionOn cfg outLt cidx idx).cdist.tab.length
      ∧ ∀ i : Nat, (d.conditionOn cfg outLt cidx idx).conds[i]?
          = ((d.conditionOn cfg outLt cidx idx).cdist.tab[i]?).map (fun c =>
              condDist cfg d ((d.makeSparse cfg true).marginal cfg outLt idx)
                (condTab cidx idx (d.makeSparse cfg true).tab c)) := by
  rw [conditionOn_conds, conditionOn_cdist]
  exact ⟨List.length_map _, fun i => List.getElem?_map⟩

theorem cond_eq_condDist (cfg : NumCfg α) (outLt : List σ → List σ → Bool) (d : Dist σ α)
    (cidx idx : List Nat) {i : Nat} {c : List σ × α} {D : Dist σ α}
    (hc : (d.conditionOn cfg outLt cidx idx).cdist.tab[i]? = some c)
    (hD : (d.conditionOn cfg outLt cidx idx).conds[i]? = some D) :
    D = condDist cfg d ((d.makeSparse cfg true).marginal cfg outLt idx)
      (condTab cidx idx (d.makeSparse cfg true).tab c) := by
  have := (cond_count cfg outLt d cidx idx).2 i
  rw [hc, hD, Option.map_some] at this
  exact Option.some.inj this

/-- **Chain rule on the internal table.** For a conditioning row `(c, pc)` with `pc ≠ 0` and
every outcome `r`: `pc · P(r|c) = P(c, r)`, the joint fibre sum of the non-null stored rows;
`P(r|c)` is the value of `r` in the un-trimmed conditional table (zero if absent). -/
theorem cond_chain_tab (cidx idx : List Nat) (ds : Tab (List σ) α) (c : List σ) (pc : α)
    (hpc : pc ≠ 0) (r : List σ) :
    pc * lookupD 0 (pushforward (project idx)
          ((ds.filter (fun x => project cidx x.1 = c)).map (fun x => (x.1, x.2 * pc⁻¹)))) r
      = wtBy (fun o => project cidx o = c ∧ project idx o = r) ds :=
  condTab_chain cidx idx ds (c, pc) hpc r

/-- **Chain rule for the stored conditioning outcomes.** If zero is null, every stored row
`(c, pc)` of the marginal satisfies `pc · P(r|c) = P(c, r)` for all `r`, and `pc` is `P(c)`. -/
theorem cond_chain (cfg : NumCfg α) (outLt : List σ → List σ → Bool) (d : Dist σ α)
    (cidx idx : List Nat) (h0 : cfg.isNull d.base 0 = true) (c : List σ) (pc : α)
    (hc : (c, pc) ∈ (d.conditionOn cfg outLt cidx idx).cdist.tab) (r : List σ) :
    pc * lookupD 0 (condTab cidx idx (d.makeSparse cfg true).tab (c, pc)) r
        = wtBy (fun o => project cidx o = c ∧ project idx o = r) (d.makeSparse cfg true).tab
      ∧ pc = wtBy (fun o => project cidx o = c) (d.makeSparse cfg true).tab := by
  obtain ⟨h1, _, h3⟩ := (cond_cdist_rows cfg outLt d cidx idx).2 c pc hc
  exact ⟨condTab_chain cidx idx _ (c, pc) (h3 h0) r, h1⟩

/-- **Chain rule on the returned conditional distributions.** Let `(c, pc)` be the `i`-th
stored row of the marginal and `D` the `i`-th conditional. For an outcome `o` of the sample
space of the kept variables, `D[o] = v` with `pc · v = P(c, o)` — except that `v` is an exact
zero (a) when the `idx`-marginal of `o` is null (the conditional is tabulated over the stored
outcomes of the sparse, trimmed `idx`-marginal), or (b) when the source is sparse and the exact
conditional probability `q` (`pc · q = P(c, o)`) is null and was trimmed.  Outcomes outside the
sample space are invalid. -/
theorem cond_chain_get (cfg : NumCfg α) (outLt : List σ → List σ → Bool) (d : Dist σ α)
    (cidx idx : List Nat) (h0 : cfg.isNull d.base 0 = true) (i : Nat) (c : List σ) (pc : α)
    (D : Dist σ α)
    (hc : (d.conditionOn cfg outLt cidx idx).cdist.tab[i]? = some (c, pc))
    (hD : (d.conditionOn cfg outLt cidx idx).conds[i]? = some D) (o : List σ) :
    (o ∈ (d.space.extract outLt idx).toList → ∃ v, D.get o = some v ∧
        (pc * v = wtBy (fun k => project cidx k = c ∧ project idx k = o)
                    (d.makeSparse cfg true).tab
          ∨ (cfg.isNull d.base (wtBy (fun k => project idx k = o) (d.makeSparse cfg true).tab)
                = true ∧ v = 0)
          ∨ (d.sparse = true ∧ v = 0 ∧ ∃ q, cfg.isNull d.base q = true ∧
                pc * q = wtBy (fun k => project cidx k = c ∧ project idx k = o)
                    (d.makeSparse cfg true).tab)))
      ∧ (o ∉ (d.space.extract outLt idx).toList → D.get o = none) := by
  obtain rfl := cond_eq_condDist cfg outLt d cidx idx hc hD
  have hchain := (cond_chain cfg outLt d cidx idx h0 c pc (List.mem_of_getElem? hc) o).1
  rw [← sparse_marginal_space cfg outLt d idx]
  refine ⟨fun ho => ?_, fun ho => get_outside (by rwa [condDist_space])⟩
  rw [condDist_get cfg d _ _ (sparse_marginal_keys_nodup cfg outLt d idx) o ho]
  by_cases hk : o ∈ keys ((d.makeSparse cfg true).marginal cfg outLt idx).tab
  · rw [if_pos hk]
    split
    · next hn => exact ⟨0, rfl, Or.inr (Or.inr ⟨hn.1, rfl, _, hn.2, hchain⟩)⟩
    · exact ⟨_, rfl, Or.inl hchain⟩
  · -- `o` is not stored by the `idx`-marginal: the conditional reads zero
    refine ⟨0, by rw [if_neg hk, ite_self], ?_⟩
    rw [mem_keys_sparse_marginal] at hk
    by_cases hex : ∃ k ∈ keys (d.makeSparse cfg true).tab, project idx k = o
    · exact Or.inr (Or.inl ⟨by simpa using fun h => hk ⟨hex, h⟩, rfl⟩)
    · refine Or.inl ?_
      rw [mul_zero, wtBy_eq_zero]
      exact fun k hk' hko => hex ⟨k, hk', hko.2⟩

/-- **Normalisation.** If zero is null, the un-trimmed conditional table of every stored
conditioning outcome has total mass one: `Σ_r P(r|c) = 1`. -/
theorem cond_normalised (cfg : NumCfg α) (outLt : List σ → List σ → Bool) (d : Dist σ α)
    (cidx idx : List Nat) (h0 : cfg.isNull d.base 0 = true) (c : List σ) (pc : α)
    (hc : (c, pc) ∈ (d.conditionOn cfg outLt cidx idx).cdist.tab) :
    mass (condTab cidx idx (d.makeSparse cfg true).tab (c, pc)) = 1 := by
  obtain ⟨h1, _, h3⟩ := (cond_cdist_rows cfg outLt d cidx idx).2 c pc hc
  exact condTab_mass cidx idx _ (c, pc) (h3 h0) h1

/-- **The returned conditionals carry the weights of the conditional tables, and are
normalised.** Under an exact null test (`isNull x → x = 0`, so that trimming drops only
zeros), when every non-null stored row agreeing with `c` has a non-null `idx`-marginal and —
dense source — the stored outcomes lie in the sample space and the kept variables' sample
space lists each outcome once: the `i`-th returned conditional has, for every event, the
weight of that event in the un-trimmed conditional table; in particular its total mass is 1.
(The hypotheses are needed: the conditional is re-tabulated over the stored outcomes of the
trimmed `idx`-marginal / the new sample space, which would otherwise lose or duplicate mass.) -/
theorem cond_normalised_dist (cfg : NumCfg α) (outLt : List σ → List σ → Bool) (d : Dist σ α)
    (cidx idx : List Nat) (h0 : cfg.isNull d.base 0 = true)
    (hex : ∀ x, cfg.isNull d.base x = true → x = 0)
    (hnn : ∀ k ∈ keys (d.makeSparse cfg true).tab, cfg.isNull d.base
        (wtBy (fun o => project idx o = project idx k) (d.makeSparse cfg true).tab) = false)
    (hin : d.sparse = false → ∀ k ∈ keys (d.makeSparse cfg true).tab, k ∈ d.space.toList)
    (hsp : d.sparse = false → (d.space.extract outLt idx).toList.Nodup)
    (i : Nat) (c : List σ) (pc : α) (D : Dist σ α)
    (hc : (d.conditionOn cfg outLt cidx idx).cdist.tab[i]? = some (c, pc))
    (hD : (d.conditionOn cfg outLt cidx idx).conds[i]? = some D) :
    (∀ (q : List σ → Prop) [DecidablePred q],
        wtBy q D.tab = wtBy q (condTab cidx idx (d.makeSparse cfg true).tab (c, pc)))
      ∧ mass D.tab = 1 := by
  obtain rfl := cond_eq_condDist cfg outLt d cidx idx hc hD
  have key := fun (q : List σ → Prop) [DecidablePred q] =>
    wtBy_condDist_marginal cfg outLt d cidx idx (c, pc) q hex (fun k hk _ => hnn k hk) hin hsp
  refine ⟨fun q _ => key q, ?_⟩
  rw [← wtBy_true, key, wtBy_true]
  exact cond_normalised cfg outLt d cidx idx h0 c pc (List.mem_of_getElem? hc)

/-- **Metadata.** Every returned conditional has the base and the sparsity of the source and
the sample space of the marginal on the kept variables (the projected sample space). -/
theorem cond_meta (cfg : NumCfg α) (outLt : List σ → List σ → Bool) (d : Dist σ α)
    (cidx idx : List Nat) (D : Dist σ α) (hD : D ∈ (d.conditionOn cfg outLt cidx idx).conds) :
    D.base = d.base ∧ D.sparse = d.sparse
      ∧ D.space = ((d.makeSparse cfg true).marginal cfg outLt idx).space
      ∧ D.space = d.space.extract outLt idx := by
  rw [conditionOn_conds] at hD
  obtain ⟨c, _, rfl⟩ := List.mem_map.mp hD
  refine ⟨condDist_base .., condDist_sparse .., condDist_space .., ?_⟩
  rw [condDist_space, sparse_marginal_space]

end Cond

/-! ### `interleave` and `joint_from_factors` -/

section JFF
variable {σ α : Type} [DecidableEq σ]

set_option linter.unusedSectionVars false in
/-- **Variable order restored.** If `u` lists the (valid) positions of `cidx` and `idx`
together, each in its own order, then interleaving the two projections of an outcome along the
mask `u.map (· ∈ cidx)` is the projection onto `u`. -/
theorem interleave_project (cidx idx u : List Nat) (o : List σ)
    (hu1 : u.filter (fun i => decide (i ∈ cidx)) = cidx)
    (hu2 : u.filter (fun i => !decide (i ∈ cidx)) = idx)
    (h : ∀ i ∈ u, i < o.length) :
    interleave (u.map (fun i => decide (i ∈ cidx))) (project cidx o) (project idx o)
      = project u o := by
  have := interleave_project_filter (fun i => decide (i ∈ cidx)) u o h
  rwa [hu1, hu2] at this

/-- **Variable order restored, sorted merge.** For strictly increasing, disjoint `cidx` and
`idx` (what `parse_rvs` and the disjointness check of `condition_on` guarantee) and
`u = sorted (cidx ++ idx)`, the interleaving of the two projections is the projection onto the
sorted union: the variables come back in their original order. -/
theorem interleave_project_merge (cidx idx : List Nat) (o : List σ)
    (hc : cidx.Pairwise (· < ·)) (hi : idx.Pairwise (· < ·)) (hdis : ∀ i ∈ cidx, i ∉ idx)
    (h : ∀ i ∈ cidx ++ idx, i < o.length) :
    interleave ((isort (fun a b => decide (a < b)) (cidx ++ idx)).map (fun i => decide (i ∈ cidx)))
        (project cidx o) (project idx o)
      = project (isort (fun a b => decide (a < b)) (cidx ++ idx)) o
      ∧ (isort (fun a b => decide (a < b)) (cidx ++ idx)).Pairwise (· ≤ ·) := by
  obtain ⟨h1, h2⟩ := merge_filter cidx idx hc hi hdis
  exact ⟨interleave_project cidx idx _ o h1 h2 (fun i hi' => h i (mem_isort.mp hi')),
    isort_nat_sorted _⟩

set_option linter.unusedSectionVars false in
/-- **Events of the recombined table.** For any marginal table `m` and list of conditional
tables `cs` (paired position-wise), the weight of an event `p` in `joint_from_factors` is
`Σ_i m_i · (weight in cs_i of the outcomes y with interleave(x_i, y) ∈ p)`. -/
theorem jff_event [Semiring α] (p : List σ → Prop) [DecidablePred p] (mask : List Bool)
    (m : Tab (List σ) α) (cs : List (Tab (List σ) α)) :
    wtBy p (jointFromFactors mask m cs)
      = ((m.zip cs).map (fun mc =>
          mc.1.2 * wtBy (fun y => p (interleave mask mc.1.1 y)) mc.2)).sum :=
  wtBy_jff p mask m cs

/-- **Stored values of the recombined table.** If the marginal and each conditional list each
outcome once, all marginal outcomes have length `a ≤ #true(mask)` and all conditional outcomes
length `b ≤ #false(mask)` (so that `interleave` is injective and the recombined table lists
each outcome once), then the stored value of `z` is
`Σ_i m_i · Σ {cs_i(y) | interleave(x_i, y) = z}`; the number of rows is the total number of
conditional rows paired with a marginal row. -/
theorem jff_lookup [Semiring α] (mask : List Bool) (m : Tab (List σ) α)
    (cs : List (Tab (List σ) α)) (a b : Nat)
    (hm : (keys m).Nodup) (hcs : ∀ t ∈ cs, (keys t).Nodup)
    (hma : ∀ x ∈ keys m, x.length = a) (hcb : ∀ t ∈ cs, ∀ y ∈ keys t, y.length = b)
    (ha : a ≤ mask.count true) (hb : b ≤ mask.count false) (z : List σ) :
    (keys (jointFromFactors mask m cs)).Nodup
      ∧ lookupD 0 (jointFromFactors mask m cs) z
          = ((m.zip cs).map (fun mc =>
              mc.1.2 * wtBy (fun y => interleave mask mc.1.1 y = z) mc.2)).sum := by
  have hnd := jff_keys_nodup mask m cs a b hm hcs hma hcb ha hb
  refine ⟨hnd, ?_⟩
  rw [lookupD_eq_wtBy hnd, wtBy_jff]

set_option linter.unusedSectionVars false in
/-- `interleave` is injective on outcome pairs of fixed lengths that fit the mask. -/
theorem interleave_injective (mask : List Bool) (x x' y y' : List σ)
    (hx : x.length = x'.length) (hy : y.length = y'.length)
    (hxm : x.length ≤ mask.count true) (hym : y.length ≤ mask.count false)
    (h : interleave mask x y = interleave mask x' y') : x = x' ∧ y = y' :=
  interleave_inj mask x x' y y' hx hy hxm hym h

end JFF

section Recombine
variable {σ α : Type} [DecidableEq σ] [Field α]

/-- **Recombination, un-trimmed conditionals.** Let `u` list the positions `cidx` and `idx`
together (each in its own order; e.g. their sorted merge, `interleave_project_merge`), valid
for every non-null stored outcome, and let zero be null.  Recombining the marginal returned by
`condition_on` with the un-trimmed conditional tables gives every event `p` of the union
variables the joint weight of `p` among the non-null stored rows whose conditioning outcome
has a non-null probability — i.e. `Σ_c P(c) P(r|c) = P(c, r)` over the listed `c`. -/
theorem jff_cond (cfg : NumCfg α) (outLt : List σ → List σ → Bool) (d : Dist σ α)
    (cidx idx u : List Nat) (h0 : cfg.isNull d.base 0 = true)
    (hu1 : u.filter (fun i => decide (i ∈ cidx)) = cidx)
    (hu2 : u.filter (fun i => !decide (i ∈ cidx)) = idx)
    (hlen : ∀ k ∈ keys (d.makeSparse cfg true).tab, ∀ i ∈ u, i < k.length)
    (p : List σ → Prop) [DecidablePred p] :
    wtBy p (jointFromFactors (u.map (fun i => decide (i ∈ cidx)))
        (d.conditionOn cfg outLt cidx idx).cdist.tab
        ((d.conditionOn cfg outLt cidx idx).cdist.tab.map
          (condTab cidx idx (d.makeSparse cfg true).tab)))
      = wtBy (fun o => p (project u o) ∧
          cfg.isNull d.base (wtBy (fun k => project cidx k = project cidx o)
            (d.makeSparse cfg true).tab) = false) (d.makeSparse cfg true).tab := by
  have hrows := cond_cdist_rows cfg outLt d cidx idx
  have hjoint := wtBy_jff_condTab p (fun i => decide (i ∈ cidx)) u (d.makeSparse cfg true).tab _
    hrows.1 (fun c hc => (hrows.2 c.1 c.2 hc).2.2 h0) hlen
  rw [hu1, hu2] at hjoint
  rw [hjoint]
  refine wtBy_congr _ _ _ fun k hk => and_congr_right fun _ => ?_
  rw [conditionOn_cdist, mem_keys_sparse_marginal]
  exact and_iff_right ⟨k, hk, rfl⟩

/-- **Recombination reproduces the joint (un-trimmed conditionals).** If moreover no
conditioning outcome of a non-null stored row has a null probability, the recombined table
gives every event of the union variables exactly its joint weight (the marginal of the
non-null stored rows on `u`). -/
theorem jff_cond_joint (cfg : NumCfg α) (outLt : List σ → List σ → Bool) (d : Dist σ α)
    (cidx idx u : List Nat) (h0 : cfg.isNull d.base 0 = true)
    (hu1 : u.filter (fun i => decide (i ∈ cidx)) = cidx)
    (hu2 : u.filter (fun i => !decide (i ∈ cidx)) = idx)
    (hlen : ∀ k ∈ keys (d.makeSparse cfg true).tab, ∀ i ∈ u, i < k.length)
    (hcn : ∀ k ∈ keys (d.makeSparse cfg true).tab, cfg.isNull d.base
        (wtBy (fun o => project cidx o = project cidx k) (d.makeSparse cfg true).tab) = false)
    (p : List σ → Prop) [DecidablePred p] :
    wtBy p (jointFromFactors (u.map (fun i => decide (i ∈ cidx)))
        (d.conditionOn cfg outLt cidx idx).cdist.tab
        ((d.conditionOn cfg outLt cidx idx).cdist.tab.map
          (condTab cidx idx (d.makeSparse cfg true).tab)))
      = wtBy (fun o => p (project u o)) (d.makeSparse cfg true).tab := by
  rw [jff_cond cfg outLt d cidx idx u h0 hu1 hu2 hlen p]
  exact wtBy_congr _ _ _ fun k hk => and_iff_left (hcn k hk)

/-- **Recombination of the returned distributions reproduces the joint.** Under an exact null
test and when no non-null stored row has a null `cidx`- or `idx`-marginal (and, for a dense
source, stored outcomes lie in the sample space and the kept variables' sample space lists each
outcome once), `joint_from_factors` applied to the marginal and to the stored tables of the
conditional distributions that `condition_on` returns gives every event of the union variables
its joint weight: the joint distribution over the conditioned and kept variables is
reproduced, in the variable order `u`. -/
theorem jff_cond_dists (cfg : NumCfg α) (outLt : List σ → List σ → Bool) (d : Dist σ α)
    (cidx idx u : List Nat) (h0 : cfg.isNull d.base 0 = true)
    (hex : ∀ x, cfg.isNull d.base x = true → x = 0)
    (hu1 : u.filter (fun i => decide (i ∈ cidx)) = cidx)
    (hu2 : u.filter (fun i => !decide (i ∈ cidx)) = idx)
    (hlen : ∀ k ∈ keys (d.makeSparse cfg true).tab, ∀ i ∈ u, i < k.length)
    (hcn : ∀ k ∈ keys (d.makeSparse cfg true).tab, cfg.isNull d.base
        (wtBy (fun o => project cidx o = project cidx k) (d.makeSparse cfg true).tab) = false)
    (hnn : ∀ k ∈ keys (d.makeSparse cfg true).tab, cfg.isNull d.base
        (wtBy (fun o => project idx o = project idx k) (d.makeSparse cfg true).tab) = false)
    (hin : d.sparse = false → ∀ k ∈ keys (d.makeSparse cfg true).tab, k ∈ d.space.toList)
    (hsp : d.sparse = false → (d.space.extract outLt idx).toList.Nodup)
    (p : List σ → Prop) [DecidablePred p] :
    wtBy p (jointFromFactors (u.map (fun i => decide (i ∈ cidx)))
        (d.conditionOn cfg outLt cidx idx).cdist.tab
        ((d.conditionOn cfg outLt cidx idx).conds.map (·.tab)))
      = wtBy (fun o => p (project u o)) (d.makeSparse cfg true).tab := by
  rw [← jff_cond_joint cfg outLt d cidx idx u h0 hu1 hu2 hlen hcn p,
    conditionOn_conds, List.map_map, conditionOn_cdist]
  exact wtBy_jff_map_congr _ _ _ _ _ fun c _ q _ =>
    wtBy_condDist_marginal cfg outLt d cidx idx c q hex (fun k hk _ => hnn k hk) hin hsp

end Recombine

/-! ### Non-vacuity: concrete instances over `Rat`

`dQ`: `P(00) = P(01) = 1/4, P(10) = 1/2` on two binary variables, sparse; `dQdense`: the same,
dense; `cfgQ`: the exact null test (example data defined in Lemmas/Cond.lean).
Conditioning on variable 0 gives conditionals with different supports. -/

section Examples

/-- The marginal on the conditioning variable. -/
example : (dQ.conditionOn cfgQ (fun a b => lexLt a b) [0] [1]).cdist.tab
    = [([0], 1 / 2), ([1], 1 / 2)] := by decide +kernel

/-- Two conditionals, with different supports (sparse source: the zero of `P(1|1)` is
trimmed). -/
example : (dQ.conditionOn cfgQ (fun a b => lexLt a b) [0] [1]).conds.map (·.tab)
    = [[([0], 1 / 2), ([1], 1 / 2)], [([0], 1)]] := by decide +kernel

/-- Dense source: the conditionals list the whole sample space. -/
example : (dQdense.conditionOn cfgQ (fun a b => lexLt a b) [0] [1]).conds.map (·.tab)
    = [[([0], 1 / 2), ([1], 1 / 2)], [([0], 1), ([1], 0)]] := by decide +kernel

/-- Conditioning on the second variable: the kept variable is variable 0. -/
example : (dQ.conditionOn cfgQ (fun a b => lexLt a b) [1] [0]).conds.map (·.tab)
    = [[([0], 1 / 3), ([1], 2 / 3)], [([0], 1)]] := by decide +kernel

/-- Hypotheses of `cond_chain`, `cond_normalised`, `cond_normalised_dist`, `jff_cond_joint`
and `jff_cond_dists` hold for the example (zero is null, the null test is exact on the values
that occur, `u = [0, 1]` splits into `[1]` and `[0]`, indices valid, no null marginal). -/
example : cfgQ.isNull dQ.base 0 = true := by decide +kernel
example (x : Rat) (h : cfgQ.isNull dQ.base x = true) : x = 0 := eq_of_beq h
example : [0, 1].filter (fun i => decide (i ∈ [1])) = [1]
    ∧ [0, 1].filter (fun i => !decide (i ∈ [1])) = [0] := by decide
example : ∀ k ∈ keys (dQ.makeSparse cfgQ true).tab, ∀ i ∈ [0, 1], i < k.length := by
  decide +kernel
example : ∀ k ∈ keys (dQ.makeSparse cfgQ true).tab, cfgQ.isNull dQ.base
    (wtBy (fun o => project [1] o = project [1] k) (dQ.makeSparse cfgQ true).tab) = false := by
  decide +kernel
example : ∀ k ∈ keys (dQ.makeSparse cfgQ true).tab, cfgQ.isNull dQ.base
    (wtBy (fun o => project [0] o = project [0] k) (dQ.makeSparse cfgQ true).tab) = false := by
  decide +kernel
example : (dQdense.space.extract (fun a b => lexLt a b) [0]).toList.Nodup
    ∧ ∀ k ∈ keys (dQdense.makeSparse cfgQ true).tab, k ∈ dQdense.space.toList := by
  decide +kernel

/-- Recombination with the mask of the kept variable (`true` = conditioning position):
conditioning on variable 1 and recombining restores the original variable order. -/
example :
    jointFromFactors ([0, 1].map (fun i => decide (i ∈ [1])))
      (dQ.conditionOn cfgQ (fun a b => lexLt a b) [1] [0]).cdist.tab
      ((dQ.conditionOn cfgQ (fun a b => lexLt a b) [1] [0]).conds.map (·.tab))
    = [([0, 0], 1 / 4), ([1, 0], 1 / 2), ([0, 1], 1 / 4)] := by decide +kernel

example : interleave [false, true, false] [7] [5, 6] = [5, 7, 6] := by decide

/-- The theorems apply to the driver's number type. -/
example (r : List Nat) (c : List Nat) (pc : Rat)
    (hc : (c, pc) ∈ (dQ.conditionOn cfgQ (fun a b => lexLt a b) [0] [1]).cdist.tab) :
    pc * lookupD 0 (condTab [0] [1] (dQ.makeSparse cfgQ true).tab (c, pc)) r
      = wtBy (fun o => project [0] o = c ∧ project [1] o = r) (dQ.makeSparse cfgQ true).tab :=
  (cond_chain cfgQ (fun a b => lexLt a b) dQ [0] [1] (by decide +kernel) c pc hc r).1

end Examples

end Dit.Props.C03
