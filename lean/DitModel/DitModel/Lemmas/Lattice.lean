/-
Helper lemmas for C17 (information decomposition on the redundancy lattice). The Möbius lemmas hold for any
duplicate-free list of nodes on which the strict order `rlt` is transitive (`TransOn`); what is particular to
the lattices of 2 and 3 sources is checked by evaluation (`decide +kernel`, section `Checked`) and everything
else about them follows from those facts. The closed forms are at `ℝ` with `log := Real.logb 2`.
-/
import DitModel.Core.Lattice
import DitModel.Lemmas.Table
import DitModel.Lemmas.InfoReal
import DitModel.Lemmas.Partition
import Mathlib.Tactic.Abel
import Mathlib.Algebra.Order.BigOperators.Group.List
import Mathlib.Algebra.BigOperators.Ring.List

namespace Dit.Lemmas.Lattice
open Dit Dit.Lemmas.ListBasics Dit.Lemmas.InfoAlg Dit.Lemmas.InfoReal

theorem length_filter_lt {β : Type} {l : List β} {p q : β → Bool}
    (hpq : ∀ a ∈ l, p a = true → q a = true) {w : β} (hw : w ∈ l) (hq : q w = true)
    (hp : p w = false) : (l.filter p).length < (l.filter q).length := by
  have e : l.filter p = (l.filter q).filter p := by
    rw [List.filter_filter]
    refine List.filter_congr fun a ha => ?_
    cases h : p a
    · rfl
    · rw [hpq a ha h]; rfl
  rw [e]
  exact List.length_filter_lt_length_iff_exists.mpr
    ⟨w, List.mem_filter.mpr ⟨hw, hq⟩, by rw [hp]; exact Bool.false_ne_true⟩

theorem rle_iff {a b : RNode} : rle a b = true ↔ ∀ β ∈ b, ∃ α ∈ a, ∀ i ∈ α, i ∈ β := by
  simp only [rle, List.all_eq_true, List.any_eq_true, vsubset_iff]

theorem rle_refl (a : RNode) : rle a a = true :=
  rle_iff.mpr fun β hβ => ⟨β, hβ, fun _ hi => hi⟩

theorem rle_trans {a b c : RNode} (hab : rle a b = true) (hbc : rle b c = true) :
    rle a c = true := by
  rw [rle_iff] at *
  intro γ hγ
  obtain ⟨β, hβ, h2⟩ := hbc γ hγ
  obtain ⟨α, hα, h1⟩ := hab β hβ
  exact ⟨α, hα, fun i hi => h2 i (h1 i hi)⟩

theorem rlt_iff {a b : RNode} : rlt a b = true ↔ rle a b = true ∧ a ≠ b := by
  simp [rlt]

theorem rlt_irrefl (a : RNode) : rlt a a = false := by simp [rlt]

def TransOn (nodes : List RNode) : Prop :=
  ∀ a ∈ nodes, ∀ b ∈ nodes, ∀ c ∈ nodes, rlt a b = true → rlt b c = true → rlt a c = true

theorem transOn_of_antisymm {nodes : List RNode}
    (h : ∀ a ∈ nodes, ∀ b ∈ nodes, rle a b = true → rle b a = true → a = b) : TransOn nodes := by
  intro a ha b hb c _ hab hbc
  rw [rlt_iff] at *
  refine ⟨rle_trans hab.1 hbc.1, ?_⟩
  rintro rfl
  exact hab.2 (h a ha b hb hab.1 hbc.1)

section Lub
variable {nodes : List RNode} {top : RNode} (htop : top ∈ nodes)
  (hle : ∀ a ∈ nodes, rle a top = true)
  (hglb : ∀ a ∈ nodes, ∀ b ∈ nodes, ∃ m ∈ nodes, rle m a = true ∧ rle m b = true
    ∧ ∀ c ∈ nodes, rle c a = true → rle c b = true → rle c m = true)
include htop hle hglb

theorem exists_glb_list (us : List RNode) (hus : ∀ u ∈ us, u ∈ nodes) :
    ∃ m ∈ nodes, (∀ u ∈ us, rle m u = true)
      ∧ ∀ c ∈ nodes, (∀ u ∈ us, rle c u = true) → rle c m = true := by
  induction us with
  | nil => exact ⟨top, htop, by simp, fun c hc _ => hle c hc⟩
  | cons u us ih =>
    obtain ⟨m', hm', hlow, hgr⟩ := ih fun v hv => hus v (List.mem_cons_of_mem _ hv)
    obtain ⟨m, hm, hmu, hmm', hmgr⟩ := hglb u (hus u List.mem_cons_self) m' hm'
    refine ⟨m, hm, ?_, fun c hc hcu => ?_⟩
    · intro v hv
      rcases List.mem_cons.mp hv with rfl | hv
      · exact hmu
      · exact rle_trans hmm' (hlow v hv)
    · exact hmgr c hc (hcu u List.mem_cons_self)
        (hgr c hc fun v hv => hcu v (List.mem_cons_of_mem _ hv))

theorem exists_lub_of_glb {a b : RNode} (ha : a ∈ nodes) (hb : b ∈ nodes) :
    ∃ j ∈ nodes, rle a j = true ∧ rle b j = true
      ∧ ∀ c ∈ nodes, rle a c = true → rle b c = true → rle j c = true := by
  obtain ⟨j, hj, hlow, hgr⟩ := exists_glb_list htop hle hglb
    (nodes.filter fun u => rle a u && rle b u) fun u hu => (List.mem_filter.mp hu).1
  have hub : ∀ u ∈ nodes.filter (fun u => rle a u && rle b u), rle a u = true ∧ rle b u = true :=
    fun u hu => Bool.and_eq_true_iff.mp (List.mem_filter.mp hu).2
  refine ⟨j, hj, hgr a ha fun u hu => (hub u hu).1, hgr b hb fun u hu => (hub u hu).2,
    fun c hc hac hbc => hlow c (List.mem_filter.mpr ⟨hc, ?_⟩)⟩
  rw [hac, hbc]; rfl

end Lub

section Moebius
variable {α : Type} [AddCommGroup α]

abbrev cnt (nodes : List RNode) (x : RNode) : Nat := (rbelow nodes x).length

theorem mem_rbelow {nodes : List RNode} {m x : RNode} :
    m ∈ rbelow nodes x ↔ m ∈ nodes ∧ rlt m x = true := by
  unfold rbelow; simp

theorem cnt_lt {nodes : List RNode} (htr : TransOn nodes) {m x : RNode} (hm : m ∈ nodes)
    (hx : x ∈ nodes) (h : rlt m x = true) : cnt nodes m < cnt nodes x := by
  unfold cnt rbelow
  exact length_filter_lt (fun a ha ham => htr a ha m hm x hx ham h) hm h (rlt_irrefl m)

/-- One step of the fold in `moebius`. -/
def mstep (nodes : List RNode) (red : RNode → α) (acc : Tab RNode α) (x : RNode) :
    Tab RNode α :=
  acc ++ [(x, red x - lsum ((rbelow nodes x).map (fun m => lookupD 0 acc m)))]

/-- The processing order of `moebius`. -/
def mord (nodes : List RNode) : List RNode :=
  isort (fun a b => decide ((rbelow nodes a).length < (rbelow nodes b).length)) nodes

theorem moebius_eq (nodes : List RNode) (red : RNode → α) :
    moebius nodes red = (mord nodes).foldl (mstep nodes red) [] := rfl

theorem mord_perm (nodes : List RNode) : (mord nodes).Perm nodes :=
  isort_perm _ _

theorem mord_sorted (nodes : List RNode) :
    (mord nodes).Pairwise (fun a b => cnt nodes a ≤ cnt nodes b) :=
  isort_pairwise
    (fun a b => decide ((rbelow nodes a).length < (rbelow nodes b).length))
    (fun a b => cnt nodes a ≤ cnt nodes b)
    (fun _ _ h => Nat.le_of_lt (of_decide_eq_true h))
    (fun _ _ h => Nat.le_of_not_lt (of_decide_eq_false h)) (fun _ _ _ => Nat.le_trans) _

theorem keys_mstep (nodes : List RNode) (red : RNode → α) (acc : Tab RNode α) (x : RNode) :
    keys (mstep nodes red acc x) = keys acc ++ [x] := by
  simp [mstep, keys]

theorem keys_foldl (nodes : List RNode) (red : RNode → α) (l : List RNode)
    (acc : Tab RNode α) : keys (l.foldl (mstep nodes red) acc) = keys acc ++ l := by
  induction l generalizing acc with
  | nil => simp
  | cons x l ih => rw [List.foldl_cons, ih, keys_mstep]; simp

theorem keys_moebius (nodes : List RNode) (red : RNode → α) :
    keys (moebius nodes red) = mord nodes := by
  rw [moebius_eq, keys_foldl]; rfl

theorem lookupD_foldl_stable (nodes : List RNode) (red : RNode → α) (l : List RNode)
    (acc : Tab RNode α) {k : RNode} (hk : k ∈ keys acc) :
    lookupD 0 (l.foldl (mstep nodes red) acc) k = lookupD 0 acc k := by
  induction l generalizing acc with
  | nil => rfl
  | cons x l ih =>
    rw [List.foldl_cons, ih (mstep nodes red acc x) (by rw [keys_mstep]; simp [hk])]
    unfold lookupD mstep
    rw [Table.lookup?_append, Option.or_of_isSome (Table.lookup?_isSome_iff.mpr hk)]

theorem lookupD_foldl_new (nodes : List RNode) (red : RNode → α) (l : List RNode)
    (acc : Tab RNode α) {x : RNode} (hx : x ∉ keys acc) :
    lookupD 0 ((x :: l).foldl (mstep nodes red) acc) x
      = red x - ((rbelow nodes x).map (fun m => lookupD 0 acc m)).sum := by
  rw [List.foldl_cons, lookupD_foldl_stable nodes red l _ (by rw [keys_mstep]; simp)]
  unfold mstep
  rw [lookupD, Table.lookup?_append, Table.lookup?_eq_none_iff.mpr hx, Option.none_or, lsum_eq_sum]
  simp [lookup?]

/-- **Möbius inversion**: the table computed by `moebius` satisfies, for every node,
`red x = π(x) + Σ_{m < x} π(m)`. Split the processing order `mord` at `x`: every node below `x` has
fewer nodes below it (`cnt_lt`), so by sortedness it lies in the prefix and its entry is final when
`x` is processed. -/
theorem moebius_sum (nodes : List RNode) (red : RNode → α) (hnd : nodes.Nodup)
    (htr : TransOn nodes) {x : RNode} (hx : x ∈ nodes) :
    red x = lookupD 0 (moebius nodes red) x
      + ((rbelow nodes x).map (fun m => lookupD 0 (moebius nodes red) m)).sum := by
  have hxo : x ∈ mord nodes := (mord_perm nodes).mem_iff.mpr hx
  obtain ⟨pre, post, hsplit⟩ := List.append_of_mem hxo
  have hndo : (mord nodes).Nodup := (mord_perm nodes).nodup_iff.mpr hnd
  rw [hsplit] at hndo
  have hsorted := mord_sorted nodes
  rw [hsplit] at hsorted
  have hxpre : x ∉ pre := fun h => (List.nodup_append.mp hndo).2.2 x h x List.mem_cons_self rfl
  have hbelow : ∀ m ∈ rbelow nodes x, m ∈ pre := by
    intro m hm
    obtain ⟨hmn, hmx⟩ := mem_rbelow.mp hm
    have hmo : m ∈ mord nodes := (mord_perm nodes).mem_iff.mpr hmn
    rw [hsplit, List.mem_append, List.mem_cons] at hmo
    rcases hmo with h | h | h
    · exact h
    · exact absurd h (rlt_iff.mp hmx).2
    · have h1 := (List.pairwise_cons.mp (List.pairwise_append.mp hsorted).2.1).1 m h
      have h2 := cnt_lt htr hmn hx hmx
      omega
  have hfold : moebius nodes red
      = (x :: post).foldl (mstep nodes red) (pre.foldl (mstep nodes red) []) := by
    rw [moebius_eq, hsplit, List.foldl_append]
  have hkeys : keys (pre.foldl (mstep nodes red) []) = pre := by
    rw [keys_foldl]; rfl
  have hval : lookupD 0 (moebius nodes red) x
      = red x - ((rbelow nodes x).map
          (fun m => lookupD 0 (pre.foldl (mstep nodes red) []) m)).sum := by
    rw [hfold]
    exact lookupD_foldl_new nodes red post _ (by rw [hkeys]; exact hxpre)
  have hsame : (rbelow nodes x).map (fun m => lookupD 0 (pre.foldl (mstep nodes red) []) m)
      = (rbelow nodes x).map (fun m => lookupD 0 (moebius nodes red) m) := by
    apply List.map_congr_left
    intro m hm
    rw [hfold]
    exact (lookupD_foldl_stable nodes red (x :: post) _ (by rw [hkeys]; exact hbelow m hm)).symm
  rw [hval, hsame, sub_add_cancel]

theorem moebius_unique (nodes : List RNode) (red : RNode → α) (hnd : nodes.Nodup)
    (htr : TransOn nodes) (π' : RNode → α)
    (h : ∀ x ∈ nodes, red x = π' x + ((rbelow nodes x).map π').sum) :
    ∀ x ∈ nodes, π' x = lookupD 0 (moebius nodes red) x := by
  intro x
  induction hc : cnt nodes x using Nat.strong_induction_on generalizing x with
  | _ k ih =>
    intro hx
    have e1 := h x hx
    have e2 := moebius_sum nodes red hnd htr hx
    have e3 : (rbelow nodes x).map π'
        = (rbelow nodes x).map (fun m => lookupD 0 (moebius nodes red) m) := by
      apply List.map_congr_left
      intro m hm
      obtain ⟨hmn, hmx⟩ := mem_rbelow.mp hm
      exact ih _ (hc ▸ cnt_lt htr hmn hx hmx) m rfl hmn
    rw [e3] at e1
    exact add_right_cancel (e1.symm.trans e2)

theorem sum_at_or_below_top (nodes : List RNode) (π : RNode → α) (hnd : nodes.Nodup)
    {top : RNode} (htop : top ∈ nodes) (hle : ∀ a ∈ nodes, rle a top = true) :
    π top + ((rbelow nodes top).map π).sum = (nodes.map π).sum := by
  have h1 : rbelow nodes top = nodes.erase top := by
    rw [hnd.erase_eq_filter]
    unfold rbelow rlt
    apply List.filter_congr
    intro a ha
    rw [hle a ha]; simp [bne]
  rw [h1, ((List.perm_cons_erase htop).map π).sum_eq, List.map_cons, List.sum_cons]

theorem moebius_equivariant (nodes : List RNode) (hnd : nodes.Nodup) (htr : TransOn nodes)
    (f : RNode → RNode) (hperm : (nodes.map f).Perm nodes)
    (hord : ∀ a ∈ nodes, ∀ b ∈ nodes, rlt (f a) (f b) = rlt a b) (red : RNode → α) :
    ∀ x ∈ nodes, lookupD 0 (moebius nodes (fun y => red (f y))) x
      = lookupD 0 (moebius nodes red) (f x) := by
  intro x hx
  refine (moebius_unique nodes (fun y => red (f y)) hnd htr
    (fun y => lookupD 0 (moebius nodes red) (f y)) ?_ x hx).symm
  intro y hy
  have hfy : f y ∈ nodes := hperm.mem_iff.mp (List.mem_map_of_mem hy)
  have e := moebius_sum nodes red hnd htr hfy
  have hp : ((rbelow nodes y).map f).Perm (rbelow nodes (f y)) := by
    unfold rbelow
    have : nodes.filter (fun m => rlt m y) = nodes.filter ((fun m => rlt m (f y)) ∘ f) := by
      apply List.filter_congr
      intro a ha
      exact (hord a ha y hy).symm
    rw [this, ← List.filter_map]
    exact hperm.filter _
  rw [e, ← (hp.map _).sum_eq, List.map_map]
  rfl

end Moebius

/-! ### Möbius inversion is linear -/

section Lin
variable (nodes : List RNode) (hnd : nodes.Nodup) (htr : TransOn nodes)
include hnd htr

theorem moebius_congr {A : Type} [AddCommGroup A] {red red' : RNode → A} (h : ∀ x ∈ nodes, red x = red' x) :
    ∀ x ∈ nodes, lookupD 0 (moebius nodes red) x = lookupD 0 (moebius nodes red') x := by
  intro x hx
  refine (moebius_unique nodes red' hnd htr (fun m => lookupD 0 (moebius nodes red) m) ?_ x hx)
  intro y hy
  rw [← h y hy]
  exact moebius_sum nodes red hnd htr hy

theorem moebius_zero {A : Type} [AddCommGroup A] : ∀ x ∈ nodes, lookupD 0 (moebius nodes (fun _ => (0 : A))) x = 0 := by
  intro x hx
  exact (moebius_unique nodes (fun _ => (0 : A)) hnd htr (fun _ => 0) (by intro y _; simp) x
    hx).symm

variable {A : Type} [CommRing A]

theorem moebius_linear (a : A) (r1 r2 : RNode → A) :
    ∀ x ∈ nodes, lookupD 0 (moebius nodes (fun x => a * r1 x + r2 x)) x
      = a * lookupD 0 (moebius nodes r1) x + lookupD 0 (moebius nodes r2) x := by
  intro x hx
  refine (moebius_unique nodes (fun x => a * r1 x + r2 x) hnd htr
    (fun m => a * lookupD 0 (moebius nodes r1) m + lookupD 0 (moebius nodes r2) m) ?_ x hx).symm
  intro y hy
  have e1 := moebius_sum nodes r1 hnd htr hy
  have e2 := moebius_sum nodes r2 hnd htr hy
  rw [List.sum_map_add, List.sum_map_mul_left, e1, e2, mul_add, add_add_add_comm]

theorem moebius_list_sum {ι : Type} (l : List ι) (c : ι → A) (r : ι → RNode → A) :
    ∀ x ∈ nodes, lookupD 0 (moebius nodes (fun x => (l.map (fun i => c i * r i x)).sum)) x
      = (l.map (fun i => c i * lookupD 0 (moebius nodes (r i)) x)).sum := by
  induction l with
  | nil => intro x hx; simpa using moebius_zero nodes hnd htr x hx
  | cons i l ih =>
    intro x hx
    simp only [List.map_cons, List.sum_cons]
    rw [moebius_linear nodes hnd htr (c i) (r i) _ x hx, ih x hx]

theorem moebius_indicator {y : RNode} (hy : y ∈ nodes) :
    ∀ x ∈ nodes, lookupD 0 (moebius nodes (fun x => if rle y x = true then (1 : A) else 0)) x
      = if y = x then 1 else 0 := by
  intro x hx
  refine (moebius_unique nodes _ hnd htr (fun m => if y = m then (1 : A) else 0) ?_ x hx).symm
  intro z hz
  have hs : ((rbelow nodes z).map (fun m => if y = m then (1 : A) else 0)).sum
      = if rlt y z = true then 1 else 0 := by
    by_cases hlt : rlt y z = true
    · rw [if_pos hlt]
      exact Lemmas.Table.sum_map_ite_eq_of_nodup (hnd.filter _) (mem_rbelow.mpr ⟨hy, hlt⟩)
        (fun _ => (1 : A))
    · rw [if_neg hlt]
      apply List.sum_eq_zero
      intro v hv
      obtain ⟨m, hm, rfl⟩ := List.mem_map.mp hv
      rw [if_neg]
      rintro rfl
      exact hlt (mem_rbelow.mp hm).2
  rw [hs]
  by_cases hyz : y = z
  · subst hyz
    simp [rle_refl, rlt_irrefl]
  · have : rlt y z = rle y z := by simp [rlt, hyz]
    rw [this, if_neg hyz, zero_add]

end Lin

/-! ### The redundancy lattice for 2 and 3 sources: facts checked by evaluation -/

theorem rnodes_two : rnodes 2 = [[[0, 1]], [[0]], [[1]], [[0], [1]]] := by decide +kernel

section Checked
open Dit.Lemmas.Partition
variable {n : Nat} (hn : n = 2 ∨ n = 3)
include hn

theorem nodup_rnodes : (rnodes n).Nodup := by rcases hn with rfl | rfl <;> decide +kernel

theorem rle_antisymm :
    ∀ a ∈ rnodes n, ∀ b ∈ rnodes n, rle a b = true → rle b a = true → a = b := by
  rcases hn with rfl | rfl <;> decide +kernel

theorem transOn_rnodes : TransOn (rnodes n) := transOn_of_antisymm (rle_antisymm hn)

theorem node_sets : ∀ x ∈ rnodes n, x ≠ [] ∧ ∀ α ∈ x, α ∈ atomSets n := by
  rcases hn with rfl | rfl <;> decide +kernel

theorem exists_node_equiv :
    ∀ U ∈ sublists (atomSets n), U ≠ [] → ∃ y ∈ rnodes n, rle y U = true ∧ rle U y = true := by
  rcases hn with rfl | rfl <;> decide +kernel

/-- The greatest lower bound of two nodes is the node equivalent to their union. -/
theorem exists_glb {a b : RNode} (ha : a ∈ rnodes n) (hb : b ∈ rnodes n) :
    ∃ m ∈ rnodes n, rle m a = true ∧ rle m b = true
      ∧ ∀ c ∈ rnodes n, rle c a = true → rle c b = true → rle c m = true := by
  obtain ⟨hane, hasub⟩ := node_sets hn a ha
  have hbsub := (node_sets hn b hb).2
  have hmem : ∀ s, s ∈ (atomSets n).filter (fun s => (a ++ b).contains s) ↔ s ∈ a ∨ s ∈ b := by
    intro s
    rw [List.mem_filter, List.contains_iff_mem, List.mem_append]
    exact ⟨fun h => h.2, fun h => ⟨h.elim (hasub s) (hbsub s), h⟩⟩
  obtain ⟨α, hα⟩ := List.exists_mem_of_ne_nil a hane
  obtain ⟨m, hm, hmU, hUm⟩ := exists_node_equiv hn _ (mem_sublists.mpr List.filter_sublist)
    (List.ne_nil_of_mem ((hmem α).mpr (Or.inl hα)))
  rw [rle_iff] at hmU hUm
  refine ⟨m, hm, rle_iff.mpr fun s hs => hmU s ((hmem s).mpr (Or.inl hs)),
    rle_iff.mpr fun s hs => hmU s ((hmem s).mpr (Or.inr hs)), fun c _ hca hcb => ?_⟩
  rw [rle_iff] at hca hcb ⊢
  intro η hη
  obtain ⟨u, hu, huη⟩ := hUm η hη
  obtain ⟨γ, hγ, hγu⟩ := ((hmem u).mp hu).elim (hca u) (hcb u)
  exact ⟨γ, hγ, fun i hi => huη i (hγu i hi)⟩

end Checked

section Relabel
open Dit.Lemmas.Partition

def nodeMap (σ : Nat → Nat) (a : RNode) : RNode := nodeNorm (a.map (fun s => s.map σ))

def permFun (p : List Nat) : Nat → Nat := fun i => p.getD i i

theorem mem_nodeNorm {a : List VSet} {x : VSet} : x ∈ nodeNorm a ↔ ∃ s ∈ a, vnorm s = x := by
  rw [nodeNorm, (isort_perm _ _).mem_iff, Table.mem_dedup, List.mem_map]

theorem rle_nodeNorm (a b : List VSet) : rle (nodeNorm a) (nodeNorm b) = rle a b := by
  rw [Bool.eq_iff_iff, rle_iff, rle_iff]
  constructor
  · intro h β hβ
    obtain ⟨α', hα', hsub⟩ := h _ (mem_nodeNorm.mpr ⟨β, hβ, rfl⟩)
    obtain ⟨α, hα, rfl⟩ := mem_nodeNorm.mp hα'
    exact ⟨α, hα, fun i hi => (mem_vnorm β i).mp (hsub i ((mem_vnorm α i).mpr hi))⟩
  · intro h β' hβ'
    obtain ⟨β, hβ, rfl⟩ := mem_nodeNorm.mp hβ'
    obtain ⟨α, hα, hsub⟩ := h β hβ
    exact ⟨vnorm α, mem_nodeNorm.mpr ⟨α, hα, rfl⟩,
      fun i hi => (mem_vnorm β i).mpr (hsub i ((mem_vnorm α i).mp hi))⟩

theorem rle_nodeMap {n : Nat} {σ : Nat → Nat} (hσ : ∀ i < n, ∀ j < n, σ i = σ j → i = j)
    {a b : RNode} (ha : ∀ s ∈ a, ∀ i ∈ s, i < n) (hb : ∀ s ∈ b, ∀ i ∈ s, i < n) :
    rle (nodeMap σ a) (nodeMap σ b) = rle a b := by
  rw [nodeMap, nodeMap, rle_nodeNorm, Bool.eq_iff_iff, rle_iff, rle_iff]
  constructor
  · intro h β hβ
    obtain ⟨α', hα', hsub⟩ := h _ (List.mem_map_of_mem hβ)
    obtain ⟨α, hα, rfl⟩ := List.mem_map.mp hα'
    refine ⟨α, hα, fun i hi => ?_⟩
    obtain ⟨j, hj, hji⟩ := List.mem_map.mp (hsub _ (List.mem_map_of_mem hi))
    exact hσ j (hb β hβ j hj) i (ha α hα i hi) hji ▸ hj
  · intro h β' hβ'
    obtain ⟨β, hβ, rfl⟩ := List.mem_map.mp hβ'
    obtain ⟨α, hα, hsub⟩ := h β hβ
    refine ⟨α.map σ, List.mem_map_of_mem hα, fun i' hi' => ?_⟩
    obtain ⟨i, hi, rfl⟩ := List.mem_map.mp hi'
    exact List.mem_map_of_mem (hsub i hi)

theorem permFun_map_range {n : Nat} (σ : Nat → Nat) :
    ∀ i < n, permFun ((List.range n).map σ) i = σ i := by
  intro i hi
  simp [permFun, List.getD_eq_getElem?_getD, hi]

section
variable {n : Nat} (hn : n = 2 ∨ n = 3)
include hn

theorem indices_lt {a : RNode} (ha : a ∈ rnodes n) : ∀ s ∈ a, ∀ i ∈ s, i < n := by
  intro s hs i hi
  have := (node_sets hn a ha).2 s hs
  rw [atomSets, List.mem_map] at this
  obtain ⟨u, hu, rfl⟩ := this
  exact List.mem_range.mp
    ((mem_sublists.mp (List.mem_filter.mp hu).1).subset ((mem_vnorm u i).mp hi))

theorem nodeMap_congr {σ τ : Nat → Nat} (h : ∀ i < n, σ i = τ i) {a : RNode}
    (ha : a ∈ rnodes n) : nodeMap σ a = nodeMap τ a := by
  unfold nodeMap
  congr 1
  exact List.map_congr_left fun s hs =>
    List.map_congr_left fun i hi => h i (indices_lt hn ha s hs i hi)

theorem map_nodeMap_isPerm : ∀ p ∈ listsOfLen (List.range n) n, p.Nodup →
    ((rnodes n).map (nodeMap (permFun p))).isPerm (rnodes n) = true := by
  rcases hn with rfl | rfl <;> decide +kernel

variable (σ : Nat → Nat) (hσ : ((List.range n).map σ).Perm (List.range n))
include hσ

theorem map_nodeMap_perm : ((rnodes n).map (nodeMap σ)).Perm (rnodes n) := by
  have hmem : (List.range n).map σ ∈ listsOfLen (List.range n) n := by
    simpa using mem_listsOfLen (l := List.range n) _ fun x hx => hσ.mem_iff.mp hx
  rw [← List.map_congr_left fun a ha =>
    nodeMap_congr (σ := permFun ((List.range n).map σ)) hn (permFun_map_range σ) ha]
  exact List.isPerm_iff.mp
    (map_nodeMap_isPerm hn _ hmem (hσ.nodup_iff.mpr List.nodup_range))

theorem rle_nodeMap_rnodes :
    ∀ a ∈ rnodes n, ∀ b ∈ rnodes n, rle (nodeMap σ a) (nodeMap σ b) = rle a b :=
  fun _ ha _ hb => rle_nodeMap (fun _ hi _ hj => List.inj_on_of_nodup_map
    (hσ.nodup_iff.mpr List.nodup_range) (List.mem_range.mpr hi) (List.mem_range.mpr hj))
    (indices_lt hn ha) (indices_lt hn hb)

/-- The node map is injective on the nodes (by antisymmetry), so it preserves the strict order
too. -/
theorem rlt_nodeMap_rnodes :
    ∀ a ∈ rnodes n, ∀ b ∈ rnodes n, rlt (nodeMap σ a) (nodeMap σ b) = rlt a b := by
  intro a ha b hb
  have hrle := rle_nodeMap_rnodes hn σ hσ
  have hinj : nodeMap σ a = nodeMap σ b ↔ a = b := by
    refine ⟨fun e => rle_antisymm hn a ha b hb ?_ ?_, congrArg _⟩
    · rw [← hrle a ha b hb, e]; exact rle_refl _
    · rw [← hrle b hb a ha, e]; exact rle_refl _
  rw [Bool.eq_iff_iff, rlt_iff, rlt_iff, hrle a ha b hb, Ne, Ne, hinj]

end

end Relabel

section Lmin
variable {α : Type} [Zero α] [LinearOrder α]

theorem lminOf_spec {l : List α} (hl : l ≠ []) : lminOf l ∈ l ∧ ∀ y ∈ l, lminOf l ≤ y := by
  match l, hl with
  | x :: t, _ => exact foldl_max_spec (β := αᵒᵈ) t x

theorem lminOf_singleton (x : α) : lminOf [x] = x := rfl

theorem lminOf_pair (x y : α) : lminOf [x, y] = min x y := by
  show (if y < x then y else x) = min x y
  rw [min_def]
  split
  · rename_i h; rw [if_neg (not_le.mpr h)]
  · rename_i h; rw [if_pos (not_lt.mp h)]

theorem lminOf_map_le_of_rle {f : VSet → α} (hf : ∀ s s' : VSet, (∀ i ∈ s, i ∈ s') → f s ≤ f s')
    {a b : RNode} (hb : b ≠ []) (h : rle a b = true) :
    lminOf (a.map f) ≤ lminOf (b.map f) := by
  obtain ⟨β, hβ, hβe⟩ := List.mem_map.mp (lminOf_spec (l := b.map f) (by simpa using hb)).1
  obtain ⟨α', hα, hsub⟩ := rle_iff.mp h β hβ
  rw [← hβe]
  exact ((lminOf_spec (List.ne_nil_of_mem (List.mem_map_of_mem hα))).2 _
    (List.mem_map_of_mem hα)).trans (hf α' β hsub)

end Lmin

/-! ### Mutual information with the target -/

section Immi
variable {σ : Type} [DecidableEq σ] (t : Tab (List σ) ℝ)

theorem miOf_eq (S T : VSet) :
    miOf (Real.logb 2) t S T = entropyOf (Real.logb 2) t (vnorm S)
      + entropyOf (Real.logb 2) t (vnorm T) - entropyOf (Real.logb 2) t (vunion S T) := rfl

theorem miOf_eq_cmi (hmass : (t.map (·.2)).sum = 1) (S T : VSet) :
    miOf (Real.logb 2) t S T
      = Comb.eval (Rat.castHom ℝ) (entropyOf (Real.logb 2) t) (cmiC S T []) := by
  rw [eval_cmiC, miOf_eq, Hc_entropyOf_nil t hmass, Hc_entropyOf_nil t hmass,
    Hc_entropyOf_nil t hmass, ← entropyOf_vnorm, ← entropyOf_vnorm]

variable (hnn : ∀ r ∈ t, 0 ≤ r.2)
include hnn

theorem miOf_nonneg (hmass : (t.map (·.2)).sum = 1) (S T : VSet) :
    0 ≤ miOf (Real.logb 2) t S T := by
  rw [miOf_eq_cmi t hmass, eval_cmiC]
  exact entropy_Submod t hnn S T []

theorem miOf_mono (T : VSet) {a b : VSet} (h : ∀ x ∈ a, x ∈ b) :
    miOf (Real.logb 2) t a T ≤ miOf (Real.logb 2) t b T := by
  have := entropy_submod t hnn b T a
  rw [vunion_comm b a, vunion_eq_right h, vunion_comm T a, vunion_comm (vunion b T) a,
    vunion_eq_right fun v hv => (mem_vunion _ _ _).mpr (Or.inl (h v hv)), vnorm_vunion] at this
  rw [miOf_eq, miOf_eq]
  linarith

end Immi

section Specific

theorem lookupD_pushforward_eq {κ κ' : Type} [DecidableEq κ] [DecidableEq κ'] (f : κ → κ') (t : Tab κ ℝ)
    (k : κ') : lookupD 0 (pushforward f t) k = fibreSum f t k :=
  (Lemmas.Table.lookupD_pushforward f t k).trans (fibreSum_eq_ite f t k).symm

theorem sum_sum_ite_eq {κ κ' : Type} [DecidableEq κ'] {K : List κ'} (hK : K.Nodup) (f : κ → κ')
    (G : κ' → κ → ℝ) (l : List κ) (hl : ∀ r ∈ l, f r ∈ K) :
    (K.map (fun k => (l.map (fun r => if f r = k then G k r else 0)).sum)).sum
      = (l.map (fun r => G (f r) r)).sum := by
  induction l with
  | nil => simp
  | cons r l ih =>
    simp only [List.map_cons, List.sum_cons]
    rw [List.sum_map_add, ih fun x hx => hl x (List.mem_cons_of_mem _ hx),
      Lemmas.Table.sum_map_ite_eq_of_nodup hK (hl r List.mem_cons_self) fun k => G k r]

variable {σ : Type} [DecidableEq σ]

variable (t : Tab (List σ) ℝ)

/-- The pair projection used by `specificInfo`. -/
abbrev fST (S T : VSet) : List σ → List σ × List σ := fun o => (project S o, project T o)

/-- `log₂ (p(a,τ) / p(a) / p(τ))` for a pair `k = (a, τ)`. -/
noncomputable def lterm (S T : VSet) (k : List σ × List σ) : ℝ :=
  if fibreSum (project S) t k.1 = 0 ∨ fibreSum (project T) t k.2 = 0 then 0
  else Real.logb 2 (fibreSum (fST S T) t k / fibreSum (project S) t k.1
        / fibreSum (project T) t k.2)

theorem specific_term (S T : VSet) (τ : List σ × ℝ) (hτ : τ ∈ pushforward (project T) t) :
    (if τ.2 == 0 then 0 else τ.2 * specificInfo (Real.logb 2) t S T τ.1)
      = ((pushforward (project S) t).map (fun a =>
          fibreSum (fST S T) t (a.1, τ.1) * lterm t S T (a.1, τ.1))).sum := by
  have hτ2 : τ.2 = fibreSum (project T) t τ.1 := pushforward_val _ t τ hτ
  by_cases h0 : τ.2 = 0
  · rw [if_pos (beq_iff_eq.mpr h0)]
    symm
    apply List.sum_eq_zero
    intro x hx
    obtain ⟨a, _, rfl⟩ := List.mem_map.mp hx
    unfold lterm
    rw [if_pos (Or.inr (hτ2 ▸ h0)), mul_zero]
  · rw [if_neg (mt beq_iff_eq.mp h0)]
    unfold specificInfo
    simp only [lsum_eq_sum, lookupD_pushforward_eq]
    rw [← List.sum_map_mul_left]
    congr 1
    apply List.map_congr_left
    intro a ha
    have ha2 : a.2 = fibreSum (project S) t a.1 := pushforward_val _ t a ha
    unfold lterm
    rw [← ha2, ← hτ2]
    have hcond : (fibreSum (fST S T) t (a.1, τ.1) == 0 || a.2 == 0 || τ.2 == 0) = true
        ↔ fibreSum (fST S T) t (a.1, τ.1) = 0 ∨ a.2 = 0 ∨ τ.2 = 0 := by
      simp only [Bool.or_eq_true, beq_iff_eq, or_assoc]
    by_cases hp : fibreSum (fST S T) t (a.1, τ.1) = 0
    · rw [if_pos (hcond.mpr (Or.inl hp)), hp, zero_mul, mul_zero]
    · by_cases hc : a.2 = 0 ∨ τ.2 = 0
      · rw [if_pos (hcond.mpr (Or.inr hc)), if_pos hc, mul_zero, mul_zero]
      · rw [if_neg (mt hcond.mp fun h => h.elim hp hc), if_neg hc, ← mul_assoc,
          mul_div_cancel₀ _ h0]

theorem fibreSum_mul_lterm (S T : VSet) (a τ : List σ) :
    fibreSum (fST S T) t (a, τ) * lterm t S T (a, τ)
      = (t.map (fun r => if project S r.1 = a then
          (if project T r.1 = τ then r.2 * lterm t S T (a, τ) else 0) else 0)).sum := by
  rw [fibreSum_eq_ite, ← List.sum_map_mul_right]
  simp only [fST, Prod.mk.injEq, ite_and, ite_mul, zero_mul]

/-- `p(τ) · I(S ; T = τ)` as a sum over the rows of the table with target value `τ`: each term of
the sum over the source values `a` is itself a sum over the rows with source value `a`
(`fibreSum_mul_lterm`), and every row has exactly one source value (`sum_sum_ite_eq`). -/
theorem specific_rows (S T : VSet) (τ : List σ × ℝ) (hτ : τ ∈ pushforward (project T) t) :
    (if τ.2 == 0 then 0 else τ.2 * specificInfo (Real.logb 2) t S T τ.1)
      = (t.map (fun r => if project T r.1 = τ.1 then r.2 * lterm t S T (fST S T r.1)
          else 0)).sum := by
  have h := sum_sum_ite_eq (pushforward_inv (project S) t).1
    (fun r : List σ × ℝ => project S r.1)
    (fun a r => if project T r.1 = τ.1 then r.2 * lterm t S T (a, τ.1) else 0) t
    (pushforward_inv (project S) t).2.1
  rw [keys, List.map_map] at h
  rw [specific_term t S T τ hτ]
  refine (congrArg List.sum (List.map_congr_left fun a _ => fibreSum_mul_lterm t S T a.1 τ.1)).trans
    (h.trans (congrArg List.sum (List.map_congr_left fun r _ => ?_)))
  by_cases hr : project T r.1 = τ.1
  · rw [if_pos hr, if_pos hr, fST, hr]
  · rw [if_neg hr, if_neg hr]

theorem fibreSum_pair (S T : VSet) (o : List σ) :
    fibreSum (fST S T) t (fST S T o)
      = fibreSum (project (vunion S T)) t (project (vunion S T) o) :=
  fibreSum_congr_key fun r _ => by rw [project_vunion_eq_iff, fST, Prod.mk.injEq]

variable (hnn : ∀ r ∈ t, 0 ≤ r.2)
include hnn

theorem mul_lterm (S T : VSet) {r : List σ × ℝ} (hr : r ∈ t) :
    r.2 * lterm t S T (fST S T r.1)
      = r.2 * (Real.logb 2 (fibreSum (project (vunion S T)) t (project (vunion S T) r.1))
          - Real.logb 2 (fibreSum (project S) t (project S r.1))
          - Real.logb 2 (fibreSum (project T) t (project T r.1))) := by
  by_cases h0 : r.2 = 0
  · rw [h0]; simp
  · have hpos {κ' : Type} [DecidableEq κ'] (g : List σ → κ') : 0 < fibreSum g t (g r.1) :=
      ((hnn r hr).lt_of_ne' h0).trans_le (le_fibreSum g t hnn hr)
    have h1 := hpos (fST S T)
    have h2 := hpos (project S)
    have h3 := hpos (project T)
    unfold lterm
    rw [if_neg (not_or.mpr ⟨h2.ne', h3.ne'⟩), Real.logb_div (div_pos h1 h2).ne' h3.ne',
      Real.logb_div h1.ne' h2.ne', fibreSum_pair]

theorem rows_eq_miOf (S T : VSet) :
    (t.map (fun r => r.2 * lterm t S T (fST S T r.1))).sum = miOf (Real.logb 2) t S T := by
  rw [List.map_congr_left fun r hr => mul_lterm t hnn S T hr]
  simp only [mul_sub]
  rw [sum_map_sub, sum_map_sub,
    miOf, ← entropyOf_vnorm, ← entropyOf_vnorm, entropyOf_rows, entropyOf_rows, entropyOf_rows]
  ring

theorem specific_avg (S T : VSet) :
    lsum ((pushforward (project T) t).map (fun τ =>
        if τ.2 == 0 then 0 else τ.2 * specificInfo (Real.logb 2) t S T τ.1))
      = miOf (Real.logb 2) t S T := by
  rw [lsum_eq_sum, List.map_congr_left fun τ hτ => specific_rows t S T τ hτ,
    ← rows_eq_miOf t hnn S T]
  have := sum_sum_ite_eq (pushforward_inv (project T) t).1 (fun r : List σ × ℝ => project T r.1)
    (fun _ r => r.2 * lterm t S T (fST S T r.1)) t (pushforward_inv (project T) t).2.1
  rwa [keys, List.map_map] at this

theorem specific_rows_mono (S S' T : VSet) (hsub : ∀ v ∈ S, v ∈ S') (τ₀ : List σ) :
    (t.map (fun r => if project T r.1 = τ₀ then r.2 * lterm t S T (fST S T r.1) else 0)).sum
      ≤ (t.map (fun r => if project T r.1 = τ₀ then r.2 * lterm t S' T (fST S' T r.1)
          else 0)).sum := by
  rw [← sub_nonneg, ← sum_map_sub]
  -- The bound of `t[j.1]` is given explicitly: finding it by tactic is slow.
  have hcore := core_logb_on (w := fun j : Fin t.length => (t[j.1]'j.2).2)
    (fun j => hnn _ (List.getElem_mem j.2))
    (fun j => project (vunion S' T) (t[j.1]'j.2).1) (fun j => project S' (t[j.1]'j.2).1)
    (fun j => project (vunion S T) (t[j.1]'j.2).1) (fun j => project S (t[j.1]'j.2).1)
    (fun j => project T (t[j.1]'j.2).1 = τ₀)
    (fun _ _ h hi => ((project_vunion_eq_iff S T _ _).mp h).2 ▸ hi)
    (fun _ _ => project_eq_of_subset hsub)
    (fun _ _ h => ((project_vunion_eq_iff S T _ _).mp h).1)
    (fun _ _ h1 h2 => (project_vunion_eq_iff S' T _ _).mpr
      ⟨h1, ((project_vunion_eq_iff S T _ _).mp h2).2⟩)
  refine hcore.trans_eq ?_
  rw [← Fin.sum_univ_fun_getElem t]
  refine Finset.sum_congr rfl fun i _ => ?_
  have hi : t[i.1]'i.2 ∈ t := List.getElem_mem i.2
  by_cases hq : project T (t[i.1]'i.2).1 = τ₀
  · simp only [hq, if_true]
    rw [mul_lterm t hnn S' T hi, mul_lterm t hnn S T hi]
    simp only [fibreSum_eq_rowMass, rowMass_eq_cm]
    ring
  · simp [hq]

theorem specific_rows_nil (hmass : (t.map (·.2)).sum = 1) (T : VSet) (τ₀ : List σ) :
    (t.map (fun r => if project T r.1 = τ₀ then r.2 * lterm t [] T (fST [] T r.1) else 0)).sum
      = 0 := by
  apply List.sum_eq_zero
  intro x hx
  obtain ⟨r, hr, rfl⟩ := List.mem_map.mp hx
  split
  · have e1 : fibreSum (project (vunion [] T)) t (project (vunion [] T) r.1)
        = fibreSum (project T) t (project T r.1) :=
      fibreSum_congr_key fun r' _ => by rw [project_vunion_eq_iff]; exact and_iff_right rfl
    have e2 : fibreSum (project []) t (project [] r.1) = 1 := by
      rw [fibreSum_eq_ite, ← hmass]
      congr 1
    rw [mul_lterm t hnn [] T hr, e1, e2]
    simp
  · rfl

theorem target_pos (T : VSet) {τ : List σ × ℝ} (hτ : τ ∈ pushforward (project T) t)
    (h0 : τ.2 ≠ 0) : 0 < τ.2 := by
  have : 0 ≤ τ.2 := by
    rw [pushforward_val _ t τ hτ]; exact fibreSum_nonneg _ t hnn _
  exact lt_of_le_of_ne this (Ne.symm h0)

theorem specific_mono (S S' T : VSet) (hsub : ∀ v ∈ S, v ∈ S') {τ : List σ × ℝ}
    (hτ : τ ∈ pushforward (project T) t) (h0 : τ.2 ≠ 0) :
    specificInfo (Real.logb 2) t S T τ.1 ≤ specificInfo (Real.logb 2) t S' T τ.1 := by
  have h1 := specific_rows t S T τ hτ
  have h2 := specific_rows t S' T τ hτ
  rw [if_neg (by simpa using h0)] at h1 h2
  have := specific_rows_mono t hnn S S' T hsub τ.1
  rw [← h1, ← h2] at this
  exact le_of_mul_le_mul_left this (target_pos t hnn T hτ h0)

theorem specific_nonneg (hmass : (t.map (·.2)).sum = 1) (S T : VSet) {τ : List σ × ℝ}
    (hτ : τ ∈ pushforward (project T) t) (h0 : τ.2 ≠ 0) :
    0 ≤ specificInfo (Real.logb 2) t S T τ.1 := by
  have h1 := specific_rows t [] T τ hτ
  rw [if_neg (by simpa using h0), specific_rows_nil t hnn hmass] at h1
  have hz : specificInfo (Real.logb 2) t [] T τ.1 = 0 := by
    rcases mul_eq_zero.mp h1 with h | h
    · exact absurd h h0
    · exact h
  rw [← hz]
  exact specific_mono t hnn [] S T (by simp) hτ h0

omit hnn in
theorem imin_eq_sum (T : VSet) (node : RNode) :
    imin (Real.logb 2) t T node
      = ((pushforward (project T) t).map (fun τ =>
          if τ.2 = 0 then 0
          else τ.2 * lminOf (node.map (fun s => specificInfo (Real.logb 2) t s T τ.1)))).sum := by
  unfold imin
  rw [lsum_eq_sum]
  exact congrArg List.sum (List.map_congr_left fun τ _ => if_congr beq_iff_eq rfl rfl)

end Specific

/-! ### Redundancies of minimum type have non-negative atoms -/

section MinType
open Dit.Lemmas.Partition

theorem exists_node_of_isUp {n : Nat} (hn : n = 2 ∨ n = 3) {U : List VSet}
    (hU : U ∈ sublists (atomSets n)) (hne : U ≠ [])
    (hup : ∀ α ∈ U, ∀ β ∈ atomSets n, (∀ i ∈ α, i ∈ β) → β ∈ U) :
    ∃ y ∈ rnodes n, ∀ x ∈ rnodes n, rle y x = true ↔ ∀ α ∈ x, α ∈ U := by
  obtain ⟨y, hy, hyU, hUy⟩ := exists_node_equiv hn U hU hne
  rw [rle_iff] at hyU hUy
  refine ⟨y, hy, fun x hx => ?_⟩
  rw [rle_iff]
  refine ⟨fun h ξ hξ => ?_, fun h ξ hξ => hyU ξ (h ξ hξ)⟩
  obtain ⟨η, hη, hηξ⟩ := h ξ hξ
  obtain ⟨u, hu, huη⟩ := hUy η hη
  exact hup u hu ξ ((node_sets hn x hx).2 ξ hξ) fun i hi => hηξ i (huη i hi)

theorem lminOf_eq_of_spec {l : List ℝ} {v : ℝ} (hv : v ∈ l) (hle : ∀ y ∈ l, v ≤ y) :
    lminOf l = v := by
  obtain ⟨h1, h2⟩ := lminOf_spec (List.ne_nil_of_mem hv)
  exact le_antisymm (h2 v hv) (hle _ h1)

theorem lminOf_map_sub (l : List VSet) (hl : l ≠ []) (f : VSet → ℝ) (m : ℝ) :
    lminOf (l.map (fun α => f α - m)) = lminOf (l.map f) - m := by
  obtain ⟨h1, h2⟩ := lminOf_spec (l := l.map f) (by simpa using hl)
  obtain ⟨α, hα, hαe⟩ := List.mem_map.mp h1
  apply lminOf_eq_of_spec
  · rw [← hαe]; exact List.mem_map_of_mem (f := fun α => f α - m) hα
  · intro y hy
    obtain ⟨β, hβ, rfl⟩ := List.mem_map.mp hy
    exact sub_le_sub_right (h2 (f β) (List.mem_map_of_mem hβ)) m

theorem lminOf_map_eq_zero {x : List VSet} {f : VSet → ℝ} (hnn : ∀ α ∈ x, 0 ≤ f α) {α : VSet}
    (hα : α ∈ x) (h0 : f α = 0) : lminOf (x.map f) = 0 :=
  lminOf_eq_of_spec (h0 ▸ List.mem_map_of_mem hα) fun v hv => by
    obtain ⟨β, hβ, rfl⟩ := List.mem_map.mp hv
    exact hnn β hβ

theorem lminOf_map_peel_of_le {z : List VSet} (hne : z ≠ []) {f : VSet → ℝ} {m : ℝ}
    (h : ∀ α ∈ z, m ≤ f α) :
    lminOf (z.map f) = m + lminOf (z.map fun α => max (f α - m) 0) := by
  rw [List.map_congr_left fun α hα => max_eq_left (sub_nonneg.mpr (h α hα)),
    lminOf_map_sub z hne f m, add_sub_cancel]

theorem lminOf_map_peel_of_zero {z : List VSet} {f : VSet → ℝ} (hnn : ∀ α ∈ z, 0 ≤ f α) {m : ℝ}
    (hm : 0 ≤ m) {α : VSet} (hα : α ∈ z) (h0 : f α = 0) :
    lminOf (z.map f) = lminOf (z.map fun α => max (f α - m) 0) := by
  rw [lminOf_map_eq_zero hnn hα h0, lminOf_map_eq_zero (fun β _ => le_max_right _ _) hα
    (by rw [h0, zero_sub]; exact max_eq_right (neg_nonpos.mpr hm))]

/-- Peeling off the smallest positive value of `f`, `x ↦ min_{α ∈ x} f(α)` is a non-negative
combination of indicators of up-sets of nodes, whose atoms are unit masses (`moebius_indicator`). -/
theorem min_type_atoms_nonneg {n : Nat} (hn : n = 2 ∨ n = 3) (f : VSet → ℝ)
    (hmono : ∀ α ∈ atomSets n, ∀ β ∈ atomSets n, vsubset α β = true → f α ≤ f β)
    (hnn : ∀ α ∈ atomSets n, 0 ≤ f α) :
    ∀ x ∈ rnodes n, 0 ≤ lookupD 0 (moebius (rnodes n) (fun x => lminOf (x.map f))) x := by
  have hnd := nodup_rnodes hn
  have htr := transOn_rnodes hn
  have hsets := node_sets hn
  induction hk : ((atomSets n).filter (fun α => decide (0 < f α))).length
    using Nat.strong_induction_on generalizing f with
  | _ k ih =>
    intro x hx
    generalize hUdef : (atomSets n).filter (fun α => decide (0 < f α)) = U at hk
    have hUmem : ∀ α, α ∈ U ↔ α ∈ atomSets n ∧ 0 < f α := fun α => by
      rw [← hUdef, List.mem_filter, decide_eq_true_eq]
    have hzero : ∀ α ∈ atomSets n, α ∉ U → f α = 0 := fun α hα hαU =>
      le_antisymm (not_lt.mp fun h => hαU ((hUmem α).mpr ⟨hα, h⟩)) (hnn α hα)
    by_cases hU : U = []
    · -- `f` vanishes, and with it every redundancy
      have hred : ∀ z ∈ rnodes n, lminOf (z.map f) = 0 := fun z hz => by
        obtain ⟨hne, hmem⟩ := hsets z hz
        obtain ⟨α, hα⟩ := List.exists_mem_of_ne_nil z hne
        exact lminOf_map_eq_zero (fun β hβ => hnn β (hmem β hβ)) hα
          (hzero α (hmem α hα) (hU ▸ List.not_mem_nil))
      rw [moebius_congr (rnodes n) hnd htr (red' := fun _ => 0) hred x hx,
        moebius_zero (rnodes n) hnd htr x hx]
    · -- peel off the smallest positive value `m`, attained at `αs`; `max (f - m) 0` is again
      -- non-negative and monotone, and positive on fewer source sets
      obtain ⟨hm1, hm2⟩ := lminOf_spec (l := U.map f) (by simpa using hU)
      obtain ⟨αs, hαs, hαe⟩ := List.mem_map.mp hm1
      generalize lminOf (U.map f) = m at hm2 hαe
      have hmpos : 0 < m := hαe ▸ ((hUmem αs).mp hαs).2
      have hmle : ∀ α ∈ U, m ≤ f α := fun α hα => hm2 _ (List.mem_map_of_mem hα)
      obtain ⟨y, hy, hyx⟩ := exists_node_of_isUp hn (U := U)
        (mem_sublists.mpr (hUdef ▸ List.filter_sublist)) hU fun α hα β hβ hs =>
          (hUmem β).mpr ⟨hβ, ((hUmem α).mp hα).2.trans_le
            (hmono α ((hUmem α).mp hα).1 β hβ ((vsubset_iff α β).mpr hs))⟩
      have hcount : ((atomSets n).filter (fun α => decide (0 < max (f α - m) 0))).length < k := by
        rw [← hk, ← hUdef]
        refine length_filter_lt (w := αs) (fun a _ ha => ?_) ((hUmem αs).mp hαs).1
          (decide_eq_true ((hUmem αs).mp hαs).2)
          (by rw [hαe, sub_self, max_self]; exact decide_eq_false (lt_irrefl 0))
        have := (lt_max_iff.mp (of_decide_eq_true ha)).resolve_right (lt_irrefl 0)
        exact decide_eq_true (hmpos.trans (sub_pos.mp this))
      have key : ∀ z ∈ rnodes n, lminOf (z.map f)
          = m * (if rle y z = true then 1 else 0) + lminOf (z.map fun α => max (f α - m) 0) := by
        intro z hz
        obtain ⟨hne, hmem⟩ := hsets z hz
        by_cases hle : rle y z = true
        · rw [if_pos hle, mul_one]
          exact lminOf_map_peel_of_le hne fun α hα => hmle α ((hyx z hz).mp hle α hα)
        · obtain ⟨α, hα, hαU⟩ : ∃ α ∈ z, α ∉ U := by
            by_contra hcon
            exact hle ((hyx z hz).mpr fun α hα => not_not.mp fun h => hcon ⟨α, hα, h⟩)
          rw [if_neg hle, mul_zero, zero_add]
          exact lminOf_map_peel_of_zero (fun β hβ => hnn β (hmem β hβ)) hmpos.le hα
            (hzero α (hmem α hα) hαU)
      rw [moebius_congr (rnodes n) hnd htr key x hx,
        moebius_linear (rnodes n) hnd htr m _ _ x hx,
        moebius_indicator (rnodes n) hnd htr hy x hx]
      refine add_nonneg (mul_nonneg hmpos.le ?_) (ih _ hcount (fun α => max (f α - m) 0)
        (fun α hα β hβ hs => max_le_max (sub_le_sub_right (hmono α hα β hβ hs) m) le_rfl)
        (fun α _ => le_max_right _ _) rfl x hx)
      split
      · exact zero_le_one
      · exact le_rfl

end MinType

end Dit.Lemmas.Lattice
