/-
C16 (companion) — the link `B ≤ F` for the model's functional common information.

`Props/C16.lean` proves `b_le_f`: if a set of variables `W` renders the groups conditionally independent in the
entropy sense (`H(Xᵢ | X₋ᵢ, W) = H(Xᵢ | W)` for every group), the dual total correlation is at most `H(W)`.
`Core/SetPart.lean` tests feasibility of a function of the outcomes (a partition `P`) in the product sense
(`blockIndep`: inside every block the conditional law is the product of its group marginals).  This file bridges the
two: appending the label of a feasible partition as a new variable gives a table in which the groups are
conditionally independent given that variable in the entropy sense, its entropy is the entropy of the block masses,
and therefore `B(groups) ≤ H(block masses of P)` for EVERY feasible partition — in particular for the minimiser that
defines `F`.
-/
import DitModel.Props.C16
import DitModel.Props.C16Fci
import DitModel.Lemmas.FciBound
import DitModel.Lemmas.Chain

namespace Dit.Props.C16FciBound
open Dit Dit.Lemmas.Table Dit.Lemmas.Meet Dit.Lemmas.InfoAlg Dit.Lemmas.InfoReal Dit.Props.C16Fci
open Dit.Lemmas.FciBound Dit.Lemmas.Chain

variable {σ : Type} [DecidableEq σ]

/-- The table with the index of the block of `P` containing the outcome appended as a new last variable. -/
def withPart (code : Nat → σ) (t : Tab (List σ) ℝ) (P : List (List (List σ))) : Tab (List σ) ℝ :=
  insertRvf (fun o => [code (labelOf P o)]) none t

/-- **The entropy of the appended variable is the entropy of the block masses.** -/
theorem withPart_entropy (code : Nat → σ) (hcode : Function.Injective code) (t : Tab (List σ) ℝ) (n : Nat)
    (hk : (keys t).Nodup) (hlen : ∀ k ∈ keys t, k.length = n)
    (P : List (List (List σ))) (hP : IsSetPartition P (keys t)) :
    entropyOf (Real.logb 2) (withPart code t P) [n] = entropyVals (Real.logb 2) (partMasses t P) := by
  unfold withPart
  rw [entropyOf_new (fun o => code (labelOf P o)) n t hlen]
  exact Hmap_label code hcode t hk P hP

/-- **A feasible partition renders the groups conditionally independent in the entropy sense**: for every group `g`
(pairwise disjoint groups of variables `< n`), `H(g | others ∪ W) = H(g | W)` in the table with the label `W = [n]`
appended.  Non-negative table with duplicate-free keys; the identity is homogeneous in the total mass. -/
theorem feasible_cond_indep (code : Nat → σ) (hcode : Function.Injective code) (t : Tab (List σ) ℝ) (n : Nat)
    (hnn : ∀ r ∈ t, 0 ≤ r.2) (hk : (keys t).Nodup) (hlen : ∀ k ∈ keys t, k.length = n)
    (groups : List VSet) (hg : ∀ g ∈ groups, ∀ v ∈ g, v < n)
    (hdisj : groups.Pairwise (fun a b => ∀ v, v ∈ a → v ∉ b))
    (P : List (List (List σ))) (hP : IsSetPartition P (keys t)) (hf : fciFeasible t groups P = true) :
    ∀ g ∈ groups,
      Hc (entropyOf (Real.logb 2) (withPart code t P)) g (vunion (vdiff (vunions groups) (vnorm g)) [n])
        = Hc (entropyOf (Real.logb 2) (withPart code t P)) g [n] := by
  intro g hgm
  obtain ⟨pre, post, rfl⟩ := List.append_of_mem hgm
  have hdisj' : ∀ g' ∈ pre ++ post, ∀ v ∈ g', v ∉ g := by
    have h := List.pairwise_append.mp hdisj
    intro g' hg' v hv hvg
    rcases List.mem_append.mp hg' with h1 | h1
    · exact h.2.2 g' h1 g List.mem_cons_self v hv hvg
    · exact (List.pairwise_cons.mp h.2.1).1 g' h1 v hvg hv
  refine (cond_indep_with_new_iff (fun o => code (labelOf P o)) n t hlen g _ (hg g hgm) ?_).mpr
    (Hmap_feasible code hcode t hnn hk P hP pre post g hdisj' hf)
  intro i hi
  obtain ⟨g', hg', hig'⟩ := (mem_vunions _ _).mp ((mem_vdiff _ _ _).mp hi).1
  exact hg g' hg' i hig'

/-- **`B ≤ H(W_P)` for every feasible function of the outcomes**, hence `B ≤ F`: the dual total correlation of the
groups is at most the entropy of the block masses of any partition that renders them conditionally independent. -/
theorem b_le_fci (code : Nat → σ) (hcode : Function.Injective code) (t : Tab (List σ) ℝ) (n : Nat)
    (hnn : ∀ r ∈ t, 0 ≤ r.2) (hmass : (t.map (·.2)).sum = 1)
    (hk : (keys t).Nodup) (hlen : ∀ k ∈ keys t, k.length = n)
    (groups : List VSet) (hg : ∀ g ∈ groups, ∀ v ∈ g, v < n)
    (hdisj : groups.Pairwise (fun a b => ∀ v, v ∈ a → v ∉ b))
    (P : List (List (List σ))) (hP : IsSetPartition P (keys t)) (hf : fciFeasible t groups P = true) :
    Comb.eval (Rat.castHom ℝ) (entropyOf (Real.logb 2) t) (dtcC groups [])
      ≤ entropyVals (Real.logb 2) (partMasses t P) := by
  have h := C16.b_le_f (withPart code t P)
    (insertRvf_nonneg _ _ t hnn) ((insertRvf_mass _ _ t).trans hmass) groups [n]
    (feasible_cond_indep code hcode t n hnn hk hlen groups hg hdisj P hP hf)
  rw [withPart_entropy code hcode t n hk hlen P hP] at h
  exact (eval_dtcC_agree _ (agree_insert (fun o => code (labelOf P o)) n t hlen) groups [] hg
    fun _ hi => absurd hi List.not_mem_nil).symm.trans_le h

/-- In particular for every member of `fciCandidates` (`hgs` is not needed: only membership in the groups
matters). -/
theorem b_le_every_candidate (code : Nat → σ) (hcode : Function.Injective code) (t : Tab (List σ) ℝ) (n : Nat)
    (hnn : ∀ r ∈ t, 0 ≤ r.2) (hmass : (t.map (·.2)).sum = 1)
    (hk : (keys t).Nodup) (hlen : ∀ k ∈ keys t, k.length = n)
    (groups : List VSet) (hg : ∀ g ∈ groups, ∀ v ∈ g, v < n)
    (hdisj : groups.Pairwise (fun a b => ∀ v, v ∈ a → v ∉ b)) (hgs : ∀ g ∈ groups, g = vnorm g) :
    ∀ P ∈ fciCandidates t groups,
      Comb.eval (Rat.castHom ℝ) (entropyOf (Real.logb 2) t) (dtcC groups [])
        ≤ entropyVals (Real.logb 2) (partMasses t P) := by
  have _ := hgs  -- not needed
  intro P hPc
  obtain ⟨hP, hf⟩ := fciCandidates_sound t hk groups P hPc
  exact b_le_fci code hcode t n hnn hmass hk hlen groups hg hdisj P hP hf

/-- Non-vacuity of the hypotheses shared by the theorems above: two copies of a fair bit, the groups `[0]` and `[1]`,
the partition of the two outcomes into singletons (the finest function, which is feasible), coded by the identity;
and this partition is one of the candidates. -/
example :
    Function.Injective (fun i : Nat => i)
    ∧ (∀ r ∈ ([([0, 0], 1 / 2), ([1, 1], 1 / 2)] : Tab (List Nat) ℝ), 0 ≤ r.2)
    ∧ (([([0, 0], 1 / 2), ([1, 1], 1 / 2)] : Tab (List Nat) ℝ).map (·.2)).sum = 1
    ∧ (keys ([([0, 0], 1 / 2), ([1, 1], 1 / 2)] : Tab (List Nat) ℝ)).Nodup
    ∧ (∀ k ∈ keys ([([0, 0], 1 / 2), ([1, 1], 1 / 2)] : Tab (List Nat) ℝ), k.length = 2)
    ∧ (∀ g ∈ ([[0], [1]] : List VSet), ∀ v ∈ g, v < 2)
    ∧ ([[0], [1]] : List VSet).Pairwise (fun a b => ∀ v, v ∈ a → v ∉ b)
    ∧ (∀ g ∈ ([[0], [1]] : List VSet), g = vnorm g)
    ∧ IsSetPartition [[[0, 0]], [[1, 1]]] (keys ([([0, 0], 1 / 2), ([1, 1], 1 / 2)] : Tab (List Nat) ℝ))
    ∧ fciFeasible ([([0, 0], 1 / 2), ([1, 1], 1 / 2)] : Tab (List Nat) ℝ) [[0], [1]] [[[0, 0]], [[1, 1]]] = true
    ∧ [[[0, 0]], [[1, 1]]] ∈ fciCandidates ([([0, 0], 1 / 2), ([1, 1], 1 / 2)] : Tab (List Nat) ℝ) [[0], [1]] := by
  have hfin := fci_finest_feasible ([([0, 0], 1 / 2), ([1, 1], 1 / 2)] : Tab (List Nat) ℝ) [[0], [1]]
    (List.cons_ne_nil _ _)
  have hnd : (keys ([([0, 0], 1 / 2), ([1, 1], 1 / 2)] : Tab (List Nat) ℝ)).Nodup := by decide
  refine ⟨fun _ _ h => h, ?_, by norm_num, hnd, by decide, by decide, by decide, by decide,
    setPartitions_sound hnd _ hfin.2.1, hfin.1, List.mem_filter.mpr ⟨hfin.2.1, hfin.1⟩⟩
  intro r hr
  rcases List.mem_pair.mp hr with rfl | rfl
  · exact one_half_pos.le
  · exact one_half_pos.le

end Dit.Props.C16FciBound
