/-
Helper lemmas for C03 (`condition_on` / `joint_from_factors`): event weights under scaling; the
conditional table `condTab` and the conditional distribution `condDist` built from it (names for
the two halves of the loop body of `Dist.conditionOn`, equal to it by `rfl`); `interleave`;
`jointFromFactors`. Property theorems: Props/C03.lean.
-/
import DitModel.Lemmas.Table
import Mathlib.Algebra.Field.Basic
import Mathlib.Algebra.BigOperators.Ring.List

namespace Dit.Lemmas.Cond
open Dit Dit.Lemmas.ListBasics Dit.Lemmas.Table

/-! ## Event weights under scaling -/

section WtSemiring
variable {κ κ' α : Type} [Semiring α]

theorem wtBy_map_mul_right (p : κ → Prop) [DecidablePred p] (a : α) (t : Tab κ α) :
    wtBy p (t.map (fun r => (r.1, r.2 * a))) = wtBy p t * a := by
  simp only [wtBy, List.map_map, ← List.sum_map_mul_right, Function.comp_def, ite_mul, zero_mul]

theorem wtBy_map_key_mul_left (p : κ' → Prop) [DecidablePred p] (g : κ → κ') (a : α)
    (t : Tab κ α) :
    wtBy p (t.map (fun r => (g r.1, a * r.2))) = a * wtBy (fun k => p (g k)) t := by
  simp only [wtBy, List.map_map, ← List.sum_map_mul_left, Function.comp_def, mul_ite, mul_zero]

end WtSemiring

/-! ## The conditional table of `condition_on` -/

section CondTab
variable {σ α : Type} [DecidableEq σ] [Field α]

/-- The un-trimmed conditional table for the stored conditioning row `c = (outcome, P(c))`:
the rows of the (sparse) joint table `ds` that agree with `c` on `cidx`, divided by `P(c)` and
pushed forward to the kept variables `idx`.  (Proof device: a name for the local `t` inside
`Dist.conditionOn`; see `conditionOn_conds`.) -/
def condTab (cidx idx : List Nat) (ds : Tab (List σ) α) (c : List σ × α) : Tab (List σ) α :=
  pushforward (project idx)
    ((ds.filter (fun r => project cidx r.1 = c.1)).map (fun r => (r.1, r.2 * c.2⁻¹)))

/-- The conditional distribution built from an un-trimmed conditional table `t` (the rest of
the body of the `map` in `Dist.conditionOn`): `t` re-tabulated over the stored outcomes of
`rdist`, then `make_sparse(trim)` or `make_dense` as the source `d` is sparse or dense. -/
def condDist (cfg : NumCfg α) (d rdist : Dist σ α) (t : Tab (List σ) α) : Dist σ α :=
  let dd : Dist σ α :=
    { space := rdist.space, tab := rdist.tab.map (fun r => (r.1, lookupD 0 t r.1)),
      sparse := d.sparse, base := d.base }
  if d.sparse then dd.makeSparse cfg true else dd.makeDense

theorem conditionOn_cdist (cfg : NumCfg α) (outLt : List σ → List σ → Bool) (d : Dist σ α)
    (cidx idx : List Nat) :
    (d.conditionOn cfg outLt cidx idx).cdist = (d.makeSparse cfg true).marginal cfg outLt cidx :=
  rfl

/-- `conditionOn` maps `condDist ∘ condTab` over the stored rows of the conditioning marginal. -/
theorem conditionOn_conds (cfg : NumCfg α) (outLt : List σ → List σ → Bool) (d : Dist σ α)
    (cidx idx : List Nat) :
    (d.conditionOn cfg outLt cidx idx).conds
      = ((d.makeSparse cfg true).marginal cfg outLt cidx).tab.map (fun c =>
          condDist cfg d ((d.makeSparse cfg true).marginal cfg outLt idx)
            (condTab cidx idx (d.makeSparse cfg true).tab c)) :=
  rfl

theorem wtBy_condTab (p : List σ → Prop) [DecidablePred p] (cidx idx : List Nat)
    (ds : Tab (List σ) α) (c : List σ × α) :
    wtBy p (condTab cidx idx ds c)
      = wtBy (fun o => project cidx o = c.1 ∧ p (project idx o)) ds * c.2⁻¹ := by
  unfold condTab
  rw [wtBy_pushforward, wtBy_map_mul_right,
    wtBy_filter_key _ (fun k => project cidx k = c.1)]
  exact congrArg (· * c.2⁻¹) (wtBy_congr_fun _ _ ds fun _ => and_comm)

theorem keys_condTab_nodup (cidx idx : List Nat) (ds : Tab (List σ) α) (c : List σ × α) :
    (keys (condTab cidx idx ds c)).Nodup :=
  keys_pushforward_nodup _ _

theorem lookupD_condTab (cidx idx : List Nat) (ds : Tab (List σ) α) (c : List σ × α)
    (r : List σ) :
    lookupD 0 (condTab cidx idx ds c) r
      = wtBy (fun o => project cidx o = c.1 ∧ project idx o = r) ds * c.2⁻¹ := by
  rw [lookupD_eq_wtBy (keys_condTab_nodup cidx idx ds c), wtBy_condTab]

theorem mem_keys_condTab (cidx idx : List Nat) (ds : Tab (List σ) α) (c : List σ × α)
    (r : List σ) :
    r ∈ keys (condTab cidx idx ds c)
      ↔ ∃ k ∈ keys ds, project cidx k = c.1 ∧ project idx k = r := by
  unfold condTab
  simp only [mem_keys_pushforward, keys_map_val,
    mem_keys_filter_key (fun k => project cidx k = c.1), and_assoc]

/-- **Chain rule on the table.** `P(c) · P(r|c) = P(c, r)` whenever `P(c) ≠ 0`. -/
theorem condTab_chain (cidx idx : List Nat) (ds : Tab (List σ) α) (c : List σ × α)
    (hc : c.2 ≠ 0) (r : List σ) :
    c.2 * lookupD 0 (condTab cidx idx ds c) r
      = wtBy (fun o => project cidx o = c.1 ∧ project idx o = r) ds := by
  rw [lookupD_condTab, mul_comm, inv_mul_cancel_right₀ hc]

theorem condTab_mass (cidx idx : List Nat) (ds : Tab (List σ) α) (c : List σ × α)
    (hc : c.2 ≠ 0) (hpc : c.2 = wtBy (fun o => project cidx o = c.1) ds) :
    mass (condTab cidx idx ds c) = 1 := by
  rw [← wtBy_true, wtBy_condTab]
  simp only [and_true]
  rw [← hpc, mul_inv_cancel₀ hc]

end CondTab

/-! ## The conditional distribution value -/

section CondDist
variable {σ α : Type} [DecidableEq σ] [Field α]

variable (cfg : NumCfg α) (d rdist : Dist σ α)

theorem condDist_base (t : Tab (List σ) α) : (condDist cfg d rdist t).base = d.base := by
  unfold condDist
  cases d.sparse <;> rfl

theorem condDist_sparse (t : Tab (List σ) α) : (condDist cfg d rdist t).sparse = d.sparse := by
  unfold condDist
  cases d.sparse <;> rfl

theorem condDist_space (t : Tab (List σ) α) : (condDist cfg d rdist t).space = rdist.space := by
  unfold condDist
  cases d.sparse <;> rfl

/-- A member `o` of the sample space reads the stored value of `t` if `rdist` stores `o` and
zero otherwise; for a sparse source a null value is trimmed and reads as an exact zero. -/
theorem condDist_get (t : Tab (List σ) α) (hnd : (keys rdist.tab).Nodup) (o : List σ)
    (ho : o ∈ rdist.space.toList) :
    (condDist cfg d rdist t).get o
      = some (if d.sparse = true ∧ cfg.isNull d.base
                  (if o ∈ keys rdist.tab then lookupD 0 t o else 0) = true
                then 0 else if o ∈ keys rdist.tab then lookupD 0 t o else 0) := by
  unfold condDist
  cases d.sparse with
  | false =>
    rw [if_neg Bool.false_ne_true, get_makeDense, get_eq]
    simp only [ho, if_true, lookupD_map_keys, Bool.false_eq_true, false_and, if_false]
  | true =>
    rw [if_pos rfl, get_makeSparse_trim cfg _ (by rw [keys_map_val]; exact hnd)]
    simp only [ho, if_true, keys_map_val, lookupD_map_keys, true_and]
    by_cases hk : o ∈ keys rdist.tab
    · simp only [hk, and_true, if_true]
    · simp only [hk, and_false, if_false, ite_self]

theorem condDist_tab_dense (t : Tab (List σ) α) (hd : d.sparse = false) :
    (condDist cfg d rdist t).tab
      = rdist.space.toList.map (fun o =>
          (o, lookupD 0 (rdist.tab.map (fun r => (r.1, lookupD 0 t r.1))) o)) := by
  unfold condDist
  rw [hd]
  rfl

theorem condDist_tab_sparse (t : Tab (List σ) α) (hd : d.sparse = true) :
    (condDist cfg d rdist t).tab
      = (rdist.tab.map (fun r => (r.1, lookupD 0 t r.1))).filter
          (fun r => !cfg.isNull d.base r.2) := by
  unfold condDist
  rw [hd]
  rfl

/-- Mass of the re-tabulated (un-trimmed) conditional row: it is the mass of the conditional
table as soon as every outcome that table stores is a stored outcome of the `idx`-marginal. -/
theorem mass_retab (t : Tab (List σ) α) (hnd : (keys rdist.tab).Nodup)
    (hsub : ∀ k ∈ keys t, k ∈ keys rdist.tab) (ht : (keys t).Nodup) :
    mass (rdist.tab.map (fun r => (r.1, lookupD 0 t r.1))) = mass t := by
  rw [← wtBy_true, map_fst_eq_map_keys, wtBy_retab _ hnd ht hsub, wtBy_true]

/-- The stored conditional has the event weights of `t`: the null test being exact, trimming
loses nothing; `hsp` matters for a dense source only. -/
theorem wtBy_condDist_tab (t : Tab (List σ) α) (q : List σ → Prop) [DecidablePred q]
    (hex : ∀ x, cfg.isNull d.base x = true → x = 0)
    (hnd : (keys rdist.tab).Nodup) (ht : (keys t).Nodup)
    (hsub : ∀ k ∈ keys t, k ∈ keys rdist.tab)
    (hsp : d.sparse = false →
      rdist.space.toList.Nodup ∧ ∀ k ∈ keys rdist.tab, k ∈ rdist.space.toList) :
    wtBy q (condDist cfg d rdist t).tab = wtBy q t := by
  have hfull : wtBy q (rdist.tab.map (fun r => (r.1, lookupD 0 t r.1))) = wtBy q t := by
    rw [map_fst_eq_map_keys, wtBy_retab q hnd ht hsub]
  rw [← hfull]
  cases hd : d.sparse with
  | false =>
    rw [condDist_tab_dense cfg d rdist t hd]
    exact wtBy_retab q (hsp hd).1 (by rw [keys_map_val]; exact hnd)
      (by rw [keys_map_val]; exact (hsp hd).2)
  | true =>
    rw [condDist_tab_sparse cfg d rdist t hd]
    exact wtBy_filter_of_zero q _ _ (fun r _ hr => hex r.2 (by simpa using hr))

end CondDist

/-! ## `interleave` -/

section Interleave
variable {σ : Type}

@[simp] theorem interleave_nil (x y : List σ) : interleave [] x y = [] := by
  unfold interleave; rfl

theorem interleave_true_cons (m : List Bool) (a : σ) (x y : List σ) :
    interleave (true :: m) (a :: x) y = a :: interleave m x y := by
  rw [interleave]

theorem interleave_true_nil (m : List Bool) (y : List σ) :
    interleave (true :: m) [] y = interleave m [] y := by
  rw [interleave]

theorem interleave_false_cons (m : List Bool) (b : σ) (x y : List σ) :
    interleave (false :: m) x (b :: y) = b :: interleave m x y := by
  rw [interleave]

theorem interleave_false_nil (m : List Bool) (x : List σ) :
    interleave (false :: m) x [] = interleave m x [] := by
  rw [interleave]

theorem interleave_project_filter (P : Nat → Bool) (u : List Nat) (o : List σ)
    (h : ∀ i ∈ u, i < o.length) :
    interleave (u.map P) (project (u.filter P) o) (project (u.filter (fun i => !P i)) o)
      = project u o := by
  induction u with
  | nil => rfl
  | cons i u ih =>
    have hi : i < o.length := h i List.mem_cons_self
    have ih' := ih fun j hj => h j (List.mem_cons_of_mem _ hj)
    rw [List.map_cons, List.filter_cons, List.filter_cons, project_cons_of_lt hi]
    cases hP : P i with
    | true =>
      simp only [if_true, Bool.not_true, Bool.false_eq_true, if_false]
      rw [project_cons_of_lt hi, interleave_true_cons, ih']
    | false =>
      simp only [Bool.false_eq_true, if_false, Bool.not_false, if_true]
      rw [project_cons_of_lt hi, interleave_false_cons, ih']

theorem merge_filter (cidx idx : List Nat) (hc : cidx.Pairwise (· < ·)) (hi : idx.Pairwise (· < ·))
    (hdis : ∀ i ∈ cidx, i ∉ idx) :
    (isort (fun a b => decide (a < b)) (cidx ++ idx)).filter (fun i => decide (i ∈ cidx)) = cidx
      ∧ (isort (fun a b => decide (a < b)) (cidx ++ idx)).filter (fun i => !decide (i ∈ cidx))
          = idx := by
  have e1 : (cidx ++ idx).filter (fun i => decide (i ∈ cidx)) = cidx := by
    rw [List.filter_append, List.filter_eq_self.mpr fun a ha => decide_eq_true ha,
      List.filter_eq_nil_iff.mpr fun a ha => by simpa using fun hc' => hdis a hc' ha,
      List.append_nil]
  have e2 : (cidx ++ idx).filter (fun i => !decide (i ∈ cidx)) = idx := by
    rw [List.filter_append, List.filter_eq_nil_iff.mpr fun a ha => by simpa using ha,
      List.filter_eq_self.mpr fun a ha => by simpa using fun hc' => hdis a hc' ha,
      List.nil_append]
  exact ⟨by rw [filter_isort_nat _ _ (e1.symm ▸ hc), e1],
    by rw [filter_isort_nat _ _ (e2.symm ▸ hi), e2]⟩

/-- `interleave` loses nothing when the mask has room for both arguments: on pairs of equal
lengths not exceeding the numbers of `true`s / `false`s of the mask it is injective. -/
theorem interleave_inj (mask : List Bool) (x x' y y' : List σ)
    (hx : x.length = x'.length) (hy : y.length = y'.length)
    (hxm : x.length ≤ mask.count true) (hym : y.length ≤ mask.count false)
    (h : interleave mask x y = interleave mask x' y') : x = x' ∧ y = y' := by
  induction mask generalizing x x' y y' with
  | nil =>
    have hx0 : x.length = 0 := Nat.le_zero.mp hxm
    have hy0 : y.length = 0 := Nat.le_zero.mp hym
    rw [List.eq_nil_of_length_eq_zero hx0, List.eq_nil_of_length_eq_zero (hx.symm.trans hx0),
      List.eq_nil_of_length_eq_zero hy0, List.eq_nil_of_length_eq_zero (hy.symm.trans hy0)]
    exact ⟨rfl, rfl⟩
  | cons b m ih =>
    cases b with
    | true =>
      rw [List.count_cons_self] at hxm
      rw [List.count_cons_of_ne Bool.false_ne_true.symm] at hym
      match x, x', hx with
      | [], [], _ =>
        rw [interleave_true_nil, interleave_true_nil] at h
        exact ih [] [] y y' rfl hy (Nat.zero_le _) hym h
      | a :: xs, a' :: xs', hx =>
        rw [interleave_true_cons, interleave_true_cons] at h
        injection h with h1 h2
        have := ih xs xs' y y' (Nat.succ.inj hx) hy (Nat.le_of_succ_le_succ hxm) hym h2
        exact ⟨by rw [h1, this.1], this.2⟩
    | false =>
      rw [List.count_cons_self] at hym
      rw [List.count_cons_of_ne Bool.false_ne_true] at hxm
      match y, y', hy with
      | [], [], _ =>
        rw [interleave_false_nil, interleave_false_nil] at h
        exact ih x x' [] [] hx rfl hxm (Nat.zero_le _) h
      | b :: ys, b' :: ys', hy =>
        rw [interleave_false_cons, interleave_false_cons] at h
        injection h with h1 h2
        have := ih x x' ys ys' hx (Nat.succ.inj hy) hxm (Nat.le_of_succ_le_succ hym) h2
        exact ⟨this.1, by rw [h1, this.2]⟩

end Interleave

/-! ## `jointFromFactors` -/

section JFF
variable {σ α : Type}

theorem jff_nil_left [Mul α] (mask : List Bool) (cs : List (Tab (List σ) α)) :
    jointFromFactors mask ([] : Tab (List σ) α) cs = [] := by
  simp [jointFromFactors]

theorem jff_nil_right [Mul α] (mask : List Bool) (m : Tab (List σ) α) :
    jointFromFactors mask m ([] : List (Tab (List σ) α)) = [] := by
  simp [jointFromFactors]

theorem jff_cons [Mul α] (mask : List Bool) (r : List σ × α) (m : Tab (List σ) α)
    (t : Tab (List σ) α) (cs : List (Tab (List σ) α)) :
    jointFromFactors mask (r :: m) (t :: cs)
      = t.map (fun s => (interleave mask r.1 s.1, r.2 * s.2)) ++ jointFromFactors mask m cs := by
  simp [jointFromFactors]

theorem wtBy_jff [Semiring α] (p : List σ → Prop) [DecidablePred p] (mask : List Bool)
    (m : Tab (List σ) α) (cs : List (Tab (List σ) α)) :
    wtBy p (jointFromFactors mask m cs)
      = ((m.zip cs).map (fun mc =>
          mc.1.2 * wtBy (fun y => p (interleave mask mc.1.1 y)) mc.2)).sum := by
  unfold jointFromFactors
  rw [wtBy_flatMap]
  apply congrArg
  apply List.map_congr_left
  intro mc _
  exact wtBy_map_key_mul_left p (interleave mask mc.1.1) mc.1.2 mc.2

theorem wtBy_jff_map [Semiring α] (p : List σ → Prop) [DecidablePred p] (mask : List Bool)
    (m : Tab (List σ) α) (g : List σ × α → Tab (List σ) α) :
    wtBy p (jointFromFactors mask m (m.map g))
      = (m.map (fun c => c.2 * wtBy (fun y => p (interleave mask c.1 y)) (g c))).sum := by
  rw [wtBy_jff, zip_map_self, List.map_map]
  rfl

theorem wtBy_jff_map_congr [Semiring α] (p : List σ → Prop) [DecidablePred p] (mask : List Bool)
    (m : Tab (List σ) α) (g g' : List σ × α → Tab (List σ) α)
    (h : ∀ c ∈ m, ∀ (q : List σ → Prop) [DecidablePred q], wtBy q (g c) = wtBy q (g' c)) :
    wtBy p (jointFromFactors mask m (m.map g)) = wtBy p (jointFromFactors mask m (m.map g')) := by
  rw [wtBy_jff_map, wtBy_jff_map]
  exact congrArg List.sum (List.map_congr_left fun c hc => by rw [h c hc])

theorem mem_keys_jff [Mul α] (mask : List Bool) (m : Tab (List σ) α)
    (cs : List (Tab (List σ) α)) (z : List σ) :
    z ∈ keys (jointFromFactors mask m cs)
      ↔ ∃ mc ∈ m.zip cs, ∃ y ∈ keys mc.2, interleave mask mc.1.1 y = z := by
  unfold jointFromFactors keys
  simp only [List.mem_map, List.mem_flatMap]
  constructor
  · rintro ⟨a, ⟨mc, hmc, s, hs, rfl⟩, rfl⟩
    exact ⟨mc, hmc, s.1, ⟨s, hs, rfl⟩, rfl⟩
  · rintro ⟨mc, hmc, y, ⟨s, hs, rfl⟩, rfl⟩
    exact ⟨_, ⟨mc, hmc, s, hs, rfl⟩, rfl⟩

/-- The recombined table lists each outcome once when the marginal and every conditional do
and the mask has room for the outcomes (so that `interleave` is injective). -/
theorem jff_keys_nodup [Mul α] (mask : List Bool) (m : Tab (List σ) α)
    (cs : List (Tab (List σ) α)) (a b : Nat)
    (hm : (keys m).Nodup) (hcs : ∀ t ∈ cs, (keys t).Nodup)
    (hma : ∀ x ∈ keys m, x.length = a) (hcb : ∀ t ∈ cs, ∀ y ∈ keys t, y.length = b)
    (ha : a ≤ mask.count true) (hb : b ≤ mask.count false) :
    (keys (jointFromFactors mask m cs)).Nodup := by
  induction m generalizing cs with
  | nil => rw [jff_nil_left]; exact List.nodup_nil
  | cons r m ih =>
    cases cs with
    | nil => rw [jff_nil_right]; exact List.nodup_nil
    | cons t cs =>
      rw [keys_cons, List.nodup_cons] at hm
      have hra : r.1.length = a := hma r.1 List.mem_cons_self
      have ht := hcb t List.mem_cons_self
      rw [jff_cons, keys_append, keys_map]
      refine List.nodup_append.mpr ⟨?_, ?_, ?_⟩
      · refine (hcs t List.mem_cons_self).map_on fun y hy y' hy' e => ?_
        exact (interleave_inj mask r.1 r.1 y y' rfl ((ht y hy).trans (ht y' hy').symm)
          (hra.le.trans ha) ((ht y hy).le.trans hb) e).2
      · exact ih cs hm.2 (fun t' ht' => hcs t' (List.mem_cons_of_mem _ ht'))
          (fun x hx => hma x (List.mem_cons_of_mem _ hx))
          (fun t' ht' => hcb t' (List.mem_cons_of_mem _ ht'))
      · intro z hz1 z' hz2 e
        obtain ⟨y, hy, rfl⟩ := List.mem_map.mp hz1
        obtain ⟨mc, hmc, y', hy', e2⟩ := (mem_keys_jff mask m cs _).mp (e ▸ hz2)
        have hmc' := List.of_mem_zip (a := mc.1) (b := mc.2) hmc
        have hx := mem_keys_of_mem hmc'.1
        have := (interleave_inj mask r.1 mc.1.1 y y'
          (hra.trans (hma _ (List.mem_cons_of_mem _ hx)).symm)
          ((ht y hy).trans (hcb mc.2 (List.mem_cons_of_mem _ hmc'.2) y' hy').symm)
          (hra.le.trans ha) ((ht y hy).le.trans hb) e2.symm).1
        exact hm.1 (this ▸ hx)

variable [DecidableEq σ] in
/-- **Recombination (table level).** The mask `u.map P` splits the positions `u` into the
conditioning positions `u.filter P` and the kept ones; the result is the joint weight of the
event restricted to the conditioning outcomes listed in `m`. -/
theorem wtBy_jff_condTab [Field α] (p : List σ → Prop) [DecidablePred p] (P : Nat → Bool)
    (u : List Nat) (ds m : Tab (List σ) α) (hm : (keys m).Nodup) (hne : ∀ c ∈ m, c.2 ≠ 0)
    (hlen : ∀ k ∈ keys ds, ∀ i ∈ u, i < k.length) :
    wtBy p (jointFromFactors (u.map P) m
        (m.map (condTab (u.filter P) (u.filter (fun i => !P i)) ds)))
      = wtBy (fun o => p (project u o) ∧ project (u.filter P) o ∈ keys m) ds := by
  have step : ∀ c ∈ m,
      c.2 * wtBy (fun y => p (interleave (u.map P) c.1 y))
          (condTab (u.filter P) (u.filter (fun i => !P i)) ds c)
        = wtBy (fun o => project (u.filter P) o = c.1 ∧ p (project u o)) ds := by
    intro c hc
    rw [wtBy_condTab, mul_comm, inv_mul_cancel_right₀ (hne c hc)]
    refine wtBy_congr _ _ ds fun k hk => and_congr_right fun h => ?_
    rw [← h, interleave_project_filter P u k (hlen k hk)]
  rw [wtBy_jff_map, List.map_congr_left step]
  refine Eq.trans ?_ ((sum_map_wtBy_fibre_and hm (project (u.filter P))
    (fun o => p (project u o)) ds).trans ?_)
  · rw [keys, List.map_map]
    rfl
  · -- the two sides decide `· ∈ keys m` through different `BEq (List σ)` instances
    congr

end JFF

/-! ## Example data for the non-vacuity examples of Props/C03.lean -/

section ExampleData

/-- Exact null test on `Rat`. -/
def cfgQ : NumCfg Rat := ⟨fun _ v => v == 0, fun _ v => v == 1, fun _ _ => true⟩

/-- `P(00) = P(01) = 1/4, P(10) = 1/2` on two binary variables, sparse. -/
def dQ : Dist Nat Rat :=
  ⟨.cart [[0, 1], [0, 1]], [([0, 0], 1 / 4), ([0, 1], 1 / 4), ([1, 0], 1 / 2)], true, .linear⟩

/-- The same distribution, dense (the zero is stored). -/
def dQdense : Dist Nat Rat :=
  ⟨.cart [[0, 1], [0, 1]], [([0, 0], 1 / 4), ([0, 1], 1 / 4), ([1, 0], 1 / 2), ([1, 1], 0)],
    false, .linear⟩

end ExampleData

end Dit.Lemmas.Cond
