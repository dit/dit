/-
Helper lemmas for C01 (the constructor). Property theorems are in Props/C01.lean.

`construct` is an `if`-chain of four argument checks followed by `validate` on the object that
was built. The pieces of that chain are given names here (`noSpace`, `raggedArg`, `spaceArg`,
`finish`: each is literally the corresponding `let`-bound term of `Dit.construct`, see
`construct_eq`, proved by `rfl`), `validate` on the built object is simplified
(`validate_finish`: its `InvalidOutcome` branch is dead code after the constructor's own
membership check), and the chain is restated as six nested checks (`construct_eq_checks`), from
which success (`construct_ok_iff`) and each rejection (Props/C01.lean) are read off.
Then: lookups in, and order and distinctness of, the stored table of `finish`; the alphabets of
a sample space; the sample space `spaceArg` builds.
-/
import DitModel.Lemmas.Table
import Mathlib.Algebra.Ring.Rat

namespace Dit.Lemmas.Construct
open Dit Dit.Lemmas.ListBasics Dit.Lemmas.Table

variable {σ α : Type}

/-! ## Names for the `let`-bound pieces of `construct` -/

def noSpace : SpaceArg σ → Bool
  | .none => true
  | _ => false

/-- The list whose rows must have equal lengths: the outcomes if no sample space was
supplied, else the supplied list (nothing for a `CartesianProduct`). -/
def ssArg (outs : List (List σ)) : SpaceArg σ → List (List σ)
  | .none => outs
  | .list l => l
  | .sampleSpace l => l
  | .cartesian _ => []

def raggedArg (outs : List (List σ)) : SpaceArg σ → Bool
  | .cartesian _ => false
  | sp => !sameLength (ssArg outs sp)

def spaceArg [DecidableEq σ] (symLt : σ → σ → Bool) (outLt : List σ → List σ → Bool)
    (outs : List (List σ)) : SpaceArg σ → Space σ
  | .none => .cart ((alphabetsOf outs).map (isort symLt))
  | .list l => .expl l
  | .sampleSpace l => .expl (isort outLt l)
  | .cartesian as => .cart (as.map (isort symLt))

def finish [DecidableEq σ] [Zero α] (cfg : NumCfg α) (space : Space σ)
    (outs : List (List σ)) (pmf : List α) (base : Base) (sparse trim : Bool) : Dist σ α :=
  if sparse then
    (Dist.mk space (sortBy space.rank (outs.zip pmf)) sparse base).makeSparse cfg trim
  else (Dist.mk space (sortBy space.rank (outs.zip pmf)) sparse base).makeDense

section Chain
variable [DecidableEq σ] [AddCommMonoid α]
variable (cfg : NumCfg α) (symLt : σ → σ → Bool) (outLt : List σ → List σ → Bool)
  (outs : List (List σ)) (pmf : List α) (sp : SpaceArg σ) (base : Base) (sparse trim : Bool)

/-- `construct`, with its `let`s named. -/
theorem construct_eq :
    construct cfg symLt outLt outs pmf sp base sparse trim =
      if pmf.length ≠ outs.length then .error .invalidDistribution
      else if outs.isEmpty && noSpace sp then .error .invalidDistribution
      else if raggedArg outs sp then .error .ditException
      else if !outs.all (spaceArg symLt outLt outs sp).mem then .error .invalidOutcome
      else match (finish cfg (spaceArg symLt outLt outs sp) outs pmf base sparse trim).validate cfg
        with
        | some e => .error e
        | none => .ok (finish cfg (spaceArg symLt outLt outs sp) outs pmf base sparse trim) := by
  cases sp <;> rfl

end Chain

/-! ## The built object -/

section Finish
variable (cfg : NumCfg α) (space : Space σ) (outs : List (List σ)) (pmf : List α)

variable [DecidableEq σ]

theorem mem_of_mem_keys_sorted {k : List σ}
    (hk : k ∈ keys (sortBy space.rank (outs.zip pmf))) : k ∈ outs :=
  (keys_zip_sublist outs pmf).subset ((mem_keys_sortBy _ _ _).mp hk)

variable [AddCommMonoid α] (base : Base) (sparse trim : Bool)

@[simp] theorem finish_space : (finish cfg space outs pmf base sparse trim).space = space := by
  unfold finish; cases sparse <;> rfl

@[simp] theorem finish_base : (finish cfg space outs pmf base sparse trim).base = base := by
  unfold finish; cases sparse <;> rfl

@[simp] theorem finish_sparse : (finish cfg space outs pmf base sparse trim).sparse = sparse := by
  unfold finish; cases sparse <;> rfl

theorem finish_tab_dense :
    (finish cfg space outs pmf base false trim).tab
      = space.toList.map (fun o => (o, lookupD 0 (sortBy space.rank (outs.zip pmf)) o)) := rfl

theorem finish_tab_untrimmed :
    (finish cfg space outs pmf base true false).tab = sortBy space.rank (outs.zip pmf) := rfl

theorem finish_tab_trimmed :
    (finish cfg space outs pmf base true true).tab
      = (sortBy space.rank (outs.zip pmf)).filter (fun r => !cfg.isNull base r.2) := rfl

theorem keys_finish_dense :
    keys (finish cfg space outs pmf base false trim).tab = space.toList :=
  keys_map_graph _ _

theorem keys_finish_sparse_sublist :
    (keys (finish cfg space outs pmf base true trim).tab).Sublist
      (keys (sortBy space.rank (outs.zip pmf))) := by
  cases trim with
  | false => exact List.Sublist.refl _
  | true => exact keys_filter_sublist _ _

theorem mem_space_of_mem_keys_finish (hmem : ∀ o ∈ outs, o ∈ space.toList) {k : List σ}
    (hk : k ∈ keys (finish cfg space outs pmf base sparse trim).tab) : k ∈ space.toList := by
  cases sparse with
  | false => rwa [keys_finish_dense] at hk
  | true =>
    exact hmem k (mem_of_mem_keys_sorted space outs pmf
      ((keys_finish_sparse_sublist cfg space outs pmf base trim).subset hk))

/-- `validate` on the built object: its `InvalidOutcome` branch cannot fire after the
constructor's own membership check. -/
theorem validate_finish (hmem : ∀ o ∈ outs, o ∈ space.toList) :
    (finish cfg space outs pmf base sparse trim).validate cfg =
      if !cfg.normOK base (lsum (vals (finish cfg space outs pmf base sparse trim).tab))
      then some .invalidNormalization
      else if !(vals (finish cfg space outs pmf base sparse trim).tab).all (cfg.rangeOK base)
      then some .invalidProbability
      else none := by
  have hall : (keys (finish cfg space outs pmf base sparse trim).tab).all
      (finish cfg space outs pmf base sparse trim).space.mem = true := by
    rw [List.all_eq_true]
    intro k hk
    rw [finish_space, Space.mem_iff]
    exact mem_space_of_mem_keys_finish cfg space outs pmf base sparse trim hmem hk
  unfold Dist.validate
  rw [hall, finish_base]
  rfl

end Finish

/-! ## Inverting the `if`-chain -/

section Checks
variable {ε β : Type} {b c : Prop} [Decidable b] [Decidable c] {e e' : ε} {r r' : Except ε β}
  {x : β}

/-- An early exit on `b`, read as a check that `c` holds. -/
theorem check_of_exit (hc : b ↔ ¬c) (hr : c → r = r') :
    (if b then .error e else r) = if c then r' else .error e := by
  by_cases h : c
  · rw [if_neg (fun hb => hc.mp hb h), if_pos h, hr h]
  · rw [if_pos (hc.mpr h), if_neg h]

theorem check_eq_ok_iff : (if c then r else .error e) = .ok x ↔ c ∧ r = .ok x := by
  by_cases h : c <;> simp [h]

theorem check_eq_error_iff :
    (if c then r else .error e) = .error e' ↔ (c ∧ r = .error e') ∨ (¬c ∧ e = e') := by
  by_cases h : c <;> simp [h]

end Checks

section Invert
variable [DecidableEq σ] [AddCommMonoid α]
variable (cfg : NumCfg α) (symLt : σ → σ → Bool) (outLt : List σ → List σ → Bool)
  (outs : List (List σ)) (pmf : List α) (sp : SpaceArg σ) (base : Base) (sparse trim : Bool)

/-- The constructor as six successive checks, each stated as the condition under which it
passes. -/
theorem construct_eq_checks :
    construct cfg symLt outLt outs pmf sp base sparse trim =
      if pmf.length = outs.length then
        if ¬ (outs = [] ∧ noSpace sp = true) then
          if raggedArg outs sp = false then
            if ∀ o ∈ outs, o ∈ (spaceArg symLt outLt outs sp).toList then
              if cfg.normOK base (lsum (vals
                  (finish cfg (spaceArg symLt outLt outs sp) outs pmf base sparse trim).tab)) = true then
                if (vals (finish cfg (spaceArg symLt outLt outs sp) outs pmf base sparse trim).tab).all
                    (cfg.rangeOK base) = true then
                  .ok (finish cfg (spaceArg symLt outLt outs sp) outs pmf base sparse trim)
                else .error .invalidProbability
              else .error .invalidNormalization
            else .error .invalidOutcome
          else .error .ditException
        else .error .invalidDistribution
      else .error .invalidDistribution := by
  rw [construct_eq]
  refine check_of_exit Iff.rfl fun _ => ?_
  refine check_of_exit (by rw [Bool.and_eq_true, List.isEmpty_iff, not_not]) fun _ => ?_
  refine check_of_exit (by rw [Bool.not_eq_false]) fun _ => ?_
  refine check_of_exit ?_ fun h4 => ?_
  · simp only [Bool.not_eq_true', List.all_eq_false, Space.mem_iff]
    push Not
    rfl
  rw [validate_finish _ _ _ _ _ _ _ h4]
  generalize cfg.normOK base _ = n
  generalize (vals _).all _ = a
  cases n <;> cases a <;> rfl

/-- **Inversion.** The constructor succeeds exactly when all six checks pass, and then
returns the built object. -/
theorem construct_ok_iff (d : Dist σ α) :
    construct cfg symLt outLt outs pmf sp base sparse trim = .ok d ↔
      pmf.length = outs.length ∧ ¬ (outs = [] ∧ noSpace sp = true) ∧ raggedArg outs sp = false ∧
      (∀ o ∈ outs, o ∈ (spaceArg symLt outLt outs sp).toList) ∧
      cfg.normOK base (lsum (vals
        (finish cfg (spaceArg symLt outLt outs sp) outs pmf base sparse trim).tab)) = true ∧
      (∀ v ∈ vals (finish cfg (spaceArg symLt outLt outs sp) outs pmf base sparse trim).tab,
        cfg.rangeOK base v = true) ∧
      d = finish cfg (spaceArg symLt outLt outs sp) outs pmf base sparse trim := by
  rw [construct_eq_checks]
  simp only [check_eq_ok_iff, List.all_eq_true, Except.ok.injEq, eq_comm (b := d)]

theorem eq_finish_of_construct_ok {cfg : NumCfg α} {symLt : σ → σ → Bool}
    {outLt : List σ → List σ → Bool} {outs : List (List σ)} {pmf : List α} {sp : SpaceArg σ}
    {base : Base} {sparse trim : Bool} {d : Dist σ α}
    (h : construct cfg symLt outLt outs pmf sp base sparse trim = .ok d) :
    d = finish cfg (spaceArg symLt outLt outs sp) outs pmf base sparse trim :=
  ((construct_ok_iff ..).mp h).2.2.2.2.2.2

theorem validate_of_construct_ok {cfg : NumCfg α} {symLt : σ → σ → Bool}
    {outLt : List σ → List σ → Bool} {outs : List (List σ)} {pmf : List α} {sp : SpaceArg σ}
    {base : Base} {sparse trim : Bool} {d : Dist σ α}
    (h : construct cfg symLt outLt outs pmf sp base sparse trim = .ok d) :
    d.validate cfg = none := by
  obtain ⟨-, -, -, h4, h5, h6, rfl⟩ := (construct_ok_iff ..).mp h
  rw [validate_finish _ _ _ _ _ _ _ h4, h5, List.all_eq_true.mpr h6]
  rfl

end Invert

/-! ## Lookups in the built object -/

section Lookup
variable (cfg : NumCfg α) (space : Space σ) (outs : List (List σ)) (pmf : List α)

variable [DecidableEq σ]

theorem nodup_keys_sorted (h : outs.Nodup) :
    (keys (sortBy space.rank (outs.zip pmf))).Nodup :=
  (nodup_keys_sortBy _ _).mpr (nodup_keys_zip outs pmf h)

theorem lookup?_sorted_specified (hnd : outs.Nodup) {i : Nat} {o : List σ} {p : α}
    (ho : outs[i]? = some o) (hp : pmf[i]? = some p) :
    lookup? (sortBy space.rank (outs.zip pmf)) o = some p := by
  rw [lookup?_sortBy _ _ (nodup_keys_zip outs pmf hnd), lookup?_zip outs pmf hnd ho hp]

variable [AddCommMonoid α] (base : Base) (sparse trim : Bool)

theorem lookupD_finish_dense {o : List σ} (hmem : o ∈ space.toList) :
    lookupD 0 (finish cfg space outs pmf base false trim).tab o
      = lookupD 0 (sortBy space.rank (outs.zip pmf)) o := by
  rw [finish_tab_dense]
  unfold lookupD
  rw [lookup?_map_graph, if_pos hmem]
  rfl

/-- Lookup of a specified outcome: the specified value, except that a null value is read
back as an exact zero after trimming. -/
theorem get_finish_specified (hnd : outs.Nodup) {i : Nat} {o : List σ} {p : α}
    (hmem : o ∈ space.toList) (ho : outs[i]? = some o) (hp : pmf[i]? = some p) :
    (finish cfg space outs pmf base sparse trim).get o
      = some (if sparse = true ∧ trim = true ∧ cfg.isNull base p = true then 0 else p) := by
  have hl := lookup?_sorted_specified space outs pmf hnd ho hp
  rw [get_eq, finish_space, if_pos hmem]
  cases sparse with
  | false =>
    rw [lookupD_finish_dense cfg space outs pmf base trim hmem, lookupD, hl]
    rfl
  | true =>
    cases trim with
    | false =>
      rw [finish_tab_untrimmed, lookupD, hl]
      rfl
    | true =>
      rw [finish_tab_trimmed, lookupD_filter _ (nodup_keys_sorted space outs pmf hnd), hl]
      show some (if (!cfg.isNull base p) = true then p else 0) = _
      cases cfg.isNull base p <;> rfl

theorem get_finish_rest {o : List σ} (hmem : o ∈ space.toList) (ho : o ∉ outs) :
    (finish cfg space outs pmf base sparse trim).get o = some 0 := by
  have hk : o ∉ keys (sortBy space.rank (outs.zip pmf)) :=
    fun h => ho (mem_of_mem_keys_sorted space outs pmf h)
  rw [get_eq, finish_space, if_pos hmem]
  cases sparse with
  | false => rw [lookupD_finish_dense cfg space outs pmf base trim hmem, lookupD_of_not_mem 0 hk]
  | true =>
    rw [lookupD_of_not_mem 0 fun h =>
      hk ((keys_finish_sparse_sublist cfg space outs pmf base trim).subset h)]

end Lookup

/-! ## Alignment of the stored table -/

section Aligned
variable [DecidableEq σ] [AddCommMonoid α]
variable (cfg : NumCfg α) (space : Space σ) (outs : List (List σ)) (pmf : List α)
  (base : Base) (sparse trim : Bool)

/-- In dense mode the hypothesis on the sample space is also necessary. -/
theorem nodup_keys_finish (hnd : outs.Nodup) (h : sparse = true ∨ space.toList.Nodup) :
    (keys (finish cfg space outs pmf base sparse trim).tab).Nodup := by
  cases sparse with
  | false =>
    rw [keys_finish_dense]
    exact h.resolve_left Bool.false_ne_true
  | true =>
    exact (nodup_keys_sorted space outs pmf hnd).sublist
      (keys_finish_sparse_sublist cfg space outs pmf base trim)

theorem sorted_keys_finish_sparse :
    (keys (finish cfg space outs pmf base true trim).tab).Pairwise
      (fun a b => space.rank a ≤ space.rank b) :=
  (keys_sortBy_sorted _ _).sublist (keys_finish_sparse_sublist cfg space outs pmf base trim)

theorem strict_keys_finish (hmem : ∀ o ∈ outs, o ∈ space.toList) (hnd : outs.Nodup)
    (h : sparse = true ∨ space.toList.Nodup) :
    (keys (finish cfg space outs pmf base sparse trim).tab).Pairwise
      (fun a b => space.rank a < space.rank b) := by
  cases sparse with
  | false =>
    rw [keys_finish_dense]
    exact Space.pairwise_rank space (h.resolve_left Bool.false_ne_true)
  | true =>
    exact strict_of_sorted_nodup space
      (fun k hk => mem_space_of_mem_keys_finish cfg space outs pmf base true trim hmem hk)
      (nodup_keys_finish cfg space outs pmf base true trim hnd (Or.inl rfl))
      (sorted_keys_finish_sparse cfg space outs pmf base trim)

theorem finish_trimmed {r : List σ × α} (hr : r ∈ (finish cfg space outs pmf base true true).tab) :
    cfg.isNull base r.2 = false := by
  rw [finish_tab_trimmed, List.mem_filter] at hr
  simpa using hr.2

theorem mem_keys_finish_trimmed {k : List σ} :
    k ∈ keys (finish cfg space outs pmf base true true).tab ↔
      ∃ p, (k, p) ∈ outs.zip pmf ∧ cfg.isNull base p = false := by
  rw [finish_tab_trimmed, mem_keys_filter]
  simp only [(sortBy_perm _ _).mem_iff, Bool.not_eq_eq_eq_not, Bool.not_true]

theorem keys_finish_untrimmed_perm (hlen : pmf.length = outs.length) :
    (keys (finish cfg space outs pmf base true false).tab).Perm outs := by
  rw [finish_tab_untrimmed]
  have := keys_sortBy_perm space.rank (outs.zip pmf)
  rwa [keys_zip outs pmf hlen] at this

theorem tab_finish_untrimmed_perm :
    (finish cfg space outs pmf base true false).tab.Perm (outs.zip pmf) := by
  rw [finish_tab_untrimmed]; exact sortBy_perm _ _

end Aligned

/-! ## Alphabets -/

section Alphabets
variable [DecidableEq σ]

omit [DecidableEq σ] in
theorem sameLength_iff {l : List (List σ)} :
    sameLength l = true ↔ ∀ x ∈ l, ∀ y ∈ l, x.length = y.length := by
  cases l with
  | nil => simp [sameLength]
  | cons o t =>
    simp only [sameLength, List.all_eq_true, beq_iff_eq]
    constructor
    · intro h
      have h' : ∀ x ∈ o :: t, x.length = o.length := List.forall_mem_cons.mpr ⟨rfl, h⟩
      intro x hx y hy
      rw [h' x hx, h' y hy]
    · intro h x hx
      exact h x (List.mem_cons_of_mem _ hx) o (List.mem_cons_self ..)

theorem alphabetsOf_nodup (outs : List (List σ)) : ∀ a ∈ alphabetsOf outs, a.Nodup := by
  intro a ha
  cases outs with
  | nil => simp [alphabetsOf] at ha
  | cons o t =>
    simp only [alphabetsOf, List.mem_map] at ha
    obtain ⟨i, _, rfl⟩ := ha
    exact nodup_dedup _

theorem alphabetsOf_cons (o : List σ) (t : List (List σ)) :
    alphabetsOf (o :: t)
      = (List.range o.length).map (fun i => dedup ((o :: t).filterMap (fun x => x[i]?))) := rfl

theorem length_alphabetsOf_cons (o : List σ) (t : List (List σ)) :
    (alphabetsOf (o :: t)).length = o.length := by
  rw [alphabetsOf_cons, List.length_map, List.length_range]

theorem getElem?_alphabetsOf {os : List (List σ)} {i : Nat} {a : List σ}
    (h : (alphabetsOf os)[i]? = some a) : a = dedup (os.filterMap (fun x => x[i]?)) := by
  cases os with
  | nil => simp [alphabetsOf] at h
  | cons o t =>
    rw [alphabetsOf_cons, List.getElem?_map, Option.map_eq_some_iff] at h
    obtain ⟨j, hj, rfl⟩ := h
    obtain ⟨_, hj'⟩ := List.getElem?_eq_some_iff.mp hj
    rw [List.getElem_range] at hj'
    rw [hj']

theorem mem_alphabetsOf {os : List (List σ)} {i : Nat} {a : List σ}
    (h : (alphabetsOf os)[i]? = some a) (s : σ) : s ∈ a ↔ ∃ o ∈ os, o[i]? = some s := by
  rw [getElem?_alphabetsOf h, mem_dedup, List.mem_filterMap]

theorem alphabetsOf_ne_nil {os : List (List σ)} {a : List σ} (h : a ∈ alphabetsOf os) :
    a ≠ [] := by
  obtain ⟨i, hi⟩ := List.mem_iff_getElem?.mp h
  cases os with
  | nil => simp [alphabetsOf] at h
  | cons o t =>
    have hlt : i < o.length := by
      have := (List.getElem?_eq_some_iff.mp hi).1
      rwa [length_alphabetsOf_cons] at this
    have : o[i] ∈ a := (mem_alphabetsOf hi _).mpr ⟨o, List.mem_cons_self .., List.getElem?_eq_getElem hlt⟩
    exact List.ne_nil_of_mem this

theorem length_eq_length_alphabetsOf {os : List (List σ)} (h : sameLength os = true)
    {o : List σ} (ho : o ∈ os) : o.length = (alphabetsOf os).length := by
  cases os with
  | nil => cases ho
  | cons o' t =>
    rw [length_alphabetsOf_cons]
    exact sameLength_iff.mp h o ho o' (List.mem_cons_self ..)

omit [DecidableEq σ] in
theorem exists_mem_cartesian {as : List (List σ)} (h : ∀ a ∈ as, a ≠ []) :
    ∃ o, o ∈ cartesian as := by
  induction as with
  | nil => exact ⟨[], by simp [cartesian]⟩
  | cons a rest ih =>
    obtain ⟨o', ho'⟩ := ih fun b hb => h b (List.mem_cons_of_mem _ hb)
    obtain ⟨x, hx⟩ := List.exists_mem_of_ne_nil a (h a List.mem_cons_self)
    exact ⟨x :: o', mem_cartesian.mpr (.cons hx (mem_cartesian.mp ho'))⟩

omit [DecidableEq σ] in
/-- If some alphabet is empty the product is empty, and the right-hand side is false for every
symbol. -/
theorem mem_alphabet_cartesian {as : List (List σ)} (hne : ∀ a ∈ as, a ≠ []) {i : Nat}
    {a : List σ} (h : as[i]? = some a) (s : σ) :
    s ∈ a ↔ ∃ o ∈ cartesian as, o[i]? = some s := by
  obtain ⟨hi, rfl⟩ := List.getElem?_eq_some_iff.mp h
  constructor
  · -- put `s` at position `i` of any member of the product
    intro hs
    obtain ⟨o, ho⟩ := exists_mem_cartesian hne
    obtain ⟨hlen, hall⟩ := mem_cartesian_iff_getElem.mp ho
    refine ⟨o.set i s, mem_cartesian_iff_getElem.mpr ⟨by rw [List.length_set, hlen], ?_⟩,
      List.getElem?_set_self (hlen ▸ hi)⟩
    intro j h1 h2
    rw [List.getElem_set]
    split
    · next e =>
      subst e
      exact hs
    · exact hall j (by rwa [List.length_set] at h1) h2
  · rintro ⟨o, ho, hs⟩
    obtain ⟨hi', rfl⟩ := List.getElem?_eq_some_iff.mp hs
    exact (mem_cartesian_iff_getElem.mp ho).2 i hi' hi

/-- **Alphabets of a sample space.** If no alphabet is empty, the `i`-th alphabet is exactly
the set of `i`-th symbols of the members. For explicit spaces the hypothesis always holds
(`alphabetsOf_ne_nil`). -/
theorem mem_alphabets_iff (sp : Space σ) (hne : ∀ a ∈ sp.alphabets, a ≠ []) {i : Nat}
    {a : List σ} (h : sp.alphabets[i]? = some a) (s : σ) :
    s ∈ a ↔ ∃ o ∈ sp.toList, o[i]? = some s := by
  cases sp with
  | cart as => exact mem_alphabet_cartesian hne h s
  | expl os => exact mem_alphabetsOf h s

theorem mem_alphabets_of_mem_space {sp : Space σ}
    (hrect : ∀ x ∈ sp.toList, ∀ y ∈ sp.toList, x.length = y.length) {o : List σ}
    (ho : o ∈ sp.toList) :
    o.length = sp.alphabets.length ∧
      ∀ (i : Nat) (h1 : i < o.length) (h2 : i < sp.alphabets.length), o[i] ∈ sp.alphabets[i] := by
  cases sp with
  | cart as => exact mem_cartesian_iff_getElem.mp ho
  | expl os =>
    have hs : sameLength os = true := sameLength_iff.mpr hrect
    refine ⟨length_eq_length_alphabetsOf hs ho, fun i h1 h2 => ?_⟩
    exact (mem_alphabetsOf (List.getElem?_eq_getElem h2) _).mpr
      ⟨o, ho, List.getElem?_eq_getElem h1⟩

/-- Every member of a product has one symbol per alphabet. -/
theorem length_eq_length_alphabets_cart {as : List (List σ)} {o : List σ}
    (ho : o ∈ (Space.cart as).toList) : o.length = (Space.cart as).alphabets.length :=
  length_of_mem_cartesian ho

end Alphabets

/-! ## The sample space built from the argument -/

section SpaceArg
variable [DecidableEq σ]
variable (symLt : σ → σ → Bool) (outLt : List σ → List σ → Bool) (outs : List (List σ))

theorem spaceArg_alphabets_ne_nil (sp : SpaceArg σ)
    (hne : match sp with
      | .cartesian as => ∀ a ∈ as, a ≠ []
      | _ => True) :
    ∀ a ∈ (spaceArg symLt outLt outs sp).alphabets, a ≠ [] := by
  cases sp with
  | none => exact List.forall_mem_map.mpr fun b hb => isort_ne_nil _ (alphabetsOf_ne_nil hb)
  | list l => exact fun _ => alphabetsOf_ne_nil
  | sampleSpace l => exact fun _ => alphabetsOf_ne_nil
  | cartesian as => exact List.forall_mem_map.mpr fun b hb => isort_ne_nil _ (hne b hb)

theorem spaceArg_alphabets_nodup (sp : SpaceArg σ)
    (hnd : match sp with
      | .cartesian as => ∀ a ∈ as, a.Nodup
      | _ => True) :
    ∀ a ∈ (spaceArg symLt outLt outs sp).alphabets, a.Nodup := by
  cases sp with
  | none => exact nodup_map_isort _ (alphabetsOf_nodup _)
  | list l => exact alphabetsOf_nodup _
  | sampleSpace l => exact alphabetsOf_nodup _
  | cartesian as => exact nodup_map_isort _ hnd

theorem spaceArg_toList_nodup (sp : SpaceArg σ)
    (hnd : match sp with
      | .none => True
      | .list l => l.Nodup
      | .sampleSpace l => l.Nodup
      | .cartesian as => ∀ a ∈ as, a.Nodup) :
    (spaceArg symLt outLt outs sp).toList.Nodup := by
  cases sp with
  | none => exact nodup_cartesian (nodup_map_isort _ (alphabetsOf_nodup _))
  | list l => exact hnd
  | sampleSpace l => exact nodup_isort.mpr hnd
  | cartesian as => exact nodup_cartesian (nodup_map_isort _ hnd)

omit [DecidableEq σ] in
/-- The ragged check fails exactly when two rows of the checked list differ in length (never
for a `CartesianProduct`, whose checked list is empty). -/
theorem raggedArg_eq_false_iff (sp : SpaceArg σ) :
    raggedArg outs sp = false ↔
      ∀ x ∈ ssArg outs sp, ∀ y ∈ ssArg outs sp, x.length = y.length := by
  cases sp with
  | cartesian as => simp [raggedArg, ssArg]
  | none => simp only [raggedArg, Bool.not_eq_false', sameLength_iff]
  | list l => simp only [raggedArg, Bool.not_eq_false', sameLength_iff]
  | sampleSpace l => simp only [raggedArg, Bool.not_eq_false', sameLength_iff]

omit [DecidableEq σ] in
theorem raggedArg_eq_true_iff (sp : SpaceArg σ) :
    raggedArg outs sp = true ↔
      ∃ x ∈ ssArg outs sp, ∃ y ∈ ssArg outs sp, x.length ≠ y.length := by
  rw [← Bool.not_eq_false, raggedArg_eq_false_iff]
  push Not
  rfl

theorem spaceArg_length (sp : SpaceArg σ) (hrect : raggedArg outs sp = false) {o : List σ}
    (ho : o ∈ (spaceArg symLt outLt outs sp).toList) :
    o.length = (spaceArg symLt outLt outs sp).alphabets.length := by
  have h := (raggedArg_eq_false_iff outs sp).mp hrect
  cases sp with
  | none => exact length_of_mem_cartesian ho
  | cartesian as => exact length_of_mem_cartesian ho
  | list l => exact length_eq_length_alphabetsOf (sameLength_iff.mpr h) ho
  | sampleSpace l =>
    refine length_eq_length_alphabetsOf (sameLength_iff.mpr fun x hx y hy => ?_) ho
    exact h x (mem_isort.mp hx) y (mem_isort.mp hy)

theorem mem_alphabets_none {i : Nat} {a : List σ}
    (h : (spaceArg symLt outLt outs SpaceArg.none).alphabets[i]? = some a) (s : σ) :
    s ∈ a ↔ ∃ o ∈ outs, o[i]? = some s := by
  change ((alphabetsOf outs).map (isort symLt))[i]? = some a at h
  rw [List.getElem?_map, Option.map_eq_some_iff] at h
  obtain ⟨b, hb, rfl⟩ := h
  rw [mem_isort]
  exact mem_alphabetsOf hb s

end SpaceArg

/-! ## Concrete data for the non-vacuity examples of Props/C01.lean -/

/-- A concrete configuration: exact comparison with 0 and 1. -/
def ratCfg : NumCfg Rat :=
  { isNull := fun _ v => decide (v = 0), normOK := fun _ v => decide (v = 1),
    rangeOK := fun _ v => decide (0 ≤ v) && decide (v ≤ 1) }

def natLt : Nat → Nat → Bool := fun a b => decide (a < b)

/-- The error of a result, if any (`Dist` has no decidable equality; examples compare this). -/
def errOf {β : Type} : Except Err β → Option Err
  | .ok _ => none
  | .error e => some e

end Dit.Lemmas.Construct
