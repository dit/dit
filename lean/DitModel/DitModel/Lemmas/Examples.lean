/-
Helper lemmas for C11 (example-distribution part): `words`, `giantBit`, `nModM`, `iidSum`,
`gateTab`, `binomialTab`, `hypergeometricTab`, `uniformRange`, `summedDice` of Core/Examples.lean
(`uniformBin`: Lemmas/Binning.lean).
Property theorems: Props/C11Examples.lean.
-/
import DitModel.Core.Examples
import DitModel.Lemmas.Table
import DitModel.Lemmas.ListSums
import DitModel.Lemmas.Constructors
import Mathlib.Data.Nat.Choose.Sum
import Mathlib.Data.Nat.Choose.Vandermonde
import Mathlib.Algebra.BigOperators.Group.Finset.Basic
import Mathlib.Algebra.BigOperators.NatAntidiagonal
import Mathlib.Algebra.BigOperators.Field
import Mathlib.Algebra.Order.Field.Basic
import Mathlib.Tactic.Ring

namespace Dit.Lemmas.Examples
open Dit Dit.Lemmas.Table Dit.Lemmas.Cond Dit.Lemmas.Constructors

/-! ## `words` -/

section Words

theorem words_zero (k : Nat) : words k 0 = [[]] := rfl

theorem words_succ (k n : Nat) :
    words k (n + 1) = (List.range k).flatMap (fun x => (words k n).map (x :: ·)) := rfl

theorem mem_words {k n : Nat} {w : List Nat} :
    w ∈ words k n ↔ w.length = n ∧ ∀ x ∈ w, x < k := by
  unfold words
  rw [mem_cartesian_iff_getElem]
  simp only [List.length_replicate, List.getElem_replicate, List.mem_range]
  constructor
  · rintro ⟨hl, h⟩
    refine ⟨hl, fun x hx => ?_⟩
    obtain ⟨i, hi, rfl⟩ := List.mem_iff_getElem.mp hx
    exact h i hi (hl ▸ hi)
  · rintro ⟨hl, h⟩
    exact ⟨hl, fun i h1 _ => h _ (List.getElem_mem h1)⟩

theorem nodup_words (k n : Nat) : (words k n).Nodup := by
  unfold words
  apply nodup_cartesian
  intro a ha
  rw [List.eq_of_mem_replicate ha]
  exact List.nodup_range

theorem length_words (k n : Nat) : (words k n).length = k ^ n := by
  unfold words
  rw [length_cartesian]
  simp

theorem words_ne_nil {k n : Nat} (hk : 1 ≤ k) : words k n ≠ [] :=
  List.ne_nil_of_length_pos (by rw [length_words]; exact Nat.pow_pos hk)

end Words

/-! ## Tables with a constant value: `L.map (fun w => (key w, c))` -/

section Const
variable {ι κ α : Type} [DecidableEq κ] [AddCommMonoid α]

omit [DecidableEq κ] [AddCommMonoid α] in
theorem keys_map_const (L : List ι) (key : ι → κ) (c : α) :
    keys (L.map (fun w => (key w, c))) = L.map key := by
  simp [keys, Function.comp_def]

omit [DecidableEq κ] [AddCommMonoid α] in
theorem vals_map_const (L : List ι) (key : ι → κ) (c : α) :
    vals (L.map (fun w => (key w, c))) = List.replicate L.length c := by
  simp [vals, Function.comp_def]

omit [DecidableEq κ] in
theorem mass_map_const (L : List ι) (key : ι → κ) (c : α) :
    mass (L.map (fun w => (key w, c))) = L.length • c := by
  rw [mass_eq_sum, vals_map_const, List.sum_replicate]

omit [DecidableEq κ] [AddCommMonoid α] in
theorem mem_map_const {L : List ι} {key : ι → κ} {c : α} {r : κ × α}
    (h : r ∈ L.map (fun w => (key w, c))) : ∃ w ∈ L, r.1 = key w ∧ r.2 = c := by
  obtain ⟨w, hw, rfl⟩ := List.mem_map.mp h
  exact ⟨w, hw, rfl, rfl⟩

omit [AddCommMonoid α] in
theorem lookupD_map_const (z : α) (L : List ι) (key : ι → κ) (c : α) (k : κ) :
    lookupD z (L.map (fun w => (key w, c))) k = if k ∈ L.map key then c else z := by
  rw [← keys_map_const L key c]
  split
  next h =>
    -- a stored key finds one of the rows, and every row carries `c`
    obtain ⟨v, hv⟩ := Option.isSome_iff_exists.mp (lookup?_isSome_iff.mpr h)
    obtain ⟨_, _, _, hc⟩ := mem_map_const (mem_of_lookup?_eq_some hv)
    unfold lookupD
    rw [hv]
    exact hc
  next h => exact lookupD_of_not_mem z h

theorem sum_map_ite_const (p : ι → Prop) [DecidablePred p] (L : List ι) (c : α) :
    (L.map (fun x => if p x then c else 0)).sum = L.countP p • c := by
  induction L with
  | nil => exact (zero_nsmul c).symm
  | cons x L ih =>
    rw [List.map_cons, List.sum_cons, ih, List.countP_cons, add_nsmul, add_comm]
    congr 1
    by_cases h : p x
    · rw [if_pos h, if_pos (decide_eq_true h), one_nsmul]
    · rw [if_neg h, if_neg (mt of_decide_eq_true h), zero_nsmul]

omit [DecidableEq κ] in
theorem wtBy_map_const (q : κ → Prop) [DecidablePred q] (L : List ι) (key : ι → κ) (c : α) :
    wtBy q (L.map (fun w => (key w, c))) = L.countP (fun w => q (key w)) • c := by
  rw [← sum_map_ite_const]
  simp [wtBy, Function.comp_def]

theorem nsmul_div_cast {α : Type} [Field α] [CharZero α] {n : Nat} (hn : n ≠ 0) (x : α) :
    n • (x / (n : α)) = x := by
  rw [nsmul_eq_mul, mul_div_cancel₀ x (Nat.cast_ne_zero.mpr hn)]

end Const

/-! ## Inputs followed by a function of the inputs: `L.map (fun w => (w ++ [g w], c))`
(`nModM`, `iidSum`, `gateTab`) -/

section App
variable {σ α : Type} [DecidableEq σ] [AddCommMonoid α]

omit [DecidableEq σ] in
theorem append_singleton_injective (g : List σ → σ) :
    Function.Injective (fun w : List σ => w ++ [g w]) :=
  fun _ _ h => (List.append_inj' h rfl).1

set_option linter.unusedSectionVars false in
theorem app_mem_keys {L : List (List σ)} (g : List σ → σ) (c : α) (o : List σ) :
    o ∈ keys (L.map (fun w => (w ++ [g w], c)))
      ↔ o.dropLast ∈ L ∧ o.getLast? = some (g o.dropLast) := by
  rw [keys_map_const, List.mem_map]
  constructor
  · rintro ⟨w, hw, rfl⟩
    simp [hw]
  · rintro ⟨h1, h2⟩
    exact ⟨o.dropLast, h1, List.dropLast_append_getLast? _ h2⟩

theorem app_table {L : List (List σ)} (hL : L.Nodup) (g : List σ → σ) (c : α) :
    keys (L.map (fun w => (w ++ [g w], c))) = L.map (fun w => w ++ [g w])
      ∧ (keys (L.map (fun w => (w ++ [g w], c)))).Nodup
      ∧ (∀ w ∈ L, lookupD 0 (L.map (fun w => (w ++ [g w], c))) (w ++ [g w]) = c)
      ∧ (∀ o, o ∉ keys (L.map (fun w => (w ++ [g w], c))) →
          lookupD 0 (L.map (fun w => (w ++ [g w], c))) o = 0) := by
  refine ⟨keys_map_const _ _ _, ?_, fun w hw => ?_, fun o ho => lookupD_of_not_mem 0 ho⟩
  · rw [keys_map_const]
    exact hL.map (append_singleton_injective g)
  · rw [lookupD_map_const, if_pos (List.mem_map_of_mem hw)]

theorem app_lookupD_inputs {L : List (List σ)} (hL : L.Nodup) (g : List σ → σ)
    (c : α) (f : List σ → List σ) (hf : ∀ w ∈ L, f (w ++ [g w]) = w) (w : List σ) :
    lookupD 0 (pushforward f (L.map (fun w => (w ++ [g w], c)))) w
      = if w ∈ L then c else 0 := by
  have e : L.countP (fun w' => f (w' ++ [g w']) = w) = L.count w :=
    List.countP_congr fun w' hw' => by rw [hf w' hw', decide_eq_true_eq, beq_iff_eq]
  rw [lookupD_pushforward, wtBy_map_const, e]
  split
  next h => rw [List.count_eq_one_of_mem hL h, one_smul]
  next h => rw [List.count_eq_zero_of_not_mem h, zero_smul]

end App

theorem app_words_mem_keys {α : Type} [AddCommMonoid α] (k n : Nat) (g : List Nat → Nat) (c : α) (o : List Nat) :
    o ∈ keys ((words k n).map (fun w => (w ++ [g w], c)))
      ↔ o.length = n + 1 ∧ (∀ x ∈ o.dropLast, x < k) ∧ o.getLast? = some (g o.dropLast) := by
  rw [app_mem_keys, mem_words, List.length_dropLast, and_assoc]
  refine and_congr_left fun ⟨_, h⟩ => ?_
  have : o ≠ [] := by rintro rfl; simp at h
  have := List.length_pos_of_ne_nil this
  omega

theorem app_words_marginal {α : Type} [AddCommMonoid α] (k n : Nat) (g : List Nat → Nat) (c : α)
    (w : List Nat) :
    lookupD 0 (pushforward List.dropLast ((words k n).map (fun w => (w ++ [g w], c)))) w
        = (if w ∈ words k n then c else 0)
      ∧ lookupD 0 (pushforward (project (List.range n))
          ((words k n).map (fun w => (w ++ [g w], c)))) w = (if w ∈ words k n then c else 0) := by
  constructor
  · exact app_lookupD_inputs (nodup_words k n) g c List.dropLast
      (fun w _ => List.dropLast_concat) w
  · refine app_lookupD_inputs (nodup_words k n) g c (project (List.range n)) (fun w' hw' => ?_) w
    rw [project_range, List.take_left' (mem_words.mp hw').1]

theorem app_words_mass {α : Type} [AddCommMonoid α] (k n : Nat) (g : List Nat → Nat) (c : α) :
    mass ((words k n).map (fun w => (w ++ [g w], c))) = (k ^ n) • c := by
  rw [mass_map_const, length_words]

/-! ## Logic gates on bits -/

section Gates

theorem xorGate_lt (w : List Nat) : xorGate w < 2 := Nat.mod_lt _ (by decide)

theorem andGate_eq_ite (w : List Nat) : andGate w = if ∀ x ∈ w, x = 1 then 1 else 0 := by
  simp only [andGate, List.all_eq_true, beq_iff_eq]

theorem orGate_eq_ite (w : List Nat) : orGate w = if ∃ x ∈ w, x = 1 then 1 else 0 := by
  simp only [orGate, List.any_eq_true, beq_iff_eq]

theorem andGate_eq_prod {w : List Nat} (h : ∀ x ∈ w, x < 2) : andGate w = w.prod := by
  rw [andGate_eq_ite]
  split
  next h1 => exact (List.prod_eq_one h1).symm
  next h1 =>
    obtain ⟨x, hx, hx1⟩ := not_forall₂.mp h1
    have : x = 0 := by have := h x hx; omega
    exact (List.prod_eq_zero (this ▸ hx)).symm

theorem orGate_eq_sum_pos {w : List Nat} (h : ∀ x ∈ w, x < 2) :
    orGate w = if 0 < w.sum then 1 else 0 := by
  rw [orGate_eq_ite]
  refine if_congr ?_ rfl rfl
  rw [Nat.pos_iff_ne_zero, Ne, List.sum_eq_zero_iff, not_forall₂]
  simp only [exists_prop]
  refine exists_congr fun x => and_congr_right fun hx => ?_
  have := h x hx
  omega

end Gates

/-! ## `choose`, binomial sums -/

section Choose

theorem choose_eq_natChoose (n k : Nat) : Dit.choose n k = Nat.choose n k := by
  induction n generalizing k with
  | zero => cases k <;> simp [Dit.choose]
  | succ n ih =>
    cases k with
    | zero => simp [Dit.choose]
    | succ k => rw [Dit.choose, ih, ih, Nat.choose_succ_succ]

variable {α : Type} [CommSemiring α]

theorem sum_binomial (n : Nat) (p q : α) :
    ∑ k ∈ Finset.range (n + 1), (Nat.choose n k : α) * p ^ k * q ^ (n - k) = (p + q) ^ n := by
  rw [add_pow]
  exact Finset.sum_congr rfl fun k _ => by rw [mul_assoc, mul_comm]

/-- The step of `sum_mul_binomial` with the casts of `m + 1`, `k + 1` and the two binomial
coefficients as variables, so that `ring` does not push the casts through the sums. -/
theorem mul_binomial_term {a b c d : α} (h : a * c = d * b) (p x y : α) :
    b * (d * (x * p) * y) = a * p * (x * y * c) :=
  calc b * (d * (x * p) * y) = d * b * (x * p * y) := by ring
    _ = a * p * (x * y * c) := by rw [← h]; ring

/-- Termwise from `(m+1) C(m,k) = C(m+1,k+1) (k+1)` and the binomial theorem for `m = n − 1`. -/
theorem sum_mul_binomial (n : Nat) (p q : α) :
    ∑ k ∈ Finset.range (n + 1), (k : α) * ((Nat.choose n k : α) * p ^ k * q ^ (n - k))
      = n * p * (p + q) ^ (n - 1) := by
  cases n with
  | zero => rw [Finset.sum_range_one, Nat.cast_zero, zero_mul, zero_mul, zero_mul]
  | succ m =>
    rw [Finset.sum_range_succ', Nat.cast_zero, zero_mul, add_zero, Nat.add_sub_cancel, add_pow,
      Finset.mul_sum]
    refine Finset.sum_congr rfl fun k _ => ?_
    rw [Nat.add_sub_add_right, pow_succ]
    refine mul_binomial_term ?_ p (p ^ k) (q ^ (m - k))
    rw [← Nat.cast_mul, ← Nat.cast_mul, Nat.add_one_mul_choose_eq]

end Choose

/-! ## `binomialTab` -/

theorem binomialTab_eq {α : Type} [Field α] (n : Nat) (p : α) :
    binomialTab (fun m : Nat => (m : α)) n p
      = (List.range (n + 1)).map (fun k => (k, (Nat.choose n k : α) * p ^ k * (1 - p) ^ (n - k))) := by
  unfold binomialTab
  apply List.map_congr_left
  intro k _
  rw [choose_eq_natChoose, Constructors.npow_eq_pow, Constructors.npow_eq_pow]

/-! ## `hypergeometricTab` -/

section Hyper
variable {α : Type} [Field α]

/-- The listed support `max(0, n+K−N) ≤ k ≤ min(K, n)`. -/
def hyperSupport (N K n : Nat) : List Nat :=
  (List.range (min K n + 1)).filter (fun k => decide (n + K ≤ N + k))

theorem mem_hyperSupport {N K n k : Nat} :
    k ∈ hyperSupport N K n ↔ n + K - N ≤ k ∧ k ≤ min K n := by
  rw [hyperSupport, List.mem_filter, List.mem_range, decide_eq_true_eq, Nat.lt_succ_iff,
    Nat.sub_le_iff_le_add', and_comm]

theorem pairwise_hyperSupport (N K n : Nat) : (hyperSupport N K n).Pairwise (· < ·) :=
  List.pairwise_lt_range.sublist List.filter_sublist

theorem nodup_hyperSupport (N K n : Nat) : (hyperSupport N K n).Nodup :=
  (pairwise_hyperSupport N K n).imp Nat.ne_of_lt

theorem hypergeometricTab_eq (N K n : Nat) :
    hypergeometricTab (fun m : Nat => (m : α)) N K n
      = (hyperSupport N K n).map (fun k =>
          (k, ((Nat.choose K k * Nat.choose (N - K) (n - k) : Nat) : α) / (Nat.choose N n : α))) := by
  unfold hypergeometricTab hyperSupport
  apply List.map_congr_left
  intro k _
  rw [choose_eq_natChoose, choose_eq_natChoose, choose_eq_natChoose]

/-- Outside `n + K − N ≤ k ≤ K` the hypergeometric term vanishes (`K ≤ N`, so that the truncated
subtraction `N - K` is the true one). -/
theorem hyper_term_eq_zero {N K n k : Nat} (hK : K ≤ N) (h : ¬ (n + K - N ≤ k ∧ k ≤ K)) :
    Nat.choose K k * Nat.choose (N - K) (n - k) = 0 := by
  by_cases hk : k ≤ K
  · have : N - K < n - k := by omega
    rw [Nat.choose_eq_zero_of_lt this, Nat.mul_zero]
  · rw [Nat.choose_eq_zero_of_lt (Nat.lt_of_not_le hk), Nat.zero_mul]

/-- **Vandermonde** on the listed support: the numerators add up to `C(N, n)`. -/
theorem hyper_vandermonde {N K : Nat} (hK : K ≤ N) (n : Nat) :
    ∑ k ∈ (hyperSupport N K n).toFinset, Nat.choose K k * Nat.choose (N - K) (n - k)
      = Nat.choose N n := by
  conv_rhs => rw [← Nat.add_sub_cancel' hK]
  rw [Nat.add_choose_eq,
    Finset.Nat.sum_antidiagonal_eq_sum_range_succ (fun i j => Nat.choose K i * Nat.choose (N - K) j)]
  apply Finset.sum_subset
  · intro k hk
    rw [List.mem_toFinset, mem_hyperSupport] at hk
    exact Finset.mem_range.mpr (Nat.lt_succ_of_le (hk.2.trans (min_le_right K n)))
  · intro k hk hk'
    rw [List.mem_toFinset, mem_hyperSupport, le_min_iff] at hk'
    exact hyper_term_eq_zero hK fun h =>
      hk' ⟨h.1, h.2, Nat.le_of_lt_succ (Finset.mem_range.mp hk)⟩

end Hyper

/-! ## `summedDice` -/

section Dice
variable {α : Type} [Field α]

theorem mem_dice_pairs {o : List Nat} :
    o ∈ cartesian [List.range' 1 6, List.range' 1 6]
      ↔ ∃ i j, (1 ≤ i ∧ i ≤ 6) ∧ (1 ≤ j ∧ j ≤ 6) ∧ o = [i, j] := by
  have face : ∀ i, i ∈ List.range' 1 6 ↔ 1 ≤ i ∧ i ≤ 6 := fun i => by
    rw [List.mem_range'_1, Nat.lt_succ_iff]
  rw [mem_cartesian_pair]
  constructor
  · rintro ⟨i, hi, j, hj, rfl⟩
    exact ⟨i, j, (face i).mp hi, (face j).mp hj, rfl⟩
  · rintro ⟨i, j, hi, hj, rfl⟩
    exact ⟨i, (face i).mpr hi, j, (face j).mpr hj, rfl⟩

theorem keys_summedDice_nodup (ofNat : Nat → α) (a : α) (b : Nat) :
    (keys (summedDice ofNat a b)).Nodup := by
  unfold summedDice keys
  rw [List.map_map]
  refine (nodup_cartesian ?_).map_on ?_
  · intro l hl
    simp only [List.mem_cons, List.not_mem_nil, or_false, or_self] at hl
    rw [hl]; exact List.nodup_range'
  · intro o ho o' ho' e
    obtain ⟨i, j, _, _, rfl⟩ := mem_dice_pairs.mp ho
    obtain ⟨i', j', _, _, rfl⟩ := mem_dice_pairs.mp ho'
    simp only [Function.comp_apply, List.getD_cons_zero, List.getD_cons_succ, List.cons.injEq,
      and_true] at e
    rw [e.1, e.2.1]

/-- The values of `summed_dice` add up to one: `a/36` on each of the 36 rows and `(1−a)/6` on
each of the 6 doubles. -/
theorem mass_summedDice [CharZero α] (a : α) (b : Nat) :
    mass (summedDice (fun m : Nat => (m : α)) a b) = 1 := by
  have rows : (cartesian [List.range' 1 6, List.range' 1 6]).length = 36 := by
    rw [length_cartesian]; rfl
  have doubles : (cartesian [List.range' 1 6, List.range' 1 6]).countP
      (fun o => o.getD 0 0 = o.getD 1 0) = 6 := by decide
  have val : ∀ o : List Nat,
      a / ((36 : Nat) : α) + (1 - a) * (if o.getD 0 0 = o.getD 1 0 then 1 else 0) / ((6 : Nat) : α)
        = a / ((36 : Nat) : α) + if o.getD 0 0 = o.getD 1 0 then (1 - a) / ((6 : Nat) : α) else 0 :=
    fun o => by split <;> simp only [mul_one, mul_zero, zero_div]
  unfold summedDice
  rw [mass_eq_sum, vals, List.map_map]
  simp only [Function.comp_def, val]
  rw [List.sum_map_add, List.map_const', List.sum_replicate, sum_map_ite_const, rows, doubles,
    nsmul_div_cast (by decide), nsmul_div_cast (by decide), add_sub_cancel]

end Dice

end Dit.Lemmas.Examples
