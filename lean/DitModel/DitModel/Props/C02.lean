/-
C02 — Marginals and coalescings are exact pushforwards of the joint distribution.

Theorems about `Dit.pushforward` (the `defaultdict` accumulation inside `coalesce`), and about
`Dist.coalesce1` / `Dist.marginal` / `Dist.marginalize` / `Dist.coalesce`, `Space.extract` /
`Space.coalesce`, `parseIdx`, `resolveNames`, `marginalNames`, `marginalMask` over an arbitrary
commutative additive monoid of "probabilities" (so for `Rat`, `ℝ`, …).

The weight of an event `p` in a table `t` is `wtBy p t` (sum of the values of the rows whose
key satisfies `p`); `lookupD 0 t k` is the stored value of `k` or zero.
Helper lemmas: Lemmas/Table.lean.  The model is purely functional, so "the source distribution
is left unchanged" holds by construction: every operation returns a new value.
-/
import DitModel.Lemmas.Table
import Mathlib.Data.Rat.Defs

namespace Dit.Props.C02
open Dit Dit.Lemmas.ListBasics Dit.Lemmas.Table

/-! ### Table level: `pushforward` is the push-forward of measures -/

section TableLevel
variable {κ κ' κ'' α : Type} [DecidableEq κ] [DecidableEq κ'] [DecidableEq κ'']
  [AddCommMonoid α]
set_option linter.unusedSectionVars false

/-- **Events.** The probability of any event of the new space is the probability of its
preimage under the map — for every table, also one with repeated keys, and every map (so for
repeated, overlapping or regrouped variables alike). -/
theorem pushforward_event (p : κ' → Prop) [DecidablePred p] (f : κ → κ') (t : Tab κ α) :
    wtBy p (pushforward f t) = wtBy (fun k => p (f k)) t :=
  wtBy_pushforward p f t

/-- **Fibre sums.** Each new outcome's stored probability is the sum of the probabilities of
the joint outcomes that project onto it (zero if there is none). -/
theorem pushforward_lookup (f : κ → κ') (t : Tab κ α) (k : κ') :
    lookupD 0 (pushforward f t) k = wtBy (fun o => f o = k) t :=
  lookupD_pushforward f t k

/-- **Support.** The new table stores exactly the images of the stored outcomes, each once,
in order of first appearance. -/
theorem pushforward_keys (f : κ → κ') (t : Tab κ α) :
    (keys (pushforward f t)).Nodup
      ∧ keys (pushforward f t) = dedup (t.map (fun r => f r.1))
      ∧ ∀ k, (lookup? (pushforward f t) k).isSome ↔ ∃ o ∈ keys t, f o = k :=
  ⟨keys_pushforward_nodup f t, keys_pushforward f t, fun k => by
    rw [lookup?_isSome_iff, mem_keys_pushforward]⟩

/-- **Total mass** is preserved, both as `mass` and as the sequential sum `lsum` of the
stored values that `validate`/`normalize` use. -/
theorem pushforward_mass (f : κ → κ') (t : Tab κ α) :
    mass (pushforward f t) = mass t ∧ lsum (vals (pushforward f t)) = lsum (vals t) :=
  ⟨mass_pushforward f t, lsum_vals_pushforward f t⟩

/-- **Functoriality (events).** Pushing forward in two stages is pushing forward along the
composite. -/
theorem pushforward_comp (p : κ'' → Prop) [DecidablePred p] (f : κ → κ') (g : κ' → κ'')
    (t : Tab κ α) :
    wtBy p (pushforward g (pushforward f t)) = wtBy p (pushforward (g ∘ f) t) := by
  rw [wtBy_pushforward, wtBy_pushforward, wtBy_pushforward]; rfl

/-- **Functoriality (stored values).** -/
theorem pushforward_comp_lookup (f : κ → κ') (g : κ' → κ'') (t : Tab κ α) (k : κ'') :
    lookupD 0 (pushforward g (pushforward f t)) k = lookupD 0 (pushforward (g ∘ f) t) k := by
  rw [lookupD_pushforward, lookupD_pushforward, wtBy_pushforward]; rfl

/-- The two-stage and the one-stage push-forward store the same keys. -/
theorem pushforward_comp_keys (f : κ → κ') (g : κ' → κ'') (t : Tab κ α) (k : κ'') :
    k ∈ keys (pushforward g (pushforward f t)) ↔ k ∈ keys (pushforward (g ∘ f) t) := by
  simp only [mem_keys_pushforward, exists_exists_and_eq_and, Function.comp]

/-- **Reordering is harmless.** Sorting a table (dit's `reorder`) permutes its rows, keeps
every event weight, the total mass, and — keys being pairwise distinct — every lookup; the
result is sorted by rank. -/
theorem sortBy_spec (rank : κ → Nat) (t : Tab κ α) :
    (sortBy rank t).Perm t
      ∧ (keys (sortBy rank t)).Pairwise (fun a b => rank a ≤ rank b)
      ∧ (∀ (p : κ → Prop) [DecidablePred p], wtBy p (sortBy rank t) = wtBy p t)
      ∧ mass (sortBy rank t) = mass t
      ∧ ((keys t).Nodup → (keys (sortBy rank t)).Nodup
            ∧ ∀ k, lookup? (sortBy rank t) k = lookup? t k) :=
  ⟨sortBy_perm rank t, keys_sortBy_sorted rank t, fun p _ => wtBy_sortBy p rank t,
    mass_sortBy rank t, fun h => ⟨(nodup_keys_sortBy rank t).mpr h, lookup?_sortBy rank t h⟩⟩

end TableLevel

section Staged
variable {σ α : Type} [DecidableEq σ] [AddCommMonoid α]

/-- **Marginalising in stages (tables).** Marginalising the table `t` to the variables `I`
(and sorting, as the model does) and then marginalising the result to its positions `J`
gives, for every outcome, the same stored probability as marginalising at once to
`J.filterMap (I[·]?)`, i.e. the variables `I[J[0]], I[J[1]], …`.  The indices `I` must be
valid for every stored outcome (what `parse_rvs` checks): an invalid index would be dropped
and shift later positions. -/
theorem marginal_staged (t : Tab (List σ) α) (I J : List Nat)
    (r1 r2 r3 : List σ → Nat)
    (hI : ∀ k ∈ keys t, ∀ i ∈ I, i < k.length) (o : List σ) :
    lookupD 0 (sortBy r2 (pushforward (project J) (sortBy r1 (pushforward (project I) t)))) o
      = lookupD 0 (sortBy r3 (pushforward (project (J.filterMap (fun j => I[j]?))) t)) o := by
  rw [lookupD_sortBy _ _ (keys_pushforward_nodup _ _),
    lookupD_sortBy _ _ (keys_pushforward_nodup _ _),
    lookupD_pushforward, lookupD_pushforward, wtBy_sortBy, wtBy_pushforward]
  apply wtBy_congr
  intro k hk
  rw [project_project (hI k hk)]

/-- The staged and the direct marginal table store the same outcomes. -/
theorem marginal_staged_keys (t : Tab (List σ) α) (I J : List Nat)
    (r1 r2 r3 : List σ → Nat)
    (hI : ∀ k ∈ keys t, ∀ i ∈ I, i < k.length) (o : List σ) :
    o ∈ keys (sortBy r2 (pushforward (project J) (sortBy r1 (pushforward (project I) t))))
      ↔ o ∈ keys (sortBy r3 (pushforward (project (J.filterMap (fun j => I[j]?))) t)) := by
  simp only [mem_keys_sortBy, mem_keys_pushforward, exists_exists_and_eq_and]
  exact exists_congr fun k => and_congr_right fun hk => by rw [project_project (hI k hk)]

set_option linter.unusedSectionVars false in
/-- Staging on single outcomes: `Table.project_project`, on which the staged theorems rest. -/
theorem project_staged {I : List Nat} {o : List σ} (h : ∀ i ∈ I, i < o.length) (J : List Nat) :
    project J (project I o) = project (J.filterMap (fun j => I[j]?)) o :=
  project_project h J

end Staged

/-! ### Distribution level: `coalesce1` / `marginal` / `marginalize` / `coalesce` -/

section DistLevel
variable {σ α : Type} [DecidableEq σ] [AddCommMonoid α]

/-- **Values of a one-group coalescing / marginal.** For an outcome `o` of the new sample
space, `get o` is the fibre sum `s` of the source table — except that, when (and only when)
the source is sparse, the constructor trims null entries, so a stored `s` that is null
(`isNull`, i.e. `np.isclose(s, 0)`) reads back as an exact zero.  Outcomes outside the new
sample space are invalid.  No assumption on `d` is needed: the source table may even repeat
keys. -/
theorem coalesce1_get (cfg : NumCfg α) (outLt : List σ → List σ → Bool) (d : Dist σ α)
    (g : List Nat) (o : List σ) :
    (o ∈ (d.space.extract outLt g).toList →
      (d.coalesce1 cfg outLt g).get o = some (wtBy (fun k => project g k = o) d.tab)
      ∨ (d.sparse = true
          ∧ cfg.isNull d.base (wtBy (fun k => project g k = o) d.tab) = true
          ∧ (d.coalesce1 cfg outLt g).get o = some 0))
    ∧ (o ∉ (d.space.extract outLt g).toList → (d.coalesce1 cfg outLt g).get o = none) := by
  rw [coalesce1_eq_finishPush]
  exact finishPush_get d.sparse o

/-- Dense source: the result stores exactly the new sample space, in order, each outcome
with its fibre sum (the complete description of the result table). -/
theorem coalesce1_dense (cfg : NumCfg α) (outLt : List σ → List σ → Bool) (d : Dist σ α)
    (g : List Nat) (hd : d.sparse = false) :
    (d.coalesce1 cfg outLt g).tab
        = (d.space.extract outLt g).toList.map
            (fun o => (o, wtBy (fun k => project g k = o) d.tab))
      ∧ keys (d.coalesce1 cfg outLt g).tab = (d.space.extract outLt g).toList := by
  rw [coalesce1_eq_finishPush, hd]
  exact ⟨finishPush_tab_dense, finishPush_keys_dense⟩

/-- Sparse source: the result stores, once each and sorted by rank in the new sample space,
exactly the images of stored outcomes whose fibre sum is not null, each with its fibre sum. -/
theorem coalesce1_sparse (cfg : NumCfg α) (outLt : List σ → List σ → Bool) (d : Dist σ α)
    (g : List Nat) (hd : d.sparse = true) :
    (keys (d.coalesce1 cfg outLt g).tab).Nodup
      ∧ (keys (d.coalesce1 cfg outLt g).tab).Pairwise
          (fun a b => (d.space.extract outLt g).rank a ≤ (d.space.extract outLt g).rank b)
      ∧ (∀ o, o ∈ keys (d.coalesce1 cfg outLt g).tab
            ↔ (∃ k ∈ keys d.tab, project g k = o)
              ∧ cfg.isNull d.base (wtBy (fun k => project g k = o) d.tab) = false)
      ∧ (∀ o v, (o, v) ∈ (d.coalesce1 cfg outLt g).tab →
            v = wtBy (fun k => project g k = o) d.tab) := by
  rw [coalesce1_eq_finishPush, hd]
  exact ⟨finishPush_keys_sparse_nodup, finishPush_keys_sparse_sorted, finishPush_mem_keys_sparse,
    fun _ _ => finishPush_mem_sparse⟩

/-- **Metadata.** The result has the base and the sparsity of the source and the projected
sample space; its keys are sorted by their rank in the new sample space, and are pairwise
distinct provided — in the dense case, where the keys are the whole new sample space — that
space lists each outcome once (see `extract_nodup`). -/
theorem coalesce1_meta (cfg : NumCfg α) (outLt : List σ → List σ → Bool) (d : Dist σ α)
    (g : List Nat) :
    (d.coalesce1 cfg outLt g).base = d.base
      ∧ (d.coalesce1 cfg outLt g).sparse = d.sparse
      ∧ (d.coalesce1 cfg outLt g).space = d.space.extract outLt g
      ∧ ((d.sparse = false → (d.space.extract outLt g).toList.Nodup) →
          (keys (d.coalesce1 cfg outLt g).tab).Nodup
          ∧ (keys (d.coalesce1 cfg outLt g).tab).Pairwise
              (fun a b => (d.space.extract outLt g).rank a ≤ (d.space.extract outLt g).rank b)) := by
  rw [coalesce1_eq_finishPush]
  exact ⟨finishPush_base _, finishPush_sparse _, finishPush_space _, finishPush_keys_sorted _⟩

/-- **Total mass at the distribution level.** Dense source: the mass is preserved provided
every stored outcome lies in the sample space (so that its image lies in the new one, cf.
`space_projection`) and the new sample space lists each outcome once (otherwise `make_dense`
would store an outcome's mass twice).  Sparse source: the mass kept plus the mass of the
trimmed (null) rows is the source mass — unconditionally. -/
theorem coalesce1_mass (cfg : NumCfg α) (outLt : List σ → List σ → Bool) (d : Dist σ α)
    (g : List Nat) :
    (d.sparse = false → (d.space.extract outLt g).toList.Nodup →
        (∀ k ∈ keys d.tab, project g k ∈ (d.space.extract outLt g).toList) →
        mass (d.coalesce1 cfg outLt g).tab = mass d.tab)
    ∧ (d.sparse = true →
        mass (d.coalesce1 cfg outLt g).tab
          + mass ((pushforward (project g) d.tab).filter (fun r => cfg.isNull d.base r.2))
          = mass d.tab) := by
  rw [coalesce1_eq_finishPush]
  constructor
  · intro hd hnd hk; rw [hd]; exact finishPush_mass_dense hnd hk
  · intro hd; rw [hd]; exact finishPush_mass_sparse

/-- `marginal` is the one-group coalescing with extraction, so all `coalesce1_*` theorems
are statements about marginals. -/
theorem marginal_eq_coalesce1 (cfg : NumCfg α) (outLt : List σ → List σ → Bool) (d : Dist σ α)
    (idx : List Nat) : d.marginal cfg outLt idx = d.coalesce1 cfg outLt idx := rfl

/-- **Values of a marginal** (`coalesce1_get` for `marginal`). -/
theorem marginal_get (cfg : NumCfg α) (outLt : List σ → List σ → Bool) (d : Dist σ α)
    (idx : List Nat) (o : List σ) (ho : o ∈ (d.space.extract outLt idx).toList) :
    (d.marginal cfg outLt idx).get o = some (wtBy (fun k => project idx k = o) d.tab)
      ∨ (d.sparse = true
          ∧ cfg.isNull d.base (wtBy (fun k => project idx k = o) d.tab) = true
          ∧ (d.marginal cfg outLt idx).get o = some 0) :=
  (coalesce1_get cfg outLt d idx o).1 ho

/-- For a dense source nothing is trimmed: the value is the fibre sum. -/
theorem marginal_get_dense (cfg : NumCfg α) (outLt : List σ → List σ → Bool) (d : Dist σ α)
    (idx : List Nat) (hd : d.sparse = false) (o : List σ)
    (ho : o ∈ (d.space.extract outLt idx).toList) :
    (d.marginal cfg outLt idx).get o = some (wtBy (fun k => project idx k = o) d.tab) := by
  rw [marginal_eq_coalesce1, coalesce1_eq_finishPush, hd]
  exact finishPush_get_dense ho

/-- `marginalize(idx)` is `marginal` of the complementary variables, which are the indices
below `n` not in `idx`, in increasing order and without repetition. -/
theorem marginalize_eq_marginal_compl (cfg : NumCfg α) (outLt : List σ → List σ → Bool)
    (d : Dist σ α) (n : Nat) (idx : List Nat) :
    d.marginalize cfg outLt n idx = d.marginal cfg outLt (complIdx n idx)
      ∧ (∀ i, i ∈ complIdx n idx ↔ i < n ∧ i ∉ idx)
      ∧ (complIdx n idx).Pairwise (· < ·) := by
  refine ⟨rfl, fun i => by simp [complIdx], ?_⟩
  unfold complIdx
  exact List.Pairwise.sublist List.filter_sublist List.pairwise_lt_range

end DistLevel

section Groups
variable {σ α : Type} [DecidableEq σ] [AddCommMonoid α]

/-- **Values of a coalescing with several groups.** As `coalesce1_get`, with the regrouping
map `projectGroups groups` (one inner outcome per group; groups may repeat or overlap). -/
theorem coalesce_get (cfg : NumCfg α) (outLt : List (List σ) → List (List σ) → Bool)
    (d : Dist σ α) (groups : List (List Nat)) (o : List (List σ)) :
    (o ∈ (d.space.coalesce outLt groups).toList →
      (d.coalesce cfg outLt groups).get o
          = some (wtBy (fun k => projectGroups groups k = o) d.tab)
      ∨ (d.sparse = true
          ∧ cfg.isNull d.base (wtBy (fun k => projectGroups groups k = o) d.tab) = true
          ∧ (d.coalesce cfg outLt groups).get o = some 0))
    ∧ (o ∉ (d.space.coalesce outLt groups).toList →
        (d.coalesce cfg outLt groups).get o = none) := by
  rw [coalesce_eq_finishPush]
  exact finishPush_get d.sparse o

/-- Dense source, several groups: complete description of the result table. -/
theorem coalesce_dense (cfg : NumCfg α) (outLt : List (List σ) → List (List σ) → Bool)
    (d : Dist σ α) (groups : List (List Nat)) (hd : d.sparse = false) :
    (d.coalesce cfg outLt groups).tab
        = (d.space.coalesce outLt groups).toList.map
            (fun o => (o, wtBy (fun k => projectGroups groups k = o) d.tab))
      ∧ keys (d.coalesce cfg outLt groups).tab = (d.space.coalesce outLt groups).toList := by
  rw [coalesce_eq_finishPush, hd]
  exact ⟨finishPush_tab_dense, finishPush_keys_dense⟩

/-- Sparse source, several groups: stored keys are pairwise distinct, sorted, and are the
images with a non-null fibre sum. -/
theorem coalesce_sparse (cfg : NumCfg α) (outLt : List (List σ) → List (List σ) → Bool)
    (d : Dist σ α) (groups : List (List Nat)) (hd : d.sparse = true) :
    (keys (d.coalesce cfg outLt groups).tab).Nodup
      ∧ (keys (d.coalesce cfg outLt groups).tab).Pairwise
          (fun a b => (d.space.coalesce outLt groups).rank a
                        ≤ (d.space.coalesce outLt groups).rank b)
      ∧ (∀ o, o ∈ keys (d.coalesce cfg outLt groups).tab
            ↔ (∃ k ∈ keys d.tab, projectGroups groups k = o)
              ∧ cfg.isNull d.base (wtBy (fun k => projectGroups groups k = o) d.tab) = false) := by
  rw [coalesce_eq_finishPush, hd]
  exact ⟨finishPush_keys_sparse_nodup, finishPush_keys_sparse_sorted, finishPush_mem_keys_sparse⟩

/-- **Metadata, several groups.** Base, sparsity and sample space of the result; keys sorted
and pairwise distinct (dense case: provided the new sample space lists each outcome once). -/
theorem coalesce_meta (cfg : NumCfg α) (outLt : List (List σ) → List (List σ) → Bool)
    (d : Dist σ α) (groups : List (List Nat)) :
    (d.coalesce cfg outLt groups).base = d.base
      ∧ (d.coalesce cfg outLt groups).sparse = d.sparse
      ∧ (d.coalesce cfg outLt groups).space = d.space.coalesce outLt groups
      ∧ ((d.sparse = false → (d.space.coalesce outLt groups).toList.Nodup) →
          (keys (d.coalesce cfg outLt groups).tab).Nodup
          ∧ (keys (d.coalesce cfg outLt groups).tab).Pairwise
              (fun a b => (d.space.coalesce outLt groups).rank a
                            ≤ (d.space.coalesce outLt groups).rank b)) := by
  rw [coalesce_eq_finishPush]
  exact ⟨finishPush_base _, finishPush_sparse _, finishPush_space _, finishPush_keys_sorted _⟩

/-- **Total mass, several groups** (as `coalesce1_mass`). -/
theorem coalesce_mass (cfg : NumCfg α) (outLt : List (List σ) → List (List σ) → Bool)
    (d : Dist σ α) (groups : List (List Nat)) :
    (d.sparse = false → (d.space.coalesce outLt groups).toList.Nodup →
        (∀ k ∈ keys d.tab, projectGroups groups k ∈ (d.space.coalesce outLt groups).toList) →
        mass (d.coalesce cfg outLt groups).tab = mass d.tab)
    ∧ (d.sparse = true →
        mass (d.coalesce cfg outLt groups).tab
          + mass ((pushforward (projectGroups groups) d.tab).filter
                    (fun r => cfg.isNull d.base r.2))
          = mass d.tab) := by
  rw [coalesce_eq_finishPush]
  constructor
  · intro hd hnd hk; rw [hd]; exact finishPush_mass_dense hnd hk
  · intro hd; rw [hd]; exact finishPush_mass_sparse

end Groups

/-! ### Sample spaces -/

section Spaces
variable {σ : Type} [DecidableEq σ]

/-- **The new sample space contains the projection of the old one** (one group, `extract`):
every member of the source space projects to a member of the new space — for Cartesian and
explicit spaces, any index list (indices out of range are dropped on both sides). -/
theorem space_projection (outLt : List σ → List σ → Bool) (s : Space σ) (g : List Nat)
    (o : List σ) (ho : o ∈ s.toList) : project g o ∈ (s.extract outLt g).toList := by
  cases s with
  | cart as =>
    show project g o ∈ cartesian (project g as)
    exact mem_cartesian.mpr (forall₂_project (mem_cartesian.mp ho) g)
  | expl os =>
    show project g o ∈ isort outLt (dedup (os.map (project g)))
    rw [mem_isort, mem_dedup]
    exact List.mem_map_of_mem ho

/-- For an explicit sample space the new space is exactly the image, listed once. -/
theorem space_extract_expl (outLt : List σ → List σ → Bool) (os : List (List σ)) (g : List Nat) :
    (∀ x, x ∈ ((Space.expl os).extract outLt g).toList ↔ ∃ o ∈ os, project g o = x)
      ∧ ((Space.expl os).extract outLt g).toList.Nodup := by
  refine ⟨fun x => ?_, ?_⟩
  · show x ∈ isort outLt (dedup (os.map (project g))) ↔ _
    rw [mem_isort, mem_dedup, List.mem_map]
  · show (isort outLt (dedup (os.map (project g)))).Nodup
    exact nodup_isort.mpr (nodup_dedup _)

/-- For a Cartesian sample space the new space is the product of the selected alphabets (in
the order selected, repeated if selected twice): its members are the outcomes whose `j`-th
symbol lies in the alphabet of variable `g[j]`; it lists each outcome once when the alphabets
have no repeated symbol. -/
theorem space_extract_cart (outLt : List σ → List σ → Bool) (as : List (List σ)) (g : List Nat) :
    ((Space.cart as).extract outLt g) = Space.cart (project g as)
      ∧ (∀ x, x ∈ ((Space.cart as).extract outLt g).toList
            ↔ List.Forall₂ (fun c a => c ∈ a) x (project g as))
      ∧ ((∀ a ∈ as, a.Nodup) → ((Space.cart as).extract outLt g).toList.Nodup) := by
  refine ⟨rfl, fun x => mem_cartesian, fun h => ?_⟩
  show (cartesian (project g as)).Nodup
  apply nodup_cartesian
  intro a ha
  rcases List.mem_filterMap.mp ha with ⟨i, _, hi⟩
  exact h a (List.mem_of_getElem? hi)

/-- The new sample space of `extract` lists each outcome once (needed by the dense clauses of
`coalesce1_meta` / `coalesce1_mass`): always for explicit spaces, and for Cartesian spaces
whose alphabets have no repeated symbol. -/
theorem extract_nodup (outLt : List σ → List σ → Bool) (s : Space σ) (g : List Nat)
    (h : ∀ as, s = Space.cart as → ∀ a ∈ as, a.Nodup) : (s.extract outLt g).toList.Nodup := by
  cases s with
  | cart as => exact (space_extract_cart outLt as g).2.2 (h as rfl)
  | expl os => exact (space_extract_expl outLt os g).2

/-- **Projection of the sample space, several groups.** -/
theorem space_projection_groups (outLt : List (List σ) → List (List σ) → Bool) (s : Space σ)
    (groups : List (List Nat)) (o : List σ) (ho : o ∈ s.toList) :
    projectGroups groups o ∈ (s.coalesce outLt groups).toList := by
  cases s with
  | cart as =>
    show projectGroups groups o ∈ cartesian (groups.map (fun g => cartesian (project g as)))
    rw [mem_cartesian, projectGroups_eq, List.forall₂_map_left_iff, List.forall₂_map_right_iff]
    have h := mem_cartesian.mp ho
    exact List.forall₂_same.mpr
      (fun g _ => mem_cartesian.mpr (forall₂_project h g))
  | expl os =>
    show projectGroups groups o ∈ isort outLt (dedup (os.map (projectGroups groups)))
    rw [mem_isort, mem_dedup]
    exact List.mem_map_of_mem ho

/-- Several groups, explicit space: the new space is exactly the image, listed once. -/
theorem space_coalesce_expl (outLt : List (List σ) → List (List σ) → Bool) (os : List (List σ))
    (groups : List (List Nat)) :
    (∀ x, x ∈ ((Space.expl os).coalesce outLt groups).toList
        ↔ ∃ o ∈ os, projectGroups groups o = x)
      ∧ ((Space.expl os).coalesce outLt groups).toList.Nodup := by
  refine ⟨fun x => ?_, ?_⟩
  · show x ∈ isort outLt (dedup (os.map (projectGroups groups))) ↔ _
    rw [mem_isort, mem_dedup, List.mem_map]
  · show (isort outLt (dedup (os.map (projectGroups groups)))).Nodup
    exact nodup_isort.mpr (nodup_dedup _)

/-- Several groups, Cartesian space: each outcome listed once when the alphabets have no
repeated symbol. -/
theorem space_coalesce_cart_nodup (outLt : List (List σ) → List (List σ) → Bool)
    (as : List (List σ)) (groups : List (List Nat)) (h : ∀ a ∈ as, a.Nodup) :
    ((Space.cart as).coalesce outLt groups).toList.Nodup := by
  show (cartesian (groups.map (fun g => cartesian (project g as)))).Nodup
  apply nodup_cartesian
  intro a ha
  rcases List.mem_map.mp ha with ⟨g, _, rfl⟩
  exact (space_extract_cart (fun _ _ => false) as g).2.2 h

/-- **Stored outcomes stay inside the sample space**: if the source stores only members of
its sample space, so does every one-group coalescing (hence the hypothesis of the dense
clause of `coalesce1_mass` holds). -/
theorem coalesce1_keys_in_space (outLt : List σ → List σ → Bool) (s : Space σ) (g : List Nat)
    (ks : List (List σ)) (h : ∀ k ∈ ks, k ∈ s.toList) :
    ∀ k ∈ ks, project g k ∈ (s.extract outLt g).toList :=
  fun k hk => space_projection outLt s g k (h k hk)

/-- **Staging of sample spaces, Cartesian.** With valid indices `I`, extracting `I` and then
positions `J` gives the same sample space as extracting `J.filterMap (I[·]?)` at once. -/
theorem extract_extract_cart (outLt : List σ → List σ → Bool) (as : List (List σ))
    (I J : List Nat) (hI : ∀ i ∈ I, i < as.length) :
    ((Space.cart as).extract outLt I).extract outLt J
      = (Space.cart as).extract outLt (J.filterMap (fun j => I[j]?)) := by
  show Space.cart (project J (project I as)) = Space.cart (project _ as)
  rw [project_project hI]

/-- **Staging of sample spaces, explicit.** With indices `I` valid for every member, the two
ways give sample spaces with the same members (both listed once, both sorted by `outLt`). -/
theorem extract_extract_expl (outLt : List σ → List σ → Bool) (os : List (List σ))
    (I J : List Nat) (hI : ∀ o ∈ os, ∀ i ∈ I, i < o.length) (x : List σ) :
    x ∈ (((Space.expl os).extract outLt I).extract outLt J).toList
      ↔ x ∈ ((Space.expl os).extract outLt (J.filterMap (fun j => I[j]?))).toList := by
  show x ∈ isort outLt (dedup ((isort outLt (dedup (os.map (project I)))).map (project J)))
    ↔ x ∈ isort outLt (dedup (os.map (project _)))
  simp only [mem_isort, mem_dedup, List.mem_map, exists_exists_and_eq_and]
  exact exists_congr fun o => and_congr_right fun ho => by rw [project_project (hI o ho)]

end Spaces

/-! ### Marginalising in stages, distribution level -/

section StagedDist
variable {σ α : Type} [DecidableEq σ] [AddCommMonoid α]

/-- **Marginalising in stages equals marginalising at once (dense distributions).**
For a dense `d` whose stored outcomes lie in its sample space and are long enough for the
indices `I`, and an intermediate sample space listing each outcome once (`extract_nodup`),
the marginal onto positions `J` of the marginal onto `I` gives every outcome `o` of its
sample space the fibre sum of the direct marginal onto `J.filterMap (I[·]?)`; hence the two
distributions agree wherever both are defined (`extract_extract_cart/_expl`: the two sample
spaces have the same members).  The hypotheses are needed because `make_dense` in stage one
re-tabulates over the intermediate sample space: mass outside it would be lost and an
outcome listed twice would be counted twice.  For sparse distributions the stage-one trimming
of null (but possibly non-zero) sums makes the equality only approximate. -/
theorem marginal_staged_dense (cfg : NumCfg α) (outLt : List σ → List σ → Bool) (d : Dist σ α)
    (I J : List Nat) (hd : d.sparse = false)
    (hin : ∀ k ∈ keys d.tab, k ∈ d.space.toList)
    (hI : ∀ k ∈ keys d.tab, ∀ i ∈ I, i < k.length)
    (hnd : (d.space.extract outLt I).toList.Nodup)
    (o : List σ) (ho : o ∈ ((d.space.extract outLt I).extract outLt J).toList) :
    ((d.marginal cfg outLt I).marginal cfg outLt J).get o
        = some (wtBy (fun k => project (J.filterMap (fun j => I[j]?)) k = o) d.tab)
      ∧ (o ∈ (d.space.extract outLt (J.filterMap (fun j => I[j]?))).toList →
          ((d.marginal cfg outLt I).marginal cfg outLt J).get o
            = (d.marginal cfg outLt (J.filterMap (fun j => I[j]?))).get o) := by
  have hmeta := coalesce1_meta cfg outLt d I
  have key : ((d.marginal cfg outLt I).marginal cfg outLt J).get o
      = some (wtBy (fun k => project (J.filterMap (fun j => I[j]?)) k = o) d.tab) := by
    rw [marginal_get_dense cfg outLt (d.marginal cfg outLt I) J (hmeta.2.1.trans hd) o
      (hmeta.2.2.1 ▸ ho)]
    congr 1
    rw [marginal_eq_coalesce1, (coalesce1_dense cfg outLt d I hd).1, wtBy_map_graph,
      sum_map_wtBy_fibre hnd (project I) (fun x => project J x = o) d.tab
        (fun k hk => space_projection outLt d.space I k (hin k hk))]
    exact wtBy_congr _ _ _ fun k hk => by rw [project_project (hI k hk)]
  exact ⟨key, fun ho2 => key.trans (marginal_get_dense cfg outLt d _ hd o ho2).symm⟩

end StagedDist

/-! ### Index parsing, names, masks -/

section Parsing

/-- `parseIdx` in one test: the request is accepted iff it repeats no index (under `unique`)
and every index is below `n`; the empty request passes both. -/
theorem parseIdx_eq (n : Nat) (rvs : List Nat) (unique sort : Bool) :
    parseIdx n rvs unique sort
      = if (unique = true → rvs.Nodup) ∧ ∀ i ∈ rvs, i < n then
          .ok (if sort = true then isort (fun a b => decide (a < b)) rvs else rvs)
        else .error .ditException := by
  unfold parseIdx
  have hB : (unique && decide ((dedup rvs).length ≠ rvs.length)) = true
      ↔ ¬ (unique = true → rvs.Nodup) := by
    simp only [Bool.and_eq_true, decide_eq_true_eq, ne_eq, length_dedup_eq, Classical.not_imp]
  have hC : (!rvs.all (· < n)) = true ↔ ¬ ∀ i ∈ rvs, i < n := by
    simp only [Bool.not_eq_true', List.all_eq_false, decide_eq_true_eq, not_forall, exists_prop]
  by_cases he : rvs = []
  · subst he; cases sort <;> simp [isort]
  · rw [if_neg (by simpa using he)]
    by_cases h1 : unique = true → rvs.Nodup
    · rw [if_neg (hB.not.mpr (not_not.mpr h1))]
      by_cases h2 : ∀ i ∈ rvs, i < n
      · rw [if_neg (hC.not.mpr (not_not.mpr h2)), if_pos (And.intro h1 h2)]
      · rw [if_pos (hC.mpr h2), if_neg (fun h => h2 h.2)]
    · rw [if_pos (hB.mpr h1), if_neg (fun h => h1 h.1)]

/-- **`parse_rvs` (index mode), success.** A successful parse returns valid indices that are
a rearrangement of the request: the request itself without `sort`, sorted ascending with
`sort`, without repetition under `unique` (so strictly increasing with both — the form
`marginal` relies on to keep the variable order). -/
theorem parseIdx_ok (n : Nat) (rvs : List Nat) (unique sort : Bool) (idx : List Nat)
    (h : parseIdx n rvs unique sort = .ok idx) :
    (∀ i ∈ idx, i < n) ∧ idx.Perm rvs
      ∧ (sort = false → idx = rvs)
      ∧ (sort = true → idx.Pairwise (· ≤ ·))
      ∧ (unique = true → idx.Nodup)
      ∧ (sort = true → unique = true → idx.Pairwise (· < ·)) := by
  rw [parseIdx_eq] at h
  split at h
  · rename_i hc
    have h : (if sort = true then isort (fun a b => decide (a < b)) rvs else rvs) = idx :=
      Except.ok.inj h
    have hperm : idx.Perm rvs := by
      rw [← h]
      split
      · exact isort_perm _ _
      · exact List.Perm.refl _
    have hsorted : sort = true → idx.Pairwise (· ≤ ·) := fun hs => by
      rw [← h, if_pos hs]
      exact isort_nat_sorted rvs
    have hnd : unique = true → idx.Nodup := fun hq => hperm.nodup_iff.mpr (hc.1 hq)
    refine ⟨fun i hi => hc.2 i (hperm.mem_iff.mp hi), hperm, fun hs => ?_, hsorted, hnd,
      fun hs hq => ((hsorted hs).and (hnd hq)).imp fun hab => Nat.lt_of_le_of_ne hab.1 hab.2⟩
    rw [← h, hs]
    rfl
  · cases h

/-- **`parse_rvs` (index mode), failure.** The parse fails — always with `ditException` —
exactly when the request is non-empty and either repeats an index under `unique` or contains
an index that is not below the outcome length. -/
theorem parseIdx_error (n : Nat) (rvs : List Nat) (unique sort : Bool) :
    ((∃ e, parseIdx n rvs unique sort = .error e) ↔
        rvs ≠ [] ∧ ((unique = true ∧ ¬ rvs.Nodup) ∨ ∃ i ∈ rvs, n ≤ i))
      ∧ ∀ e, parseIdx n rvs unique sort = .error e → e = Err.ditException := by
  rw [parseIdx_eq]
  split
  · rename_i hc
    refine ⟨⟨fun ⟨_, h⟩ => (nomatch h), ?_⟩, fun _ h => nomatch h⟩
    rintro ⟨_, ⟨hq, hnd⟩ | ⟨i, hi, hn⟩⟩
    · exact absurd (hc.1 hq) hnd
    · exact absurd (hc.2 i hi) (Nat.not_lt.mpr hn)
  · rename_i hc
    refine ⟨⟨fun _ => ⟨?_, ?_⟩, fun _ => ⟨_, rfl⟩⟩, fun e h => by cases h; rfl⟩
    · rintro rfl; exact hc ⟨fun _ => List.nodup_nil, by simp⟩
    · by_contra hno
      rw [not_or, not_and, not_not] at hno
      exact hc ⟨hno.1, fun i hi => Nat.lt_of_not_le fun hn => hno.2 ⟨i, hi, hn⟩⟩

variable {ν : Type}

/-- **Names of the kept variables.** The marginal onto valid indices `idx` carries the names
`names[idx[0]], names[idx[1]], …`: as many as indices, in the order of the indices (which is
the variable order when `idx` is sorted). It is `project idx` applied to the name list. -/
theorem marginalNames_spec (names : List ν) (idx : List Nat) (h : ∀ i ∈ idx, i < names.length) :
    marginalNames names idx = project idx names
      ∧ (marginalNames names idx).length = idx.length
      ∧ ∀ j : Nat, (marginalNames names idx)[j]? = (idx[j]?).bind (fun i : Nat => names[i]?) :=
  ⟨rfl, length_project h, getElem?_project h⟩

/-- `resolveNames` in one test: it succeeds iff every requested name is a variable name. -/
theorem resolveNames_eq [DecidableEq ν] (names rvs : List ν) :
    resolveNames names rvs
      = if ∀ r ∈ rvs, r ∈ names then .ok (rvs.filterMap (indexOf? names))
        else .error .ditException := by
  unfold resolveNames
  simp only [ne_eq, List.filterMap_length_eq_length, indexOf?_isSome_iff, ite_not]

/-- **Name resolution.** `resolveNames` succeeds iff every requested name is a variable name;
it then returns, position by position, the index of the first variable carrying the name —
and the marginal onto these indices is named exactly by the requested names. -/
theorem resolveNames_spec [DecidableEq ν] (names rvs : List ν) :
    (∀ idx, resolveNames names rvs = .ok idx →
        List.Forall₂ (fun i r => indexOf? names r = some i) idx rvs
        ∧ (∀ i ∈ idx, i < names.length)
        ∧ marginalNames names idx = rvs)
      ∧ ((∃ e, resolveNames names rvs = .error e) ↔ ∃ r ∈ rvs, r ∉ names) := by
  rw [resolveNames_eq]
  split
  · rename_i hall
    have hf := forall₂_filterMap (f := indexOf? names)
      fun r hr => indexOf?_isSome_iff.mpr (hall r hr)
    refine ⟨fun idx h => ?_, fun ⟨_, h⟩ => (nomatch h), fun ⟨r, hr, hn⟩ => absurd (hall r hr) hn⟩
    cases h
    exact ⟨hf, project_of_forall₂ (hf.imp fun _ _ h => (indexOf?_eq_some h).1)⟩
  · rename_i hall
    exact ⟨fun _ h => (nomatch h), fun _ => by simpa only [not_forall, exists_prop] using hall,
      fun _ => ⟨_, rfl⟩⟩

/-- **Variable order is kept.** For strictly increasing indices (what `parseIdx … true true`
returns, see `parseIdx_ok`), the marginal's outcomes, alphabets and variable names are
subsequences of the source's: the kept variables stay in their original order. -/
theorem marginal_keeps_order {τ : Type} (idx : List Nat) (h : idx.Pairwise (· < ·))
    (o : List τ) (names : List ν) :
    (project idx o).Sublist o ∧ (marginalNames names idx).Sublist names :=
  ⟨project_sublist h o, project_sublist h names⟩

/-- **Mask of a marginal**: one flag per variable of the source, `true` exactly for the
dropped variables. -/
theorem marginalMask_spec (n : Nat) (idx : List Nat) :
    (marginalMask n idx).length = n
      ∧ ∀ i, i < n → (marginalMask n idx)[i]? = some (decide (i ∉ idx)) := by
  refine ⟨by simp [marginalMask], fun i h => ?_⟩
  simp [marginalMask, h]

end Parsing

/-! ### Non-vacuity: concrete instances over `Rat`

The joint table is `P(00) = P(01) = 1/4, P(10) = 1/2` on two binary variables. -/

section Examples

/-- Marginal onto variable 0: the rows `00` and `01` merge. -/
example : pushforward (project [0])
      ([([0, 0], 1 / 4), ([0, 1], 1 / 4), ([1, 0], 1 / 2)] : Tab (List Nat) Rat)
    = [([0], 1 / 2), ([1], 1 / 2)] := by decide +kernel

/-- A repeated variable (`[1, 1]`): rows `00` and `10` merge. -/
example : pushforward (project [1, 1])
      ([([0, 0], 1 / 4), ([0, 1], 1 / 4), ([1, 0], 1 / 2)] : Tab (List Nat) Rat)
    = [([0, 0], 3 / 4), ([1, 1], 1 / 4)] := by decide +kernel

/-- Overlapping groups `[[0], [1, 0]]`: a regrouping without merging. -/
example : pushforward (projectGroups [[0], [1, 0]])
      ([([0, 0], 1 / 4), ([0, 1], 1 / 4), ([1, 0], 1 / 2)] : Tab (List Nat) Rat)
    = [([[0], [0, 0]], 1 / 4), ([[0], [1, 0]], 1 / 4), ([[1], [0, 1]], 1 / 2)] := by
  decide +kernel

/-- The event "first variable is 0" has probability 1/2, and so has its fibre. -/
example : wtBy (fun o => project [0] o = [0])
      ([([0, 0], 1 / 4), ([0, 1], 1 / 4), ([1, 0], 1 / 2)] : Tab (List Nat) Rat) = 1 / 2 := by
  decide +kernel

/-- A table with a repeated key is pushed forward correctly as well. -/
example : pushforward (project [0])
      ([([0, 0], 1 / 4), ([0, 0], 1 / 4), ([1, 0], 1 / 2)] : Tab (List Nat) Rat)
    = [([0], 1 / 2), ([1], 1 / 2)] := by decide +kernel

/-- The theorems apply to the driver's number type: `Rat`'s own `+`/`0` are the ones of its
`AddCommMonoid` structure. -/
example (t : Tab (List Nat) Rat) (k : List Nat) :
    lookupD 0 (pushforward (project [0]) t) k = wtBy (fun o => project [0] o = k) t :=
  pushforward_lookup (project [0]) t k
example (cfg : NumCfg Rat) (d : Dist Nat Rat) (o : List Nat)
    (ho : o ∈ (d.space.extract (fun a b => lexLt a b) [0]).toList) (hd : d.sparse = false) :
    (d.marginal cfg (fun a b => lexLt a b) [0]).get o
      = some (wtBy (fun k => project [0] k = o) d.tab) :=
  marginal_get_dense cfg _ d [0] hd o ho

/-- Hypothesis of `marginal_staged`: the indices `[1, 0]` are valid for all stored outcomes;
the staged marginal `[1, 0]` then `[1]` is the marginal onto variable `0`. -/
example : ∀ k ∈ keys ([([0, 0], 1 / 4), ([0, 1], 1 / 4), ([1, 0], 1 / 2)] : Tab (List Nat) Rat),
    ∀ i ∈ [1, 0], i < k.length := by decide +kernel
example : ([1].filterMap (fun j => [1, 0][j]?) : List Nat) = [0] := by decide +kernel
example : pushforward (project [1]) (pushforward (project [1, 0])
      ([([0, 0], 1 / 4), ([0, 1], 1 / 4), ([1, 0], 1 / 2)] : Tab (List Nat) Rat))
    = [([0], 1 / 2), ([1], 1 / 2)] := by decide +kernel

/-- Without validity staging fails: the invalid index 5 is dropped and shifts positions. -/
example : project [0] (project [5, 0] [7, 8]) = [7]
    ∧ project ([0].filterMap (fun j => [5, 0][j]?)) [7, 8] = ([] : List Nat) := by decide +kernel

/-- Dense distribution: marginal onto variable 0 (model of `d.marginal([0])`). -/
example :
    ((⟨.cart [[0, 1], [0, 1]],
       [([0, 0], 1 / 4), ([0, 1], 1 / 4), ([1, 0], 1 / 2), ([1, 1], 0)], false, .linear⟩ :
        Dist Nat Rat).marginal ⟨fun _ v => v == 0, fun _ v => v == 1, fun _ _ => true⟩
        (fun a b => lexLt a b) [0]).tab
      = [([0], 1 / 2), ([1], 1 / 2)] := by decide +kernel

/-- Sparse distribution storing an explicit zero: the null fibre sum of `[1]` is trimmed,
`get [1]` still answers zero (the second alternative of `coalesce1_get`). -/
example :
    ((⟨.cart [[0, 1], [0, 1]],
       [([0, 0], 1 / 2), ([0, 1], 1 / 2), ([1, 0], 0)], true, .linear⟩ :
        Dist Nat Rat).marginal ⟨fun _ v => v == 0, fun _ v => v == 1, fun _ _ => true⟩
        (fun a b => lexLt a b) [0]).tab
      = [([0], 1)] := by decide +kernel
example :
    ((⟨.cart [[0, 1], [0, 1]],
       [([0, 0], 1 / 2), ([0, 1], 1 / 2), ([1, 0], 0)], true, .linear⟩ :
        Dist Nat Rat).marginal ⟨fun _ v => v == 0, fun _ v => v == 1, fun _ _ => true⟩
        (fun a b => lexLt a b) [0]).get [1]
      = some 0 := by decide +kernel

/-- Hypotheses of `marginal_staged_dense`, `coalesce1_mass` (dense clause) and of
`coalesce1_meta` hold for the dense example: keys in the space, valid indices, the
intermediate space `{0,1} × {0,1}` (variables `[1, 0]`) listed once, `[0]` a member of the
final space. -/
example :
    let d : Dist Nat Rat := ⟨.cart [[0, 1], [0, 1]],
       [([0, 0], 1 / 4), ([0, 1], 1 / 4), ([1, 0], 1 / 2), ([1, 1], 0)], false, .linear⟩
    d.sparse = false
      ∧ (∀ k ∈ keys d.tab, k ∈ d.space.toList)
      ∧ (∀ k ∈ keys d.tab, ∀ i ∈ [1, 0], i < k.length)
      ∧ (d.space.extract (fun a b => lexLt a b) [1, 0]).toList.Nodup
      ∧ (∀ k ∈ keys d.tab,
            project [1, 0] k ∈ (d.space.extract (fun a b => lexLt a b) [1, 0]).toList)
      ∧ [0] ∈ ((d.space.extract (fun a b => lexLt a b) [1, 0]).extract
                  (fun a b => lexLt a b) [1]).toList := by
  decide +kernel

/-- Explicit sample space: the new space is the sorted duplicate-free image. -/
example : ((Space.expl [[1, 0], [0, 1], [0, 0]]).extract (fun a b => lexLt a b) [0]).toList
    = [[0], [1]] := by decide +kernel
example : ((Space.expl [[1, 0], [0, 1], [0, 0]]).coalesce
      (fun a b => lexLt (a.flatten) (b.flatten)) [[0], [1, 0]]).toList
    = [[[0], [0, 0]], [[0], [1, 0]], [[1], [0, 1]]] := by decide +kernel

/-- `parse_rvs`: a valid request is sorted; repeated or out-of-range indices are rejected. -/
example : parseIdx 3 [2, 0] true true = .ok [0, 2] := by decide +kernel
example : parseIdx 3 [2, 0, 2] true true = .error .ditException := by decide +kernel
example : parseIdx 3 [2, 0, 2] false false = .ok [2, 0, 2] := by decide +kernel
example : parseIdx 3 [3] false true = .error .ditException := by decide +kernel
example : resolveNames ["X", "Y", "Z"] ["Z", "X"] = .ok [2, 0] := by decide +kernel
example : marginalNames ["X", "Y", "Z"] [0, 2] = ["X", "Z"] := by decide +kernel
example : marginalMask 3 [0, 2] = [false, true, false] := by decide +kernel
example : complIdx 3 [1] = [0, 2] := by decide +kernel

end Examples

end Dit.Props.C02
