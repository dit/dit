/-
Helper lemmas for C06 (divergences of `Core/Diverge.lean`) over `ℝ` with `log := Real.logb 2`:
support characterisation of the infinite values, Gibbs' inequality termwise with its equality
case, permutation invariance, label alignment, symmetry, bounds for the variational distance and
the Bhattacharyya coefficient, the Jensen–Shannon identities, the power-sum family, the companion
matrix of the maximum correlation, weak duality for the earth mover's distance, Pinsker.
Property theorems are in Props/C06.lean.
-/
import DitModel.Core.Diverge
import DitModel.Lemmas.Table
import DitModel.Lemmas.InfoReal
import Mathlib.Analysis.SpecialFunctions.Sqrt
import Mathlib.Analysis.SpecialFunctions.Pow.Real
import Mathlib.Analysis.SpecialFunctions.Log.Base
import Mathlib.Analysis.SpecialFunctions.Log.Deriv
import Mathlib.Analysis.Calculus.Deriv.MeanValue
import Mathlib.Analysis.Calculus.Deriv.Pow

namespace Dit.Lemmas.Diverge
open Dit Dit.Lemmas.Table Dit.Lemmas.ListBasics Dit.Lemmas.InfoReal

/-! ### List sums of reals -/

section Sums

theorem sum_map_nonneg {β : Type} (l : List β) (f : β → ℝ) (h : ∀ x ∈ l, 0 ≤ f x) :
    0 ≤ (l.map f).sum :=
  List.sum_nonneg (List.forall_mem_map.2 h)

theorem wtBy_nonneg {κ : Type} (p : κ → Prop) [DecidablePred p] (t : Tab κ ℝ)
    (h : ∀ r ∈ t, 0 ≤ r.2) : 0 ≤ wtBy p t :=
  sum_map_nonneg t _ fun r hr => ite_nonneg (h r hr) le_rfl

theorem sum_map_eq_zero_iff {β : Type} (l : List β) (f : β → ℝ) (h : ∀ x ∈ l, 0 ≤ f x) :
    (l.map f).sum = 0 ↔ ∀ x ∈ l, f x = 0 := by
  induction l with
  | nil => simp
  | cons x t ih =>
    rw [List.forall_mem_cons] at h
    rw [List.map_cons, List.sum_cons, add_eq_zero_iff_of_nonneg h.1 (sum_map_nonneg t f h.2),
      ih h.2, List.forall_mem_cons]

theorem sum_map_neg {β : Type} (l : List β) (f : β → ℝ) :
    (l.map (fun x => -f x)).sum = -(l.map f).sum := by
  induction l with
  | nil => simp
  | cons x t ih => simp only [List.map_cons, List.sum_cons, ih]; ring

theorem sum_comm {β γ : Type} (l1 : List β) (l2 : List γ) (f : β → γ → ℝ) :
    (l1.map (fun a => (l2.map (fun b => f a b)).sum)).sum
      = (l2.map (fun b => (l1.map (fun a => f a b)).sum)).sum := by
  induction l1 with
  | nil => simp
  | cons x t ih =>
    simp only [List.map_cons, List.sum_cons, ih]
    rw [List.sum_map_add]

theorem abs_sum_map_le {β : Type} (l : List β) (f : β → ℝ) :
    |(l.map f).sum| ≤ (l.map (fun x => |f x|)).sum := by
  induction l with
  | nil => simp
  | cons x t ih =>
    simp only [List.map_cons, List.sum_cons]
    exact (abs_add_le _ _).trans (by linarith)

def rsum (n : Nat) (f : Nat → ℝ) : ℝ := ((List.range n).map f).sum

theorem rsum_eq_sum (n : Nat) (f : Nat → ℝ) : rsum n f = ∑ i ∈ Finset.range n, f i := by
  rw [← List.toFinset_range, List.sum_toFinset f List.nodup_range]
  rfl

theorem rsum_le (n : Nat) (f g : Nat → ℝ) (h : ∀ i, i < n → f i ≤ g i) : rsum n f ≤ rsum n g :=
  List.sum_le_sum (fun i hi => h i (List.mem_range.mp hi))

theorem rsum_congr (n : Nat) (f g : Nat → ℝ) (h : ∀ i, i < n → f i = g i) :
    rsum n f = rsum n g :=
  congrArg List.sum (List.map_congr_left fun i hi => h i (List.mem_range.mp hi))

theorem rsum_comm (n m : Nat) (f : Nat → Nat → ℝ) :
    rsum n (fun i => rsum m (fun j => f i j)) = rsum m (fun j => rsum n (fun i => f i j)) :=
  sum_comm _ _ _

theorem rsum_add (n : Nat) (f g : Nat → ℝ) :
    rsum n (fun i => f i + g i) = rsum n f + rsum n g := List.sum_map_add

theorem rsum_sub (n : Nat) (f g : Nat → ℝ) :
    rsum n (fun i => f i - g i) = rsum n f - rsum n g := sum_map_sub _ _ _

theorem rsum_mul_left (n : Nat) (c : ℝ) (f : Nat → ℝ) :
    rsum n (fun i => c * f i) = c * rsum n f := List.sum_map_mul_left _ _ _

theorem rsum_mul_right (n : Nat) (c : ℝ) (f : Nat → ℝ) :
    rsum n (fun i => f i * c) = rsum n f * c := List.sum_map_mul_right _ _ _

theorem rsum_mul_div (n : Nat) (a T : ℝ) (f : Nat → ℝ) :
    rsum n (fun j => a * f j / T) = a * rsum n f / T := by
  simp only [mul_div_right_comm a _ T]
  rw [rsum_mul_left]

theorem rsum_nonneg (n : Nat) (f : Nat → ℝ) (h : ∀ i, i < n → 0 ≤ f i) : 0 ≤ rsum n f :=
  sum_map_nonneg _ _ (fun i hi => h i (List.mem_range.mp hi))

theorem rsum_ite_eq (n : Nat) (i : Nat) (hi : i < n) (c : ℝ) :
    rsum n (fun j => if i = j then c else 0) = c := by
  rw [rsum_eq_sum, Finset.sum_ite_eq, if_pos (Finset.mem_range.2 hi)]

theorem rsum_ite_eq' (n : Nat) (j : Nat) (hj : j < n) (c : Nat → ℝ) :
    rsum n (fun i => if i = j then c i else 0) = c j := by
  rw [rsum_eq_sum, Finset.sum_ite_eq', if_pos (Finset.mem_range.2 hj)]

end Sums

/-! ### Lists read by position -/

section Lists

theorem zipWith_map_map {β γ δ ε : Type} (f : γ → δ → ε) (g : β → γ) (h : β → δ) (l : List β) :
    List.zipWith f (l.map g) (l.map h) = l.map (fun a => f (g a) (h a)) := by
  rw [List.zipWith_map, List.zipWith_self]

theorem zipWith_fst_snd {β γ δ : Type} (f : β → γ → δ) (l : List (β × γ)) :
    List.zipWith f (l.map Prod.fst) (l.map Prod.snd) = l.map (fun r => f r.1 r.2) :=
  zipWith_map_map f Prod.fst Prod.snd l

theorem zipWith_map_self {β γ δ : Type} (f : β → γ → δ) (g : β → γ) (l : List β) :
    List.zipWith f l (l.map g) = l.map (fun a => f a (g a)) := by
  rw [List.zipWith_map_right, List.zipWith_self]

theorem sum_map_eq_range (pm : List ℝ) (n : Nat) (hn : pm.length = n) (f : ℝ → ℝ) :
    (pm.map f).sum = ((List.range n).map (fun x => f (pm.getD x 0))).sum := by
  subst hn
  conv_lhs => rw [← map_range_getD pm 0]
  rw [List.map_map]; rfl

theorem getD_map_mul (c : ℝ) (b : List ℝ) (k : Nat) :
    (b.map (fun x => c * x)).getD k 0 = c * b.getD k 0 := by
  rw [List.getD_eq_getElem?_getD, List.getD_eq_getElem?_getD, List.getElem?_map]
  cases b[k]? <;> simp

theorem getD_nonneg (row : List ℝ) (hnn : ∀ x ∈ row, 0 ≤ x) (k : Nat) : 0 ≤ row.getD k 0 :=
  getD_of_forall le_rfl hnn k

theorem getD_eq_zero_of_sum (row : List ℝ) (hnn : ∀ x ∈ row, 0 ≤ x) (h : row.sum = 0) (k : Nat) :
    row.getD k 0 = 0 :=
  getD_of_forall (P := (· = 0)) rfl
    ((sum_map_eq_zero_iff row id hnn).mp (by rwa [List.map_id])) k

end Lists

/-! ### Support condition; definitions of cross entropy and Kullback–Leibler divergence -/

section Defs

theorem absCont_iff (pq : List (ℝ × ℝ)) :
    absCont pq = true ↔ ∀ r ∈ pq, r.2 = 0 → r.1 = 0 := by
  unfold absCont
  rw [List.all_eq_true]
  refine forall₂_congr fun r _ => ?_
  rw [Bool.or_eq_true, beq_iff_eq, Bool.not_eq_true', beq_eq_false_iff_ne]
  exact imp_iff_or_not.symm

theorem absCont_false_iff (pq : List (ℝ × ℝ)) :
    absCont pq = false ↔ ∃ r ∈ pq, r.1 ≠ 0 ∧ r.2 = 0 := by
  rw [← Bool.not_eq_true, absCont_iff]
  simp only [not_forall, exists_prop]
  exact exists_congr fun r => and_congr_right fun _ => and_comm

/-- The KL sum (total function): `Σ p log₂(p/q)`. -/
noncomputable def klSum (pq : List (ℝ × ℝ)) : ℝ :=
  (pq.map (fun r => r.1 * Real.logb 2 (r.1 / r.2))).sum

/-- The cross-entropy sum (total function): `−Σ p log₂ q`. -/
noncomputable def xentSum (pq : List (ℝ × ℝ)) : ℝ :=
  -(pq.map (fun r => r.1 * Real.logb 2 r.2)).sum

theorem ite_beq_zero_mul (p c : ℝ) : (if p == 0 then 0 else p * c) = p * c := by
  rcases eq_or_ne p 0 with rfl | h
  · rw [if_pos (beq_self_eq_true _), zero_mul]
  · rw [if_neg (mt beq_iff_eq.1 h)]

theorem klVals_eq (pq : List (ℝ × ℝ)) :
    klVals (Real.logb 2) pq = if absCont pq then some (klSum pq) else none := by
  unfold klVals klSum
  rw [lsum_eq_sum]
  congr 3
  exact List.map_congr_left fun r _ => ite_beq_zero_mul r.1 _

theorem xentVals_eq (pq : List (ℝ × ℝ)) :
    crossEntropyVals (Real.logb 2) pq = if absCont pq then some (xentSum pq) else none := by
  unfold crossEntropyVals xentSum
  rw [lsum_eq_sum]
  congr 4
  exact List.map_congr_left fun r _ => ite_beq_zero_mul r.1 _

theorem klVals_of_absCont {pq : List (ℝ × ℝ)} (h : absCont pq = true) :
    klVals (Real.logb 2) pq = some (klSum pq) := by
  rw [klVals_eq, if_pos h]

theorem klVals_eq_some {pq : List (ℝ × ℝ)} {d : ℝ} (h : klVals (Real.logb 2) pq = some d) :
    absCont pq = true ∧ d = klSum pq := by
  rw [klVals_eq] at h
  split at h
  · exact ⟨‹_›, (Option.some.inj h).symm⟩
  · cases h

theorem klVals_eq_none_iff (pq : List (ℝ × ℝ)) :
    klVals (Real.logb 2) pq = none ↔ absCont pq = false := by
  rw [klVals_eq]
  cases absCont pq <;> simp

theorem xentVals_eq_none_iff (pq : List (ℝ × ℝ)) :
    crossEntropyVals (Real.logb 2) pq = none ↔ absCont pq = false := by
  rw [xentVals_eq]
  cases absCont pq <;> simp

theorem mul_logb_div {p q : ℝ} (h : q = 0 → p = 0) :
    p * Real.logb 2 (p / q) = p * Real.logb 2 p - p * Real.logb 2 q := by
  rcases eq_or_ne p 0 with rfl | hp
  · rw [zero_mul, zero_mul, zero_mul, sub_zero]
  · rw [Real.logb_div hp (mt h hp), mul_sub]

theorem xentSum_eq (pq : List (ℝ × ℝ)) (h : absCont pq = true) :
    xentSum pq = klSum pq + entropyVals (Real.logb 2) (pq.map Prod.fst) := by
  rw [absCont_iff] at h
  rw [entropyVals_eq_sum, List.map_map]
  unfold xentSum klSum
  rw [← sub_eq_add_neg, ← sum_map_sub, ← sum_map_neg]
  congr 1
  apply List.map_congr_left
  intro r hr
  rw [mul_logb_div (h r hr)]
  exact (sub_sub_cancel_left _ _).symm

end Defs

/-! ### Gibbs' inequality termwise, with the equality case -/

section Gibbs

/-- What the term `p ln(p/q)` of the KL sum exceeds the difference `p − q` by. -/
noncomputable def klExcess (p q : ℝ) : ℝ := p * Real.log (p / q) - (p - q)

theorem klExcess_self (p : ℝ) : klExcess p p = 0 := by
  rw [klExcess, Real.log_div_self, mul_zero, sub_self, sub_zero]

theorem klExcess_pos (p q : ℝ) (hp : 0 ≤ p) (hq : 0 ≤ q) (hac : q = 0 → p = 0) (hne : p ≠ q) :
    0 < klExcess p q := by
  unfold klExcess
  rcases hp.eq_or_lt with rfl | hp
  · rw [zero_mul, zero_sub, zero_sub, neg_neg]
    exact lt_of_le_of_ne hq hne
  · have hq : 0 < q := lt_of_le_of_ne hq fun e => hp.ne' (hac e.symm)
    have h := mul_lt_mul_of_pos_left (Real.log_lt_sub_one_of_pos (div_pos hq hp)
      fun e => hne ((div_eq_one_iff_eq hp.ne').1 e).symm) hp
    rw [Real.log_div hq.ne' hp.ne', mul_sub, mul_sub, mul_div_cancel₀ _ hp.ne'] at h
    rw [Real.log_div hp.ne' hq.ne']
    linarith

theorem klExcess_nonneg (p q : ℝ) (hp : 0 ≤ p) (hq : 0 ≤ q) (hac : q = 0 → p = 0) :
    0 ≤ klExcess p q := by
  rcases eq_or_ne p q with rfl | hne
  · exact (klExcess_self p).ge
  · exact (klExcess_pos p q hp hq hac hne).le

theorem klExcess_eq_zero_iff (p q : ℝ) (hp : 0 ≤ p) (hq : 0 ≤ q) (hac : q = 0 → p = 0) :
    klExcess p q = 0 ↔ p = q :=
  ⟨fun h => by_contra fun hne => (klExcess_pos p q hp hq hac hne).ne' h,
    fun h => h ▸ klExcess_self p⟩

theorem logb_two_eq (x : ℝ) : Real.logb 2 x = Real.log x / Real.log 2 := by
  rw [← Real.log_div_log]

theorem klSum_mul_log_two (pq : List (ℝ × ℝ)) :
    Real.log 2 * klSum pq = (pq.map (fun r => r.1 * Real.log (r.1 / r.2))).sum := by
  unfold klSum
  rw [← List.sum_map_mul_left]
  apply congrArg
  apply List.map_congr_left
  intro r _
  rw [logb_two_eq, mul_left_comm, mul_div_cancel₀ _ log_two_pos.ne']

theorem kl_excess (pq : List (ℝ × ℝ)) :
    Real.log 2 * klSum pq - ((pq.map Prod.fst).sum - (pq.map Prod.snd).sum)
      = (pq.map (fun r => klExcess r.1 r.2)).sum := by
  rw [klSum_mul_log_two, ← sum_map_sub, ← sum_map_sub]
  rfl

theorem kl_excess_term_nonneg (pq : List (ℝ × ℝ)) (hnn : ∀ r ∈ pq, 0 ≤ r.1 ∧ 0 ≤ r.2)
    (hac : absCont pq = true) (r : ℝ × ℝ) (hr : r ∈ pq) : 0 ≤ klExcess r.1 r.2 :=
  klExcess_nonneg r.1 r.2 (hnn r hr).1 (hnn r hr).2 ((absCont_iff pq).mp hac r hr)

theorem gibbs_list (pq : List (ℝ × ℝ)) (hnn : ∀ r ∈ pq, 0 ≤ r.1 ∧ 0 ≤ r.2)
    (hac : absCont pq = true) :
    (pq.map Prod.fst).sum - (pq.map Prod.snd).sum ≤ Real.log 2 * klSum pq := by
  have h := sum_map_nonneg pq _ (kl_excess_term_nonneg pq hnn hac)
  rw [← kl_excess] at h
  linarith

theorem klSum_nonneg (pq : List (ℝ × ℝ)) (hnn : ∀ r ∈ pq, 0 ≤ r.1 ∧ 0 ≤ r.2)
    (hac : absCont pq = true) (hs : (pq.map Prod.snd).sum ≤ (pq.map Prod.fst).sum) :
    0 ≤ klSum pq := by
  have h := gibbs_list pq hnn hac
  exact (mul_nonneg_iff_of_pos_left log_two_pos).mp (by linarith)

end Gibbs

/-! ### `D(p‖p) = 0` and the equality case -/

section Zero

theorem klSum_self (ps : List ℝ) : klSum (ps.map (fun p => (p, p))) = 0 := by
  unfold klSum
  rw [List.map_map, ← List.sum_map_zero (M := ℝ) (l := ps)]
  refine congrArg _ (List.map_congr_left fun p _ => ?_)
  rw [Function.comp_apply, Real.logb, Real.log_div_self, zero_div, mul_zero]

theorem absCont_self (ps : List ℝ) : absCont (ps.map (fun p => (p, p))) = true := by
  rw [absCont_iff]
  intro r hr h2
  obtain ⟨p, _, rfl⟩ := List.mem_map.mp hr
  exact h2

theorem klSum_eq_zero_iff (pq : List (ℝ × ℝ)) (hnn : ∀ r ∈ pq, 0 ≤ r.1 ∧ 0 ≤ r.2)
    (hac : absCont pq = true) (hs : (pq.map Prod.fst).sum = (pq.map Prod.snd).sum) :
    klSum pq = 0 ↔ ∀ r ∈ pq, r.1 = r.2 := by
  have hex := kl_excess pq
  rw [hs, sub_self, sub_zero] at hex
  rw [← mul_eq_zero_iff_left log_two_pos.ne', hex,
    sum_map_eq_zero_iff pq _ (kl_excess_term_nonneg pq hnn hac)]
  exact forall₂_congr fun r hr =>
    klExcess_eq_zero_iff r.1 r.2 (hnn r hr).1 (hnn r hr).2 ((absCont_iff pq).mp hac r hr)

end Zero

/-! ### Permutation invariance -/

section Perm

theorem absCont_perm {pq pq' : List (ℝ × ℝ)} (h : pq.Perm pq') : absCont pq = absCont pq' := by
  unfold absCont; exact h.all_eq

theorem klVals_perm (log : ℝ → ℝ) {pq pq' : List (ℝ × ℝ)} (h : pq.Perm pq') :
    klVals log pq = klVals log pq' := by
  unfold klVals
  rw [absCont_perm h, lsum_eq_sum, lsum_eq_sum, (h.map _).sum_eq]

theorem xentVals_perm (log : ℝ → ℝ) {pq pq' : List (ℝ × ℝ)} (h : pq.Perm pq') :
    crossEntropyVals log pq = crossEntropyVals log pq' := by
  unfold crossEntropyVals
  rw [absCont_perm h, lsum_eq_sum, lsum_eq_sum, (h.map _).sum_eq]

theorem tvVals_perm (two : ℝ) {pq pq' : List (ℝ × ℝ)} (h : pq.Perm pq') :
    tvVals two pq = tvVals two pq' := by
  unfold tvVals
  rw [lsum_eq_sum, lsum_eq_sum, (h.map _).sum_eq]

theorem bcVals_perm (sqrt : ℝ → ℝ) {pq pq' : List (ℝ × ℝ)} (h : pq.Perm pq') :
    bcVals sqrt pq = bcVals sqrt pq' := by
  unfold bcVals
  rw [lsum_eq_sum, lsum_eq_sum, (h.map _).sum_eq]

theorem powerSum_perm (R : RealOps ℝ) (a b : ℝ) {pq pq' : List (ℝ × ℝ)} (h : pq.Perm pq') :
    powerSum R a b pq = powerSum R a b pq' := by
  unfold powerSum
  rw [lsum_eq_sum, lsum_eq_sum, (h.map _).sum_eq]

end Perm

/-! ### Label alignment -/

section Align
variable {κ α : Type} [DecidableEq κ] [Zero α]

theorem alignPair_right_perm (t1 : Tab κ α) {t2 t2' : Tab κ α} (h : t2.Perm t2')
    (hnd : (keys t2).Nodup) : alignPair t1 t2 = alignPair t1 t2' := by
  unfold alignPair
  apply List.map_congr_left
  intro r _
  rw [lookupD_perm h hnd]

theorem alignPair_left_perm {t1 t1' : Tab κ α} (t2 : Tab κ α) (h : t1.Perm t1') :
    (alignPair t1 t2).Perm (alignPair t1' t2) := h.map _

theorem map_fst_alignPair (t1 t2 : Tab κ α) :
    (alignPair t1 t2).map Prod.fst = vals t1 := by
  simp [alignPair, vals, Function.comp_def]

theorem map_snd_alignPair (t1 t2 : Tab κ α) :
    (alignPair t1 t2).map Prod.snd = (keys t1).map (lookupD 0 t2) := by
  simp [alignPair, keys, Function.comp_def]

theorem lookupD_cons_ne (r : κ × α) (t : Tab κ α) (k : κ) (h : r.1 ≠ k) :
    lookupD 0 (r :: t) k = lookupD 0 t k := by
  unfold lookupD; rw [lookup?_cons, if_neg h]

theorem lookupD_cons_self (r : κ × ℝ) (t : Tab κ ℝ) :
    lookupD 0 (r :: t) r.1 = r.2 := by
  unfold lookupD; rw [lookup?_cons, if_pos rfl]; rfl

theorem dedup_append (l1 l2 : List κ) :
    dedup (l1 ++ l2) = dedup l1 ++ (dedup l2).filter (fun x => decide (x ∉ l1)) := by
  induction l1 with
  | nil => simp [dedup]
  | cons x t ih =>
    show x :: (dedup (t ++ l2)).filter (· ≠ x) = x :: (dedup t).filter (· ≠ x) ++ _
    rw [ih, List.filter_append, List.filter_filter, List.cons_append]
    congr 2
    apply List.filter_congr
    intro y _
    simp [not_or]

theorem alignUnion_eq (t1 t2 : Tab κ α) (hnd : (keys t1).Nodup) :
    alignUnion t1 t2 = alignPair t1 t2
      ++ ((dedup (keys t2)).filter (fun x => decide (x ∉ keys t1))).map
          (fun k => (0, lookupD 0 t2 k)) := by
  unfold alignUnion
  rw [dedup_append, List.map_append, dedup_eq_self.mpr hnd]
  congr 1
  · unfold alignPair keys
    rw [List.map_map]
    apply List.map_congr_left
    intro r hr
    simp only [Function.comp_apply]
    rw [lookupD_eq_of_mem hnd hr 0]
  · apply List.map_congr_left
    intro k hk
    have : k ∉ keys t1 := by simpa using (List.mem_filter.mp hk).2
    rw [lookupD_of_not_mem 0 this]

theorem dedup_perm_of_mem_iff {l l' : List κ} (h : ∀ a, a ∈ l ↔ a ∈ l') :
    (dedup l).Perm (dedup l') :=
  (List.perm_ext_iff_of_nodup (nodup_dedup _) (nodup_dedup _)).2 fun a => by
    rw [mem_dedup, mem_dedup, h]

theorem alignUnion_perm {t1 t1' t2 t2' : Tab κ α} (h1 : t1.Perm t1') (h2 : t2.Perm t2')
    (hnd1 : (keys t1).Nodup) (hnd2 : (keys t2).Nodup) :
    (alignUnion t1 t2).Perm (alignUnion t1' t2') := by
  unfold alignUnion
  have hp : (dedup (keys t1 ++ keys t2)).Perm (dedup (keys t1' ++ keys t2')) :=
    dedup_perm_of_mem_iff fun a => by
      have e1 : a ∈ keys t1 ↔ a ∈ keys t1' := (h1.map (·.1)).mem_iff
      have e2 : a ∈ keys t2 ↔ a ∈ keys t2' := (h2.map (·.1)).mem_iff
      rw [List.mem_append, List.mem_append, e1, e2]
  refine (hp.map _).trans (List.Perm.of_eq (List.map_congr_left fun k _ => ?_))
  rw [lookupD_perm h1 hnd1, lookupD_perm h2 hnd2]

end Align

/-! ### Pairs `(0, q)` -/

section ZeroPairs

theorem absCont_append (l1 l2 : List (ℝ × ℝ)) :
    absCont (l1 ++ l2) = (absCont l1 && absCont l2) := by
  unfold absCont; rw [List.all_append]

theorem absCont_of_fst_zero (l : List (ℝ × ℝ)) (h : ∀ r ∈ l, r.1 = 0) : absCont l = true := by
  rw [absCont_iff]; intro r hr _; exact h r hr

theorem sum_guard_eq_zero (l : List (ℝ × ℝ)) (f : ℝ × ℝ → ℝ) (h : ∀ r ∈ l, r.1 = 0) :
    (l.map (fun r => if r.1 == 0 then 0 else f r)).sum = 0 :=
  (congrArg _ (List.map_congr_left fun r hr => if_pos (beq_iff_eq.2 (h r hr)))).trans
    List.sum_map_zero

theorem klVals_append_zero (log : ℝ → ℝ) (l1 l2 : List (ℝ × ℝ)) (h : ∀ r ∈ l2, r.1 = 0) :
    klVals log (l1 ++ l2) = klVals log l1 := by
  unfold klVals
  rw [absCont_append, absCont_of_fst_zero l2 h, Bool.and_true, lsum_eq_sum, lsum_eq_sum,
    List.map_append, List.sum_append, sum_guard_eq_zero l2 _ h, add_zero]

theorem xentVals_append_zero (log : ℝ → ℝ) (l1 l2 : List (ℝ × ℝ)) (h : ∀ r ∈ l2, r.1 = 0) :
    crossEntropyVals log (l1 ++ l2) = crossEntropyVals log l1 := by
  unfold crossEntropyVals
  rw [absCont_append, absCont_of_fst_zero l2 h, Bool.and_true, lsum_eq_sum, lsum_eq_sum,
    List.map_append, List.sum_append, sum_guard_eq_zero l2 _ h, add_zero]

theorem klVals_filter_fst (log : ℝ → ℝ) (pq : List (ℝ × ℝ)) :
    klVals log (pq.filter (fun p => decide (p.1 ≠ 0))) = klVals log pq
      ∧ crossEntropyVals log (pq.filter (fun p => decide (p.1 ≠ 0)))
          = crossEntropyVals log pq := by
  have hp := List.filter_append_perm (fun p : ℝ × ℝ => decide (p.1 ≠ 0)) pq
  have hz : ∀ r ∈ pq.filter (fun x => !decide (x.1 ≠ 0)), r.1 = 0 := by
    intro r hr
    simpa using (List.mem_filter.mp hr).2
  rw [← klVals_perm log hp, ← xentVals_perm log hp,
    klVals_append_zero log _ _ hz, xentVals_append_zero log _ _ hz]
  exact ⟨rfl, rfl⟩

end ZeroPairs

/-! ### Variational distance, Bhattacharyya coefficient, Hellinger distance -/

section TV

theorem absV_eq (x : ℝ) : absV x = |x| := by
  unfold absV
  split
  · rename_i h; rw [abs_of_neg h]
  · rename_i h; rw [abs_of_nonneg (not_lt.mp h)]

theorem tvVals_eq (pq : List (ℝ × ℝ)) :
    tvVals 2 pq = (pq.map (fun r => |r.1 - r.2|)).sum / 2 := by
  unfold tvVals
  rw [lsum_eq_sum]
  congr 2
  exact List.map_congr_left (fun r _ => absV_eq _)

theorem tvVals_append (pq pq' : List (ℝ × ℝ)) :
    tvVals 2 (pq ++ pq') = tvVals 2 pq + tvVals 2 pq' := by
  rw [tvVals_eq, tvVals_eq, tvVals_eq, List.map_append, List.sum_append]; ring

theorem half_add_le_one {a b : ℝ} (ha : a ≤ 1) (hb : b ≤ 1) : (a + b) / 2 ≤ 1 :=
  (div_le_one (two_pos (α := ℝ))).2 ((add_le_add ha hb).trans_eq one_add_one_eq_two)

theorem tvVals_le (pq : List (ℝ × ℝ)) (hnn : ∀ r ∈ pq, 0 ≤ r.1 ∧ 0 ≤ r.2) :
    tvVals 2 pq ≤ ((pq.map Prod.fst).sum + (pq.map Prod.snd).sum) / 2 := by
  rw [tvVals_eq, ← List.sum_map_add]
  refine div_le_div_of_nonneg_right (List.sum_le_sum fun r hr => ?_) zero_le_two
  exact (abs_sub _ _).trans_eq (by rw [abs_of_nonneg (hnn r hr).1, abs_of_nonneg (hnn r hr).2])

theorem bcVals_eq (pq : List (ℝ × ℝ)) :
    bcVals Real.sqrt pq = (pq.map (fun r => Real.sqrt (r.1 * r.2))).sum := by
  unfold bcVals; rw [lsum_eq_sum]

theorem sq_sqrt_sub_sqrt {p q : ℝ} (hp : 0 ≤ p) (hq : 0 ≤ q) :
    (Real.sqrt p - Real.sqrt q) ^ 2 = p + q - 2 * Real.sqrt (p * q) := by
  rw [Real.sqrt_mul hp, sub_sq, Real.sq_sqrt hp, Real.sq_sqrt hq]
  ring

theorem sqrt_mul_le_half (p q : ℝ) (hp : 0 ≤ p) (hq : 0 ≤ q) :
    Real.sqrt (p * q) ≤ (p + q) / 2 := by
  have := sq_nonneg (Real.sqrt p - Real.sqrt q)
  rw [sq_sqrt_sub_sqrt hp hq] at this
  linarith

theorem bcVals_le (pq : List (ℝ × ℝ)) (hnn : ∀ r ∈ pq, 0 ≤ r.1 ∧ 0 ≤ r.2) :
    bcVals Real.sqrt pq ≤ ((pq.map Prod.fst).sum + (pq.map Prod.snd).sum) / 2 := by
  rw [bcVals_eq, ← List.sum_map_add, div_eq_mul_inv, ← List.sum_map_mul_right]
  exact List.sum_le_sum fun r hr =>
    (sqrt_mul_le_half r.1 r.2 (hnn r hr).1 (hnn r hr).2).trans_eq (div_eq_mul_inv _ _)

theorem one_sub_bc (pq : List (ℝ × ℝ)) (hnn : ∀ r ∈ pq, 0 ≤ r.1 ∧ 0 ≤ r.2)
    (hp : (pq.map Prod.fst).sum = 1) (hq : (pq.map Prod.snd).sum = 1) :
    1 - bcVals Real.sqrt pq
      = (pq.map (fun r => (Real.sqrt r.1 - Real.sqrt r.2) ^ 2)).sum / 2 := by
  rw [List.map_congr_left fun r hr => sq_sqrt_sub_sqrt (hnn r hr).1 (hnn r hr).2, sum_map_sub,
    List.sum_map_add (f := Prod.fst) (g := Prod.snd), List.sum_map_mul_left, ← bcVals_eq, hp, hq]
  ring

end TV

/-! ### Jensen–Shannon divergence

The family is a list `l` of pairs (pmf, weight); `pmfs = l.map Prod.fst`, `w = l.map Prod.snd`. -/

section JSD

/-- Column `x` of the mixture `Σ_i w_i p_i`. -/
def mixCol (l : List (List ℝ × ℝ)) (x : Nat) : ℝ := (l.map (fun r => r.2 * r.1.getD x 0)).sum

theorem mixCol_perm {l l' : List (List ℝ × ℝ)} (h : l.Perm l') (x : Nat) :
    mixCol l x = mixCol l' x := (h.map _).sum_eq

theorem mixVals_eq (l : List (List ℝ × ℝ)) (n : Nat) (hne : l ≠ [])
    (hlen : ∀ r ∈ l, r.1.length = n) :
    mixVals (l.map Prod.fst) (l.map Prod.snd) = (List.range n).map (mixCol l) := by
  cases l with
  | nil => exact absurd rfl hne
  | cons r t =>
    have hr : r.1.length = n := hlen r List.mem_cons_self
    show (List.range r.1.length).map _ = _
    rw [hr]
    apply List.map_congr_left
    intro x _
    rw [lsum_eq_sum, zipWith_fst_snd]; rfl

theorem jsdVals_eq (log : ℝ → ℝ) (l : List (List ℝ × ℝ)) :
    jsdVals log (l.map Prod.fst) (l.map Prod.snd)
      = entropyVals log (mixVals (l.map Prod.fst) (l.map Prod.snd))
        - (l.map (fun r => r.2 * entropyVals log r.1)).sum := by
  unfold jsdVals
  rw [lsum_eq_sum, zipWith_fst_snd]

theorem zip_mix (l : List (List ℝ × ℝ)) (n : Nat)
    (hlen : ∀ r ∈ l, r.1.length = n) (r : List ℝ × ℝ) (hr : r ∈ l) :
    r.1.zip (mixVals (l.map Prod.fst) (l.map Prod.snd))
      = (List.range n).map (fun x => (r.1.getD x 0, mixCol l x)) := by
  rw [mixVals_eq l n (List.ne_nil_of_mem hr) hlen]
  conv_lhs => rw [← map_range_getD r.1 0, hlen r hr]
  rw [List.zip_map']

theorem klSum_zip_mix (l : List (List ℝ × ℝ)) (n : Nat)
    (hlen : ∀ r ∈ l, r.1.length = n) (r : List ℝ × ℝ) (hr : r ∈ l) :
    klSum (r.1.zip (mixVals (l.map Prod.fst) (l.map Prod.snd)))
      = ((List.range n).map
          (fun x => r.1.getD x 0 * Real.logb 2 (r.1.getD x 0 / mixCol l x))).sum := by
  rw [zip_mix l n hlen r hr]
  unfold klSum
  rw [List.map_map]
  rfl

theorem sum_mixCol (l : List (List ℝ × ℝ)) (n : Nat) (hlen : ∀ r ∈ l, r.1.length = n) :
    ((List.range n).map (mixCol l)).sum = (l.map (fun r => r.2 * r.1.sum)).sum := by
  unfold mixCol
  rw [sum_comm]
  refine congrArg _ (List.map_congr_left fun r hr => ?_)
  rw [List.sum_map_mul_left, sum_range_getD (hlen r hr)]

/-- Hypotheses on a family given as a list of pmfs and a list of weights, read on the list of
pairs. -/
theorem forall_zip_fst {pmfs : List (List ℝ)} (w : List ℝ) {P : List ℝ → Prop}
    (h : ∀ pm ∈ pmfs, P pm) : ∀ r ∈ pmfs.zip w, P r.1 :=
  fun r hr => h r.1 (List.of_mem_zip hr).1

theorem zip_nonneg {pmfs : List (List ℝ)} {w : List ℝ} (hnn : ∀ pm ∈ pmfs, ∀ p ∈ pm, 0 ≤ p)
    (hw : ∀ x ∈ w, 0 ≤ x) : ∀ r ∈ pmfs.zip w, 0 ≤ r.2 ∧ ∀ p ∈ r.1, 0 ≤ p :=
  fun r hr => ⟨hw r.2 (List.of_mem_zip hr).2, hnn r.1 (List.of_mem_zip hr).1⟩

variable (l : List (List ℝ × ℝ)) (hnn : ∀ r ∈ l, 0 ≤ r.2 ∧ ∀ p ∈ r.1, 0 ≤ p)
include hnn

theorem mixCol_term_nonneg (r : List ℝ × ℝ) (hr : r ∈ l) (x : Nat) : 0 ≤ r.2 * r.1.getD x 0 :=
  mul_nonneg (hnn r hr).1 (getD_nonneg r.1 (hnn r hr).2 x)

theorem mixCol_nonneg (x : Nat) : 0 ≤ mixCol l x :=
  sum_map_nonneg l _ fun r hr => mixCol_term_nonneg l hnn r hr x

theorem le_mixCol (r : List ℝ × ℝ) (hr : r ∈ l) (x : Nat) :
    r.2 * r.1.getD x 0 ≤ mixCol l x :=
  List.single_le_sum (List.forall_mem_map.2 fun r' hr' => mixCol_term_nonneg l hnn r' hr' x) _
    (List.mem_map_of_mem hr)

theorem mixCol_pos (r : List ℝ × ℝ) (hr : r ∈ l) (x : Nat) (hw : 0 < r.2)
    (hp : r.1.getD x 0 ≠ 0) : 0 < mixCol l x :=
  lt_of_lt_of_le (mul_pos hw (lt_of_le_of_ne (getD_nonneg r.1 (hnn r hr).2 x) hp.symm))
    (le_mixCol l hnn r hr x)

theorem absCont_zip_mix (n : Nat) (hlen : ∀ r ∈ l, r.1.length = n)
    (r : List ℝ × ℝ) (hr : r ∈ l) (hw : 0 < r.2) :
    absCont (r.1.zip (mixVals (l.map Prod.fst) (l.map Prod.snd))) = true := by
  rw [zip_mix l n hlen r hr, absCont_iff]
  intro s hs h2
  obtain ⟨x, _, rfl⟩ := List.mem_map.mp hs
  by_contra h1
  exact (mixCol_pos l hnn r hr x hw h1).ne' h2

/-- The three-term identity behind `JSD = Σ w_i KL(p_i ‖ m)`. -/
theorem jsd_eq_sum_klSum (n : Nat) (hlen : ∀ r ∈ l, r.1.length = n) :
    jsdVals (Real.logb 2) (l.map Prod.fst) (l.map Prod.snd)
      = (l.map (fun r => r.2 *
          klSum (r.1.zip (mixVals (l.map Prod.fst) (l.map Prod.snd))))).sum := by
  rcases eq_or_ne l [] with rfl | hne
  · simp [jsdVals, mixVals, entropyVals, lsum]
  -- entropy of the mixture as a double sum
  have hH : entropyVals (Real.logb 2) (mixVals (l.map Prod.fst) (l.map Prod.snd))
      = -(l.map (fun r => ((List.range n).map
          (fun x => r.2 * r.1.getD x 0 * Real.logb 2 (mixCol l x))).sum)).sum := by
    rw [mixVals_eq l n hne hlen, entropyVals_eq_sum, List.map_map, sum_comm]
    refine congrArg _ (congrArg _ (List.map_congr_left fun x _ => ?_))
    rw [List.sum_map_mul_right]
    rfl
  rw [jsdVals_eq, hH, ← sum_map_neg, ← sum_map_sub]
  refine congrArg _ (List.map_congr_left fun r hr => ?_)
  rw [klSum_zip_mix l n hlen r hr, entropyVals_eq_sum, sum_map_eq_range r.1 n (hlen r hr),
    ← List.sum_map_mul_left, mul_neg, sub_neg_eq_add, ← List.sum_map_mul_left, neg_add_eq_sub,
    ← sum_map_sub]
  refine congrArg _ (List.map_congr_left fun x _ => ?_)
  rcases (hnn r hr).1.eq_or_lt with hw | hw
  · rw [← hw, zero_mul, zero_mul, zero_mul, sub_zero, zero_mul]
  · rw [mul_logb_div fun hm => by_contra fun hp => (mixCol_pos l hnn r hr x hw hp).ne' hm,
      mul_sub, mul_assoc]

/-- `JSD = Σ w_i KL(p_i ‖ m)`, each KL read as `0` when `w_i = 0` makes it irrelevant. -/
theorem jsd_eq_sum_klVals (n : Nat) (hlen : ∀ r ∈ l, r.1.length = n) :
    jsdVals (Real.logb 2) (l.map Prod.fst) (l.map Prod.snd)
      = (l.map (fun r => r.2 *
          (klVals (Real.logb 2)
            (r.1.zip (mixVals (l.map Prod.fst) (l.map Prod.snd)))).getD 0)).sum := by
  rw [jsd_eq_sum_klSum l hnn n hlen]
  refine congrArg _ (List.map_congr_left fun r hr => ?_)
  rcases (hnn r hr).1.eq_or_lt with h0 | hpos
  · rw [← h0, zero_mul, zero_mul]
  · rw [klVals_of_absCont (absCont_zip_mix l hnn n hlen r hr hpos)]; rfl

theorem klSum_zip_mix_nonneg (n : Nat) (hlen : ∀ r ∈ l, r.1.length = n)
    (hp1 : ∀ r ∈ l, r.1.sum = 1) (hw1 : (l.map Prod.snd).sum = 1)
    (r : List ℝ × ℝ) (hr : r ∈ l) (hw : 0 < r.2) :
    0 ≤ klSum (r.1.zip (mixVals (l.map Prod.fst) (l.map Prod.snd))) := by
  have hne := List.ne_nil_of_mem hr
  have hml : (mixVals (l.map Prod.fst) (l.map Prod.snd)).length = n := by
    rw [mixVals_eq l n hne hlen, List.length_map, List.length_range]
  apply klSum_nonneg _ _ (absCont_zip_mix l hnn n hlen r hr hw)
  · rw [List.map_fst_zip (by rw [hml, hlen r hr]), List.map_snd_zip (by rw [hml, hlen r hr]),
      mixVals_eq l n hne hlen, sum_mixCol l n hlen, hp1 r hr, ← hw1]
    exact (congrArg _ (List.map_congr_left fun r' hr' => by rw [hp1 r' hr', mul_one])).le
  · rw [zip_mix l n hlen r hr]
    intro s hs
    obtain ⟨x, _, rfl⟩ := List.mem_map.mp hs
    exact ⟨getD_nonneg r.1 (hnn r hr).2 x, mixCol_nonneg l hnn x⟩

theorem jsd_nonneg (n : Nat) (hlen : ∀ r ∈ l, r.1.length = n)
    (hp1 : ∀ r ∈ l, r.1.sum = 1) (hw1 : (l.map Prod.snd).sum = 1) :
    0 ≤ jsdVals (Real.logb 2) (l.map Prod.fst) (l.map Prod.snd) := by
  rw [jsd_eq_sum_klSum l hnn n hlen]
  refine sum_map_nonneg _ _ fun r hr => ?_
  rcases (hnn r hr).1.eq_or_lt with h0 | hpos
  · rw [← h0, zero_mul]
  · exact mul_nonneg hpos.le (klSum_zip_mix_nonneg l hnn n hlen hp1 hw1 r hr hpos)

theorem klSum_zip_mix_le (n : Nat) (hlen : ∀ r ∈ l, r.1.length = n)
    (hp1 : ∀ r ∈ l, r.1.sum = 1) (r : List ℝ × ℝ) (hr : r ∈ l) (hw : 0 < r.2) :
    klSum (r.1.zip (mixVals (l.map Prod.fst) (l.map Prod.snd))) ≤ -Real.logb 2 r.2 := by
  rw [klSum_zip_mix l n hlen r hr, ← one_mul (-Real.logb 2 r.2), ← hp1 r hr,
    ← sum_range_getD (hlen r hr), ← List.sum_map_mul_right]
  refine List.sum_le_sum fun x _ => ?_
  rcases eq_or_ne (r.1.getD x 0) 0 with hp | hp
  · rw [hp, zero_mul, zero_mul]
  have hppos : 0 < r.1.getD x 0 := lt_of_le_of_ne (getD_nonneg r.1 (hnn r hr).2 x) hp.symm
  have hm := mixCol_pos l hnn r hr x hw hp
  refine mul_le_mul_of_nonneg_left ?_ hppos.le
  rw [← Real.logb_inv]
  refine Real.logb_le_logb_of_le (by norm_num) (div_pos hppos hm) ?_
  rw [div_le_iff₀ hm, ← div_eq_inv_mul, le_div_iff₀' hw]
  exact le_mixCol l hnn r hr x

theorem jsd_le_entropy (n : Nat) (hlen : ∀ r ∈ l, r.1.length = n) (hp1 : ∀ r ∈ l, r.1.sum = 1) :
    jsdVals (Real.logb 2) (l.map Prod.fst) (l.map Prod.snd)
      ≤ entropyVals (Real.logb 2) (l.map Prod.snd) := by
  rw [jsd_eq_sum_klSum l hnn n hlen, entropyVals_eq_sum, List.map_map, ← sum_map_neg]
  refine List.sum_le_sum fun r hr => ?_
  rcases (hnn r hr).1.eq_or_lt with h0 | hpos
  · rw [Function.comp_apply, ← h0, zero_mul, zero_mul, neg_zero]
  · have := mul_le_mul_of_nonneg_left (klSum_zip_mix_le l hnn n hlen hp1 r hr hpos) hpos.le
    rw [Function.comp_apply]
    linarith

/-- `jsd_le_entropy` with the hypothesis `hne` that the family is non-empty, which is not needed. -/
theorem jsd_le_entropy_weights (n : Nat) (hne : l ≠ []) (hlen : ∀ r ∈ l, r.1.length = n)
    (hp1 : ∀ r ∈ l, r.1.sum = 1) :
    jsdVals (Real.logb 2) (l.map Prod.fst) (l.map Prod.snd)
      ≤ entropyVals (Real.logb 2) (l.map Prod.snd) := by
  have _ := hne  -- not needed
  exact jsd_le_entropy l hnn n hlen hp1

end JSD

/-! ### The power-sum family (Rényi, Tsallis/Hellinger, alpha divergences) -/

section Power

theorem powerSum_guard_iff (r : ℝ × ℝ) :
    (r.1 == 0 || r.2 == 0) = true ↔ ¬(r.1 ≠ 0 ∧ r.2 ≠ 0) := by
  rw [Bool.or_eq_true, beq_iff_eq, beq_iff_eq, not_and_or, not_not, not_not]

theorem powerSum_eq (a b : ℝ) (pq : List (ℝ × ℝ)) :
    powerSum realOps a b pq
      = ((pq.filter (fun r => decide (r.1 ≠ 0 ∧ r.2 ≠ 0))).map
          (fun r => r.1 ^ a * r.2 ^ b)).sum := by
  unfold powerSum
  rw [lsum_eq_sum, ← Dit.Lemmas.InfoAlg.sum_map_filter_of_zero
    (fun r : ℝ × ℝ => decide (r.1 ≠ 0 ∧ r.2 ≠ 0))]
  · exact congrArg _ (List.map_congr_left fun r hr => if_neg
      (mt (powerSum_guard_iff r).1 (not_not.2 (of_decide_eq_true (List.mem_filter.mp hr).2))))
  · exact fun r _ hr => if_pos ((powerSum_guard_iff r).2 (of_decide_eq_false hr))

theorem powerSum_self (a b : ℝ) (hab : a + b = 1) (ps : List ℝ) (hnn : ∀ p ∈ ps, 0 ≤ p) :
    powerSum realOps a b (ps.map (fun p => (p, p))) = ps.sum := by
  unfold powerSum
  rw [lsum_eq_sum, List.map_map]
  conv_rhs => rw [← List.map_id ps]
  refine congrArg _ (List.map_congr_left fun p hp => ?_)
  rcases (hnn p hp).eq_or_lt with rfl | hpos
  · exact if_pos ((powerSum_guard_iff (0, 0)).2 fun h => h.1 rfl)
  · refine (if_neg (mt (powerSum_guard_iff (p, p)).1 (not_not.2 ⟨hpos.ne', hpos.ne'⟩))).trans ?_
    show p ^ a * p ^ b = p
    rw [← Real.rpow_add hpos, hab, Real.rpow_one]

end Power

/-! ### Maximum correlation: the companion matrix -/

section MaxCorr

/-- Column marginal `p_Y(k)`. -/
def colSum (P : List (List ℝ)) (k : Nat) : ℝ := (P.map (fun row => row.getD k 0)).sum

/-- Entry `(j, k)` of `maxcorrCompanion P` (`maxcorrCompanion_getD`), defined for all `j`, `k`. -/
noncomputable def ccEntry (P : List (List ℝ)) (j k : Nat) : ℝ :=
  (P.map (fun row => if row.sum = 0 ∨ colSum P k = 0 then 0
    else row.getD j 0 * row.getD k 0 / (row.sum * colSum P k))).sum

theorem maxcorrCompanion_eq (P : List (List ℝ)) :
    maxcorrCompanion P
      = (List.range (P.head?.getD []).length).map (fun j =>
          (List.range (P.head?.getD []).length).map (fun k => ccEntry P j k)) := by
  unfold maxcorrCompanion
  apply List.map_congr_left
  intro j _
  apply List.map_congr_left
  intro k hk
  have hk' : k < (P.head?.getD []).length := List.mem_range.mp hk
  rw [lsum_eq_sum, zipWith_map_self, getD_range_map _ 0 hk']
  unfold ccEntry colSum
  apply congrArg
  apply List.map_congr_left
  intro row _
  simp only [lsum_eq_sum, Bool.or_eq_true, beq_iff_eq]

theorem maxcorrCompanion_getD (P : List (List ℝ)) (j k : Nat)
    (hj : j < (P.head?.getD []).length) (hk : k < (P.head?.getD []).length) :
    ((maxcorrCompanion P).getD j []).getD k 0 = ccEntry P j k := by
  rw [maxcorrCompanion_eq, getD_range_map _ _ hj, getD_range_map _ 0 hk]

/-- Over `ℝ` the guard is redundant: a quotient by zero is zero. -/
theorem ccEntry_eq_sum (P : List (List ℝ)) (j k : Nat) :
    ccEntry P j k
      = (P.map (fun row => row.getD j 0 * row.getD k 0 / (row.sum * colSum P k))).sum := by
  unfold ccEntry
  refine congrArg _ (List.map_congr_left fun row _ => ite_eq_right_iff.2 fun h => ?_)
  rcases h with h | h
  · rw [h, zero_mul, div_zero]
  · rw [h, mul_zero, div_zero]

theorem ccEntry_nonneg (P : List (List ℝ)) (hnn : ∀ row ∈ P, ∀ x ∈ row, 0 ≤ x) (j k : Nat) :
    0 ≤ ccEntry P j k := by
  rw [ccEntry_eq_sum]
  exact sum_map_nonneg _ _ fun row hrow =>
    div_nonneg (mul_nonneg (getD_nonneg row (hnn row hrow) j) (getD_nonneg row (hnn row hrow) k))
      (mul_nonneg (List.sum_nonneg (hnn row hrow))
        (sum_map_nonneg _ _ fun row' hrow' => getD_nonneg row' (hnn row' hrow') k))

/-- The columns of the companion matrix sum to one: the all-ones row vector is a left
eigenvector for the eigenvalue 1. -/
theorem ccEntry_col_sum (P : List (List ℝ)) (n : Nat) (hlen : ∀ row ∈ P, row.length = n)
    (hnn : ∀ row ∈ P, ∀ x ∈ row, 0 ≤ x) (k : Nat) (hk : colSum P k ≠ 0) :
    ((List.range n).map (fun j => ccEntry P j k)).sum = 1 := by
  have hrow : ∀ row ∈ P, ((List.range n).map (fun j =>
      row.getD j 0 * row.getD k 0 / (row.sum * colSum P k))).sum
        = row.getD k 0 * (colSum P k)⁻¹ := by
    intro row hrow
    simp only [mul_div_assoc]
    rw [List.sum_map_mul_right, sum_range_getD (hlen row hrow), ← div_eq_mul_inv]
    rcases eq_or_ne row.sum 0 with h0 | h0
    · rw [getD_eq_zero_of_sum row (hnn row hrow) h0 k, zero_div, zero_div, mul_zero]
    · rw [← mul_div_assoc, mul_div_mul_left _ _ h0]
  simp only [ccEntry_eq_sum]
  rw [sum_comm, List.map_congr_left hrow, List.sum_map_mul_right]
  exact mul_inv_cancel₀ hk

theorem ccEntry_col_sum_le (P : List (List ℝ)) (n : Nat) (hlen : ∀ row ∈ P, row.length = n)
    (hnn : ∀ row ∈ P, ∀ x ∈ row, 0 ≤ x) (k : Nat) :
    rsum n (fun j => ccEntry P j k) ≤ 1 := by
  by_cases hk : colSum P k = 0
  · have h0 : ∀ j, j < n → ccEntry P j k = 0 := fun j _ => by
      rw [ccEntry_eq_sum, hk]
      simp only [mul_zero, div_zero]
      exact List.sum_map_zero
    rw [rsum_congr n _ _ h0]
    exact List.sum_map_zero.trans_le zero_le_one
  · exact (ccEntry_col_sum P n hlen hnn k hk).le

theorem eigen_abs_le_one (n : Nat) (A : Nat → Nat → ℝ) (hA : ∀ j k, j < n → k < n → 0 ≤ A j k)
    (hcol : ∀ k, k < n → rsum n (fun j => A j k) ≤ 1) (v : Nat → ℝ) (lam : ℝ)
    (hv : ∃ j, j < n ∧ v j ≠ 0)
    (heig : ∀ j, j < n → rsum n (fun k => A j k * v k) = lam * v j) : |lam| ≤ 1 := by
  have hS : 0 < rsum n (fun j => |v j|) := by
    obtain ⟨j, hj, hvj⟩ := hv
    exact lt_of_lt_of_le (abs_pos.mpr hvj) (List.single_le_sum
      (List.forall_mem_map.2 fun _ _ => abs_nonneg _) _
      (List.mem_map_of_mem (f := fun j => |v j|) (List.mem_range.mpr hj)))
  -- `|λ| Σ_j |v_j| ≤ Σ_j Σ_k A[j][k] |v_k|`, as `A ≥ 0`
  have h1 : |lam| * rsum n (fun j => |v j|)
      ≤ rsum n (fun j => rsum n (fun k => A j k * |v k|)) := by
    rw [← rsum_mul_left]
    refine rsum_le n _ _ fun j hj => ?_
    rw [← abs_mul, ← heig j hj]
    refine (abs_sum_map_le _ _).trans_eq (rsum_congr n _ _ fun k hk => ?_)
    rw [abs_mul, abs_of_nonneg (hA j k hj hk)]
  -- `… = Σ_k (Σ_j A[j][k]) |v_k| ≤ Σ_k |v_k|`
  have h2 : rsum n (fun j => rsum n (fun k => A j k * |v k|))
      ≤ 1 * rsum n (fun k => |v k|) := by
    rw [rsum_comm, one_mul]
    refine rsum_le n _ _ fun k hk => ?_
    rw [rsum_mul_right]
    exact mul_le_of_le_one_left (abs_nonneg (v k)) (hcol k hk)
  exact le_of_mul_le_mul_right (h1.trans h2) hS

/-- The outer product `a bᵀ`: the joint pmf of independent variables with marginals `a`, `b`. -/
def outer (a b : List ℝ) : List (List ℝ) := a.map (fun ai => b.map (fun bj => ai * bj))

theorem colSum_outer (a b : List ℝ) (k : Nat) :
    colSum (outer a b) k = a.sum * b.getD k 0 := by
  unfold colSum outer
  rw [List.map_map, ← List.map_id' a, ← List.sum_map_mul_right, List.map_id']
  exact congrArg _ (List.map_congr_left fun ai _ => getD_map_mul ai b k)

theorem ccEntry_outer (a b : List ℝ) (ha : a.sum = 1) (hb : b.sum = 1) (j k : Nat)
    (hk : b.getD k 0 ≠ 0) : ccEntry (outer a b) j k = b.getD j 0 := by
  have hrow : ∀ ai ∈ a, ((fun row : List ℝ =>
      row.getD j 0 * row.getD k 0 / (row.sum * b.getD k 0)) ∘ fun ai => b.map (fun bj => ai * bj)) ai
        = ai * b.getD j 0 := by
    intro ai _
    rw [Function.comp_apply, List.sum_map_mul_left, List.map_id', hb, mul_one, getD_map_mul,
      getD_map_mul]
    rcases eq_or_ne ai 0 with rfl | h0
    · rw [zero_mul, zero_mul, zero_div]
    · exact mul_div_cancel_right₀ _ (mul_ne_zero h0 hk)
  rw [ccEntry_eq_sum, colSum_outer, ha, one_mul]
  unfold outer
  rw [List.map_map, List.map_congr_left hrow, List.sum_map_mul_right, List.map_id', ha, one_mul]

theorem head_outer (a b : List ℝ) (hne : a ≠ []) :
    ((outer a b).head?.getD []).length = b.length := by
  cases a with
  | nil => exact absurd rfl hne
  | cons x t => simp [outer]

end MaxCorr

/-! ### Earth mover's distance: weak duality and the categorical metric -/

section EMD

def mat (n m : Nat) (D : Nat → Nat → ℝ) : List (List ℝ) :=
  (List.range n).map (fun i => (List.range m).map (fun j => D i j))

theorem planCost_mat (n m : Nat) (D π : Nat → Nat → ℝ) :
    planCost (mat n m D) (mat n m π) = rsum n (fun i => rsum m (fun j => D i j * π i j)) := by
  unfold planCost mat rsum
  rw [lsum_eq_sum, zipWith_map_map]
  refine congrArg _ (List.map_congr_left fun i _ => ?_)
  rw [lsum_eq_sum, zipWith_map_map]

/-- **Weak duality** for the transport problem. -/
theorem emd_weak_duality (n m : Nat) (D π : Nat → Nat → ℝ) (p q f g : Nat → ℝ)
    (hπ : ∀ i j, i < n → j < m → 0 ≤ π i j)
    (hrow : ∀ i, i < n → rsum m (fun j => π i j) = p i)
    (hcol : ∀ j, j < m → rsum n (fun i => π i j) = q j)
    (hfg : ∀ i j, i < n → j < m → f i + g j ≤ D i j) :
    rsum n (fun i => f i * p i) + rsum m (fun j => g j * q j)
      ≤ planCost (mat n m D) (mat n m π) := by
  have e1 : rsum n (fun i => f i * p i) = rsum n (fun i => rsum m (fun j => f i * π i j)) :=
    rsum_congr n _ _ fun i hi => by rw [rsum_mul_left, hrow i hi]
  have e2 : rsum m (fun j => g j * q j) = rsum n (fun i => rsum m (fun j => g j * π i j)) := by
    rw [rsum_comm]
    exact rsum_congr m _ _ fun j hj => by rw [rsum_mul_left, hcol j hj]
  rw [planCost_mat, e1, e2, ← rsum_add]
  refine rsum_le n _ _ fun i hi => ?_
  rw [← rsum_add]
  refine rsum_le m _ _ fun j hj => ?_
  rw [← add_mul]
  exact mul_le_mul_of_nonneg_right (hfg i j hi hj) (hπ i j hi hj)

/-- The positive part `x⁺`. -/
noncomputable def pos (x : ℝ) : ℝ := if 0 < x then x else 0

theorem pos_of_nonpos {x : ℝ} (h : x ≤ 0) : pos x = 0 := if_neg (not_lt.2 h)

theorem pos_of_nonneg {x : ℝ} (h : 0 ≤ x) : pos x = x := by
  rcases h.eq_or_lt with rfl | h
  · exact pos_of_nonpos le_rfl
  · exact if_pos h

theorem pos_nonneg (x : ℝ) : 0 ≤ pos x := by
  rcases le_total x 0 with h | h
  · exact (pos_of_nonpos h).ge
  · exact h.trans_eq (pos_of_nonneg h).symm

theorem pos_eq_ite_mul (x : ℝ) : pos x = (if 0 < x then 1 else 0) * x := by
  unfold pos
  split
  · rw [one_mul]
  · rw [zero_mul]

theorem abs_sub_eq_pos (a b : ℝ) : |a - b| = 2 * pos (a - b) - (a - b) := by
  rcases le_total a b with h | h
  · rw [abs_of_nonpos (sub_nonpos.2 h), pos_of_nonpos (sub_nonpos.2 h), mul_zero, zero_sub]
  · rw [abs_of_nonneg (sub_nonneg.2 h), pos_of_nonneg (sub_nonneg.2 h), two_mul,
      add_sub_cancel_right]

theorem pos_sub_pos_swap (a b : ℝ) : pos (a - b) - pos (b - a) = a - b := by
  rcases le_total a b with h | h
  · rw [pos_of_nonpos (sub_nonpos.2 h), pos_of_nonneg (sub_nonneg.2 h), zero_sub, neg_sub]
  · rw [pos_of_nonneg (sub_nonneg.2 h), pos_of_nonpos (sub_nonpos.2 h), sub_zero]

theorem pos_mul_pos_swap (a b : ℝ) : pos (a - b) * pos (b - a) = 0 := by
  rcases le_total a b with h | h
  · rw [pos_of_nonpos (sub_nonpos.2 h), zero_mul]
  · rw [pos_of_nonpos (sub_nonpos.2 h), mul_zero]

theorem min_add_pos (a b : ℝ) : min a b + pos (a - b) = a := by
  rcases le_total a b with h | h
  · rw [pos_of_nonpos (sub_nonpos.2 h), min_eq_left h, add_zero]
  · rw [pos_of_nonneg (sub_nonneg.2 h), min_eq_right h, add_sub_cancel]

theorem tvVals_range (n : Nat) (p q : Nat → ℝ) :
    tvVals 2 ((List.range n).map (fun i => (p i, q i)))
      = rsum n (fun i => pos (p i - q i)) - (rsum n p - rsum n q) / 2 := by
  have : ((List.range n).map ((fun r : ℝ × ℝ => |r.1 - r.2|) ∘ fun i => (p i, q i))).sum
      = rsum n (fun i => 2 * pos (p i - q i) - (p i - q i)) :=
    congrArg _ (List.map_congr_left fun i _ => abs_sub_eq_pos (p i) (q i))
  rw [tvVals_eq, List.map_map, this, rsum_sub, rsum_mul_left, rsum_sub]
  ring

/-- Lower bound for the categorical metric: every feasible plan costs at least the variational
distance, by weak duality with the potentials `f = 1_{p>q}`, `g = −f`. -/
theorem emd_categorical_lower (n : Nat) (π : Nat → Nat → ℝ) (p q : Nat → ℝ)
    (hπ : ∀ i j, i < n → j < n → 0 ≤ π i j)
    (hrow : ∀ i, i < n → rsum n (fun j => π i j) = p i)
    (hcol : ∀ j, j < n → rsum n (fun i => π i j) = q j) :
    tvVals 2 ((List.range n).map (fun i => (p i, q i)))
      ≤ planCost (mat n n (fun i j => if i = j then 0 else 1)) (mat n n π) := by
  have hsum : rsum n p = rsum n q := by
    rw [← rsum_congr n _ _ hrow, ← rsum_congr n _ _ hcol, rsum_comm]
  have hf : ∀ i, 0 ≤ (if 0 < p i - q i then (1 : ℝ) else 0) ∧
      (if 0 < p i - q i then (1 : ℝ) else 0) ≤ 1 := fun i => by
    split <;> norm_num
  refine le_trans (le_of_eq ?_) (emd_weak_duality n n (fun i j => if i = j then 0 else 1) π p q
    (fun i => if 0 < p i - q i then 1 else 0) (fun j => -(if 0 < p j - q j then 1 else 0))
    hπ hrow hcol fun i j _ _ => ?_)
  · rw [tvVals_range, hsum, sub_self, zero_div, sub_zero, ← rsum_add]
    exact rsum_congr n _ _ fun i _ => by rw [pos_eq_ite_mul]; ring
  · rcases eq_or_ne i j with rfl | hij
    · rw [if_pos rfl, add_neg_cancel]
    · rw [if_neg hij]
      linarith [(hf i).2, (hf j).1]

/-- The explicit optimal plan for the categorical metric: keep `min(p_i, q_i)` in place and move
the excess `(p_i − q_i)⁺` to the deficits `(q_j − p_j)⁺` proportionally. -/
noncomputable def catPlan (n : Nat) (p q : Nat → ℝ) (i j : Nat) : ℝ :=
  (if i = j then min (p i) (q i) else 0)
    + pos (p i - q i) * pos (q j - p j) / rsum n (fun k => pos (p k - q k))

theorem rsum_pos_swap (n : Nat) (p q : Nat → ℝ) (hs : rsum n p = rsum n q) :
    rsum n (fun k => pos (q k - p k)) = rsum n (fun k => pos (p k - q k)) := by
  have : rsum n (fun k => pos (p k - q k) - pos (q k - p k)) = rsum n (fun k => p k - q k) :=
    rsum_congr n _ _ fun k _ => pos_sub_pos_swap (p k) (q k)
  rw [rsum_sub, rsum_sub] at this
  linarith

theorem catPlan_nonneg (n : Nat) (p q : Nat → ℝ) (hp : ∀ i, i < n → 0 ≤ p i)
    (hq : ∀ i, i < n → 0 ≤ q i) (i j : Nat) (hi : i < n) : 0 ≤ catPlan n p q i j := by
  unfold catPlan
  apply add_nonneg
  · split
    · exact le_min (hp i hi) (hq i hi)
    · exact le_rfl
  · exact div_nonneg (mul_nonneg (pos_nonneg _) (pos_nonneg _))
      (rsum_nonneg _ _ (fun k _ => pos_nonneg _))

theorem mul_div_self_of (x T : ℝ) (h : T = 0 → x = 0) : x * T / T = x := by
  rcases eq_or_ne T 0 with hT | hT
  · rw [h hT, zero_mul, zero_div]
  · exact mul_div_cancel_right₀ x hT

theorem pos_eq_zero_of_rsum (n : Nat) (f : Nat → ℝ) (h : rsum n (fun k => pos (f k)) = 0)
    (i : Nat) (hi : i < n) : pos (f i) = 0 :=
  (sum_map_eq_zero_iff (List.range n) (fun k => pos (f k)) (fun _ _ => pos_nonneg _)).mp h i
    (List.mem_range.mpr hi)

theorem catPlan_row (n : Nat) (p q : Nat → ℝ) (hs : rsum n p = rsum n q) (i : Nat) (hi : i < n) :
    rsum n (fun j => catPlan n p q i j) = p i := by
  unfold catPlan
  rw [rsum_add, rsum_ite_eq n i hi, rsum_mul_div, rsum_pos_swap n p q hs,
    mul_div_self_of _ _ (fun hT => pos_eq_zero_of_rsum n (fun k => p k - q k) hT i hi)]
  exact min_add_pos _ _

theorem catPlan_col (n : Nat) (p q : Nat → ℝ) (hs : rsum n p = rsum n q) (j : Nat) (hj : j < n) :
    rsum n (fun i => catPlan n p q i j) = q j := by
  unfold catPlan
  simp only [mul_comm (pos (p _ - q _))]
  rw [rsum_add, rsum_ite_eq' n j hj (fun i => min (p i) (q i)), rsum_mul_div,
    mul_div_self_of _ _ (fun hT => pos_eq_zero_of_rsum n (fun k => q k - p k)
      (by rw [rsum_pos_swap n p q hs]; exact hT) j hj), min_comm]
  exact min_add_pos _ _

theorem catPlan_cost (n : Nat) (p q : Nat → ℝ) (hs : rsum n p = rsum n q) :
    planCost (mat n n (fun i j => if i = j then 0 else 1)) (mat n n (catPlan n p q))
      = tvVals 2 ((List.range n).map (fun i => (p i, q i))) := by
  rw [planCost_mat, tvVals_range, hs, sub_self, zero_div, sub_zero]
  refine rsum_congr n _ _ fun i hi => ?_
  -- off the diagonal the plan is the proportional part, whose diagonal entry vanishes
  have : ∀ j, j < n → (if i = j then (0 : ℝ) else 1) * catPlan n p q i j
      = pos (p i - q i) * pos (q j - p j) / rsum n (fun k => pos (p k - q k)) := by
    intro j _
    unfold catPlan
    rcases eq_or_ne i j with rfl | h
    · rw [if_pos rfl, zero_mul, pos_mul_pos_swap, zero_div]
    · rw [if_neg h, if_neg h, one_mul, zero_add]
  rw [rsum_congr n _ _ this, rsum_mul_div, rsum_pos_swap n p q hs,
    mul_div_self_of _ _ (fun hT => pos_eq_zero_of_rsum n (fun k => p k - q k) hT i hi)]

end EMD

/-! ### Pinsker's inequality

Termwise, `3 (p − q)² ≤ (4q + 2p) · klExcess p q`; with `t = p/q` this is `pinG t ≥ 0`, which holds
because `pinG` and its derivative `pinG1` vanish at `1` and the second derivative `pinG2` is
non-negative. Cauchy–Schwarz over the list then gives `3 (Σ|p − q|)² ≤ (Σ (4q + 2p)) · Σ klExcess`. -/

section Pinsker

noncomputable def pinG (t : ℝ) : ℝ := (2 * t + 4) * (t * Real.log t - t + 1) - 3 * (t - 1) ^ 2
noncomputable def pinG1 (t : ℝ) : ℝ := 4 * ((t + 1) * Real.log t - 2 * (t - 1))
noncomputable def pinG2 (t : ℝ) : ℝ := 4 * (Real.log t - (1 - t⁻¹))

theorem hasDerivAt_mul_log {t : ℝ} (ht : t ≠ 0) :
    HasDerivAt (fun t => t * Real.log t) (Real.log t + 1) t := by
  have := (hasDerivAt_id t).mul (Real.hasDerivAt_log ht)
  rwa [id, one_mul, mul_inv_cancel₀ ht] at this

theorem hasDerivAt_pinG {t : ℝ} (ht : t ≠ 0) : HasDerivAt pinG (pinG1 t) t := by
  have hid := hasDerivAt_id t
  have h := (((hid.const_mul 2).add_const 4).mul
    (((hasDerivAt_mul_log ht).sub hid).add_const 1)).sub (((hid.sub_const 1).pow 2).const_mul 3)
  exact h.congr_deriv (by unfold pinG1; simp only [id, Pi.sub_apply]; ring)

theorem hasDerivAt_pinG1 {t : ℝ} (ht : t ≠ 0) : HasDerivAt pinG1 (pinG2 t) t := by
  have hid := hasDerivAt_id t
  have h := (((hid.add_const 1).mul (Real.hasDerivAt_log ht)).sub
    ((hid.sub_const 1).const_mul 2)).const_mul 4
  exact h.congr_deriv (by unfold pinG2; simp only [id]; rw [add_mul, mul_inv_cancel₀ ht]; ring)

theorem pinG2_nonneg {t : ℝ} (ht : 0 < t) : 0 ≤ pinG2 t :=
  mul_nonneg (by norm_num) (sub_nonneg.2 (Real.one_sub_inv_le_log_of_pos ht))

theorem pinG1_one : pinG1 1 = 0 := by simp [pinG1]

theorem pinG_one : pinG 1 = 0 := by simp [pinG]

theorem pinG1_monotoneOn : MonotoneOn pinG1 (Set.Ioi 0) :=
  monotoneOn_of_hasDerivWithinAt_nonneg (convex_Ioi 0)
    (fun _ hx => (hasDerivAt_pinG1 (ne_of_gt hx)).continuousAt.continuousWithinAt)
    (fun _ hx => (hasDerivAt_pinG1 (ne_of_gt (interior_subset hx))).hasDerivWithinAt)
    (fun _ hx => pinG2_nonneg (interior_subset hx))

/-- `pinG` decreases on `(0, 1]` and increases on `[1, ∞)`, as `pinG1` changes sign at `1`. -/
theorem pinG_nonneg {t : ℝ} (ht : 0 < t) : 0 ≤ pinG t := by
  have hcont : ∀ x, 0 < x → ContinuousAt pinG x := fun x hx =>
    (hasDerivAt_pinG hx.ne').continuousAt
  rw [← pinG_one]
  rcases le_total t 1 with h1 | h1
  · refine antitoneOn_of_hasDerivWithinAt_nonpos (convex_Ioc 0 1)
      (fun x hx => (hcont x hx.1).continuousWithinAt)
      (fun x hx => (hasDerivAt_pinG (interior_subset hx).1.ne').hasDerivWithinAt)
      (fun x hx => ?_) ⟨ht, h1⟩ ⟨one_pos, le_rfl⟩ h1
    rw [← pinG1_one]
    exact pinG1_monotoneOn (interior_subset hx).1 (Set.mem_Ioi.2 one_pos) (interior_subset hx).2
  · refine monotoneOn_of_hasDerivWithinAt_nonneg (convex_Ici 1)
      (fun x hx => (hcont x (one_pos.trans_le hx)).continuousWithinAt)
      (fun x hx => (hasDerivAt_pinG (one_pos.trans_le (interior_subset hx)).ne').hasDerivWithinAt)
      (fun x hx => ?_) (Set.mem_Ici.2 le_rfl) h1 h1
    rw [← pinG1_one]
    exact pinG1_monotoneOn (Set.mem_Ioi.2 one_pos) (one_pos.trans_le (interior_subset hx))
      (interior_subset hx)

theorem pinsker_term (p q : ℝ) (hp : 0 ≤ p) (hq : 0 ≤ q) (hac : q = 0 → p = 0) :
    3 * (p - q) ^ 2 ≤ (4 * q + 2 * p) * klExcess p q := by
  unfold klExcess
  rcases hp.eq_or_lt with rfl | hp
  · rw [zero_mul]
    linarith [sq_nonneg q]
  · have hq : 0 < q := lt_of_le_of_ne hq fun e => hp.ne' (hac e.symm)
    obtain ⟨t, ht, rfl⟩ : ∃ t, 0 < t ∧ p = t * q :=
      ⟨p / q, div_pos hp hq, (div_mul_cancel₀ p hq.ne').symm⟩
    rw [mul_div_cancel_right₀ t hq.ne']
    refine sub_nonneg.1 ((mul_nonneg (sq_nonneg q) (pinG_nonneg ht)).trans_eq ?_)
    unfold pinG
    ring

/-- One step of Cauchy–Schwarz, via `2cuX ≤ aB + Ab`, which holds as
`(2cuX)² ≤ 4·ab·AB ≤ (aB + Ab)²`. -/
theorem cs_step (c u X a A b B : ℝ) (hc : 0 ≤ c) (ha : 0 ≤ a) (hA : 0 ≤ A) (hb : 0 ≤ b)
    (hB : 0 ≤ B) (h1 : c * u ^ 2 ≤ a * b) (h2 : c * X ^ 2 ≤ A * B) :
    c * (u + X) ^ 2 ≤ (a + A) * (b + B) := by
  have h3 : (2 * (c * (u * X))) ^ 2 ≤ (a * B + A * b) ^ 2 := by
    have := mul_le_mul h1 h2 (mul_nonneg hc (sq_nonneg X)) (mul_nonneg ha hb)
    linarith [sq_nonneg (a * B - A * b)]
  have h4 := abs_le_of_sq_le_sq' h3 (add_nonneg (mul_nonneg ha hB) (mul_nonneg hA hb))
  linarith [h4.2]

theorem cs_list {β : Type} (c : ℝ) (hc : 0 ≤ c) (l : List β) (x a b : β → ℝ)
    (ha : ∀ r ∈ l, 0 ≤ a r) (hb : ∀ r ∈ l, 0 ≤ b r) (h : ∀ r ∈ l, c * (x r) ^ 2 ≤ a r * b r) :
    c * ((l.map (fun r => |x r|)).sum) ^ 2 ≤ (l.map a).sum * (l.map b).sum := by
  induction l with
  | nil => simp
  | cons r t ih =>
    rw [List.forall_mem_cons] at ha hb h
    simp only [List.map_cons, List.sum_cons]
    exact cs_step c _ _ _ _ _ _ hc ha.1 (sum_map_nonneg _ _ ha.2) hb.1 (sum_map_nonneg _ _ hb.2)
      ((congrArg (c * ·) (sq_abs _)).trans_le h.1) (ih ha.2 hb.2 h.2)

/-- **Pinsker**: `2 TV² ≤ ln 2 · KL_bits` for probability vectors. -/
theorem pinsker_list (pq : List (ℝ × ℝ)) (hnn : ∀ r ∈ pq, 0 ≤ r.1 ∧ 0 ≤ r.2)
    (hac : absCont pq = true) (hp : (pq.map Prod.fst).sum = 1) (hq : (pq.map Prod.snd).sum = 1) :
    2 * (tvVals 2 pq) ^ 2 ≤ Real.log 2 * klSum pq := by
  have hcs := cs_list 3 zero_le_three pq (fun r => r.1 - r.2) (fun r => 4 * r.2 + 2 * r.1)
    (fun r => klExcess r.1 r.2)
    (fun r hr => add_nonneg (mul_nonneg zero_le_four (hnn r hr).2)
      (mul_nonneg zero_le_two (hnn r hr).1))
    (kl_excess_term_nonneg pq hnn hac)
    (fun r hr => pinsker_term r.1 r.2 (hnn r hr).1 (hnn r hr).2 ((absCont_iff pq).mp hac r hr))
  rw [← kl_excess, List.sum_map_add, List.sum_map_mul_left pq Prod.snd,
    List.sum_map_mul_left pq Prod.fst, hp, hq, sub_self, sub_zero] at hcs
  rw [tvVals_eq]
  linarith

end Pinsker

end Dit.Lemmas.Diverge
