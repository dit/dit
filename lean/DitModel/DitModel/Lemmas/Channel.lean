/-
Helper lemmas for C13 (channel capacity and rate–distortion, `Core/Channel.lean`) over `ℝ` with
`log := Real.logb 2`, `exp2 := fun x => 2 ^ x`.

Every Core quantity is rewritten as a double sum over `Finset.range n × Finset.range m` of the
entries `ent P x y = (P.getD x []).getD y 0`; the inequalities are proved for sums over arbitrary
`Finset`s and then read back on lists.
-/
import DitModel.Core.Channel
import DitModel.Lemmas.Table
import DitModel.Lemmas.ListSums
import DitModel.Lemmas.InfoReal
import Mathlib.Analysis.SpecialFunctions.Log.Base
import Mathlib.Analysis.SpecialFunctions.Pow.Real
import Mathlib.Algebra.BigOperators.Group.Finset.Basic
import Mathlib.Algebra.Order.BigOperators.Ring.Finset
import Mathlib.Tactic.Linarith
import Mathlib.Tactic.Ring
import Mathlib.Tactic.FieldSimp
import Mathlib.Tactic.Positivity
import Mathlib.Tactic.NormNum
import Mathlib.Tactic.IntervalCases
import Mathlib.Tactic.LinearCombination

namespace Dit.Lemmas.Channel
open Dit Dit.Lemmas.Table Dit.Lemmas.ListBasics Finset

/-! ### Entries, laws, channels -/

/-- Entry `x` of a vector (0 outside). -/
def vec (r : List ℝ) (x : ℕ) : ℝ := r.getD x 0
/-- Entry `(x, y)` of a matrix given as a list of rows (0 outside). -/
def ent (P : List (List ℝ)) (x y : ℕ) : ℝ := vec (P.getD x []) y

/-- `r` is a probability vector of length `n`. -/
structure IsLaw (r : List ℝ) (n : ℕ) : Prop where
  len : r.length = n
  nonneg : ∀ a ∈ r, 0 ≤ a
  sum_one : r.sum = 1

/-- `d` is an `n × m` matrix. -/
structure IsMat (d : List (List ℝ)) (n m : ℕ) : Prop where
  len : d.length = n
  row : ∀ row ∈ d, row.length = m

/-- `P` is an `n × m` row-stochastic matrix (a channel with `n` input and `m` output letters). -/
structure IsChannel (P : List (List ℝ)) (n m : ℕ) : Prop where
  len : P.length = n
  row : ∀ row ∈ P, IsLaw row m

theorem IsChannel.isMat {P : List (List ℝ)} {n m : ℕ} (h : IsChannel P n m) : IsMat P n m :=
  ⟨h.len, fun row hr => (h.row row hr).len⟩

/-! ### Lists as range sums -/

theorem sum_zipWith_range {β γ : Type} (f : β → γ → ℝ) (d1 : β) (d2 : γ) (l1 : List β)
    (l2 : List γ) (n : ℕ) (h1 : l1.length = n) (h2 : l2.length = n) :
    (List.zipWith f l1 l2).sum = ∑ i ∈ range n, f (l1.getD i d1) (l2.getD i d2) := by
  induction l1 generalizing l2 n with
  | nil => subst h1; rfl
  | cons a l1 ih =>
    cases l2 with
    | nil => subst h2; cases h1
    | cons b l2 =>
      subst h1
      rw [List.zipWith_cons_cons, List.sum_cons, List.length_cons, sum_range_succ', add_comm,
        ih l2 _ rfl (Nat.succ_injective h2)]
      rfl

theorem sum_map_range {β : Type} (f : β → ℝ) (d : β) (l : List β) (n : ℕ) (h : l.length = n) :
    (l.map f).sum = ∑ i ∈ range n, f (l.getD i d) := by
  rw [← sum_zipWith_range (fun a (_ : β) => f a) d d l l n h h, List.zipWith_self]

theorem sum_eq_sum_vec (r : List ℝ) (n : ℕ) (h : r.length = n) :
    r.sum = ∑ x ∈ range n, vec r x := by
  have := sum_map_range id 0 r n h
  rwa [List.map_id] at this

theorem vec_range_map (k : ℕ) (g : ℕ → ℝ) (y : ℕ) (hy : y < k) :
    vec ((List.range k).map g) y = g y :=
  getD_range_map g 0 hy

theorem vec_of_le (r : List ℝ) (x : ℕ) (h : r.length ≤ x) : vec r x = 0 := by
  rw [vec, List.getD_eq_getElem?_getD, List.getElem?_eq_none h]; rfl

theorem ent_of_length_le (P : List (List ℝ)) (x y : ℕ) (h : P.length ≤ x) : ent P x y = 0 := by
  rw [ent, List.getD_eq_getElem?_getD, List.getElem?_eq_none h]; rfl

theorem ent_range_map (n m : ℕ) (f : ℕ → ℕ → ℝ) (x y : ℕ) (hx : x < n) (hy : y < m) :
    ent ((List.range n).map fun i => (List.range m).map (f i)) x y = f x y := by
  rw [ent, getD_map _ _ 0 [] (i := x) (by rw [List.length_range]; exact hx), vec_range_map m _ y hy]
  simp [List.getD_eq_getElem?_getD, hx]

theorem isMat_range_map (n m : ℕ) (f : ℕ → ℕ → ℝ) :
    IsMat ((List.range n).map fun i => (List.range m).map (f i)) n m := by
  refine ⟨by rw [List.length_map, List.length_range], fun row hrow => ?_⟩
  obtain ⟨i, _, rfl⟩ := List.mem_map.mp hrow
  rw [List.length_map, List.length_range]

theorem IsLaw.vec_nonneg {r : List ℝ} {n : ℕ} (h : IsLaw r n) (x : ℕ) : 0 ≤ vec r x := by
  by_cases hx : x < r.length
  · exact h.nonneg _ (ListBasics.getD_mem hx 0)
  · rw [vec_of_le r x (by omega)]

theorem IsLaw.sum_vec {r : List ℝ} {n : ℕ} (h : IsLaw r n) : ∑ x ∈ range n, vec r x = 1 := by
  rw [← sum_eq_sum_vec r n h.len, h.sum_one]

theorem IsLaw.pos_len {r : List ℝ} {n : ℕ} (h : IsLaw r n) : 0 < n := by
  rcases Nat.eq_zero_or_pos n with h0 | h0
  · have := h.sum_vec; rw [h0] at this; simp at this
  · exact h0

theorem IsMat.row_len {P : List (List ℝ)} {n m : ℕ} (h : IsMat P n m) {x : ℕ} (hx : x < n) :
    (P.getD x []).length = m :=
  h.row _ (ListBasics.getD_mem (i := x) (by rw [h.len]; exact hx) [])

theorem ent_of_le (P : List (List ℝ)) (n m : ℕ) (hP : IsMat P n m) (x y : ℕ) (hy : m ≤ y) :
    ent P x y = 0 := by
  by_cases hx : x < n
  · exact vec_of_le _ _ (by rw [hP.row_len hx]; exact hy)
  · exact ent_of_length_le P x y (by rw [hP.len]; omega)

theorem IsChannel.row_law {P : List (List ℝ)} {n m : ℕ} (h : IsChannel P n m) {x : ℕ}
    (hx : x < n) : IsLaw (P.getD x []) m :=
  h.row _ (ListBasics.getD_mem (i := x) (by rw [h.len]; exact hx) [])

theorem IsChannel.ent_nonneg {P : List (List ℝ)} {n m : ℕ} (h : IsChannel P n m) (x y : ℕ) :
    0 ≤ ent P x y := by
  by_cases hx : x < n
  · exact (h.row_law hx).vec_nonneg y
  · rw [ent_of_length_le P x y (by rw [h.len]; omega)]

theorem IsChannel.sum_ent {P : List (List ℝ)} {n m : ℕ} (h : IsChannel P n m) {x : ℕ}
    (hx : x < n) : ∑ y ∈ range m, ent P x y = 1 :=
  (h.row_law hx).sum_vec

/-! ### Unfolding the Core definitions into range sums -/

/-- The guards `x == 0 ↦ 0` of the Core sums agree with `0 * _ = 0`. -/
theorem ite_beq_zero_mul (a c : ℝ) : (if a == 0 then 0 else a * c) = a * c := by
  by_cases h : a = 0 <;> simp [h]

theorem klRow_eq (p q : List ℝ) (m : ℕ) (hp : p.length = m) (hq : q.length = m) :
    klRow (Real.logb 2) p q = ∑ y ∈ range m, vec p y * Real.logb 2 (vec p y / vec q y) := by
  unfold klRow
  rw [lsum_eq_sum, sum_zipWith_range _ 0 0 p q m hp hq]
  exact sum_congr rfl (fun y _ => ite_beq_zero_mul _ _)

theorem outputLaw_eq (r : List ℝ) (P : List (List ℝ)) (n m : ℕ) (hr : r.length = n)
    (hP : IsMat P n m) (hn : 0 < n) :
    outputLaw r P = (List.range m).map (fun y => ∑ x ∈ range n, vec r x * ent P x y) := by
  cases P with
  | nil => rw [← hP.len] at hn; cases hn
  | cons row P' =>
    rw [outputLaw, hP.row row List.mem_cons_self]
    apply List.map_congr_left
    intro y _
    rw [lsum_eq_sum, sum_zipWith_range _ 0 [] r (row :: P') n hr hP.len]
    rfl

theorem outputLaw_length (r : List ℝ) (P : List (List ℝ)) (n m : ℕ) (hP : IsMat P n m)
    (hn : 0 < n) : (outputLaw r P).length = m := by
  cases P with
  | nil => rw [← hP.len] at hn; cases hn
  | cons row P' => simp [outputLaw, hP.row row List.mem_cons_self]

theorem vec_outputLaw (r : List ℝ) (P : List (List ℝ)) (n m : ℕ) (hr : r.length = n)
    (hP : IsMat P n m) (y : ℕ) :
    vec (outputLaw r P) y = ∑ x ∈ range n, vec r x * ent P x y := by
  rcases Nat.eq_zero_or_pos n with rfl | hn
  · rw [List.eq_nil_of_length_eq_zero hP.len]; rfl
  rw [outputLaw_eq r P n m hr hP hn]
  by_cases hy : y < m
  · exact vec_range_map m _ y hy
  · rw [vec_of_le _ _ (by simpa using hy)]
    exact (sum_eq_zero fun x _ => by rw [ent_of_le P n m hP x y (by omega), mul_zero]).symm

theorem channelMI_eq (r : List ℝ) (P : List (List ℝ)) (n m : ℕ) (hr : r.length = n)
    (hP : IsMat P n m) :
    channelMI (Real.logb 2) r P = ∑ x ∈ range n, vec r x *
      ∑ y ∈ range m, ent P x y * Real.logb 2 (ent P x y / vec (outputLaw r P) y) := by
  unfold channelMI
  rw [lsum_eq_sum, sum_zipWith_range _ 0 [] r P n hr hP.len]
  apply sum_congr rfl
  intro x hx
  have hx' : x < n := mem_range.mp hx
  rw [klRow_eq _ _ m (hP.row_len hx') (outputLaw_length r P n m hP (by omega))]
  rfl

theorem klRows_getD (P : List (List ℝ)) (q : List ℝ) (n m : ℕ) (hP : IsMat P n m)
    (hq : q.length = m) (x : ℕ) (hx : x < n) :
    (P.map (fun px => klRow (Real.logb 2) px q)).getD x 0
      = ∑ y ∈ range m, ent P x y * Real.logb 2 (ent P x y / vec q y) := by
  rw [getD_map _ P [] 0 (i := x) (by rw [hP.len]; exact hx), klRow_eq _ _ m (hP.row_len hx) hq]
  rfl

/-! ### `lmaxOf` is the greatest element -/

section Max

theorem lmaxOf_ge (l : List ℝ) : ∀ a ∈ l, a ≤ lmaxOf l := by
  cases l with
  | nil => simp
  | cons x t => exact (foldl_max_spec t x).2

theorem lmaxOf_mem (l : List ℝ) (h : l ≠ []) : lmaxOf l ∈ l := by
  cases l with
  | nil => exact absurd rfl h
  | cons x t => exact (foldl_max_spec t x).1

theorem lmaxOf_le (l : List ℝ) (h : l ≠ []) (C : ℝ) (hC : ∀ a ∈ l, a ≤ C) : lmaxOf l ≤ C :=
  hC _ (lmaxOf_mem l h)

theorem getD_le_lmaxOf (l : List ℝ) (x : ℕ) (hx : x < l.length) : l.getD x 0 ≤ lmaxOf l :=
  lmaxOf_ge l _ (ListBasics.getD_mem hx 0)

end Max

/-! ### The finitary core: capacity -/

section Core
variable {ι κ : Type}

theorem gibbs_prod (s : Finset ι) (t : Finset κ) (a b : ι → κ → ℝ)
    (ha : ∀ x ∈ s, ∀ y ∈ t, 0 ≤ a x y) (hb : ∀ x ∈ s, ∀ y ∈ t, 0 ≤ b x y)
    (hsum : ∑ x ∈ s, ∑ y ∈ t, b x y ≤ ∑ x ∈ s, ∑ y ∈ t, a x y)
    (hdom : ∀ x ∈ s, ∀ y ∈ t, b x y = 0 → a x y = 0) :
    0 ≤ ∑ x ∈ s, ∑ y ∈ t, a x y * Real.logb 2 (a x y / b x y) := by
  rw [← sum_product' s t fun x y => a x y * Real.logb 2 (a x y / b x y)]
  rw [← sum_product' s t a, ← sum_product' s t b] at hsum
  exact Lemmas.InfoReal.gibbs (s ×ˢ t) (fun z => a z.1 z.2) (fun z => b z.1 z.2)
    (fun z hz => ha _ (mem_product.mp hz).1 _ (mem_product.mp hz).2)
    (fun z hz => hb _ (mem_product.mp hz).1 _ (mem_product.mp hz).2) hsum
    (fun z hz => hdom _ (mem_product.mp hz).1 _ (mem_product.mp hz).2)

theorem golden_term (r P q q' : ℝ) (hr : 0 ≤ r) (hP : 0 ≤ P) (hq : r * P ≤ q)
    (hq' : r ≠ 0 → q' = 0 → P = 0) :
    r * (P * Real.logb 2 (P / q')) - r * (P * Real.logb 2 (P / q))
      = r * P * Real.logb 2 (q / q') := by
  by_cases h1 : r = 0
  · simp only [h1, zero_mul, sub_zero]
  by_cases h2 : P = 0
  · simp only [h2, zero_mul, mul_zero, sub_zero]
  have hrpos : 0 < r := lt_of_le_of_ne hr (Ne.symm h1)
  have hPpos : 0 < P := lt_of_le_of_ne hP (Ne.symm h2)
  have hqpos : 0 < q := lt_of_lt_of_le (mul_pos hrpos hPpos) hq
  have hq'ne : q' ≠ 0 := fun h => h2 (hq' h1 h)
  rw [Real.logb_div h2 hq'ne, Real.logb_div h2 hqpos.ne', Real.logb_div hqpos.ne' hq'ne]
  ring

/-- The golden formula: `Σ_x r_x D(P_x‖q') − I(r;P) = D(rP‖q')`. -/
theorem golden (s : Finset ι) (t : Finset κ) (r : ι → ℝ) (P : ι → κ → ℝ) (q' : κ → ℝ)
    (hr : ∀ x ∈ s, 0 ≤ r x) (hP : ∀ x ∈ s, ∀ y ∈ t, 0 ≤ P x y)
    (hdom : ∀ x ∈ s, r x ≠ 0 → ∀ y ∈ t, q' y = 0 → P x y = 0) :
    ∑ x ∈ s, r x * ∑ y ∈ t, P x y * Real.logb 2 (P x y / q' y)
      - ∑ x ∈ s, r x * ∑ y ∈ t, P x y * Real.logb 2 (P x y / ∑ x' ∈ s, r x' * P x' y)
      = ∑ y ∈ t, (∑ x ∈ s, r x * P x y) * Real.logb 2 ((∑ x ∈ s, r x * P x y) / q' y) := by
  simp only [mul_sum, sum_mul]
  rw [← sum_sub_distrib, sum_comm]
  apply sum_congr rfl
  intro x hx
  rw [← sum_sub_distrib]
  apply sum_congr rfl
  intro y hy
  apply golden_term _ _ _ _ (hr x hx) (hP x hx y hy) _ (fun h => hdom x hx h y hy)
  exact single_le_sum (f := fun x' => r x' * P x' y)
    (fun x' hx' => mul_nonneg (hr x' hx') (hP x' hx' y hy)) hx

/-- `I(r;P) ≤ Σ_x r_x D(P_x‖q')` for every sub-probability `q'` dominating the used rows. -/
theorem mi_le_cross (s : Finset ι) (t : Finset κ) (r : ι → ℝ) (P : ι → κ → ℝ) (q' : κ → ℝ)
    (hr : ∀ x ∈ s, 0 ≤ r x) (hP : ∀ x ∈ s, ∀ y ∈ t, 0 ≤ P x y)
    (hq' : ∀ y ∈ t, 0 ≤ q' y)
    (hsum : ∑ y ∈ t, q' y ≤ ∑ y ∈ t, ∑ x ∈ s, r x * P x y)
    (hdom : ∀ x ∈ s, r x ≠ 0 → ∀ y ∈ t, q' y = 0 → P x y = 0) :
    ∑ x ∈ s, r x * ∑ y ∈ t, P x y * Real.logb 2 (P x y / ∑ x' ∈ s, r x' * P x' y)
      ≤ ∑ x ∈ s, r x * ∑ y ∈ t, P x y * Real.logb 2 (P x y / q' y) := by
  rw [← sub_nonneg, golden s t r P q' hr hP hdom]
  exact Lemmas.InfoReal.gibbs t (fun y => ∑ x ∈ s, r x * P x y) q'
    (fun y hy => sum_nonneg (fun x hx => mul_nonneg (hr x hx) (hP x hx y hy))) hq' hsum
    (fun y hy h0 => sum_eq_zero (fun x hx => by
      by_cases h1 : r x = 0
      · rw [h1, zero_mul]
      · rw [hdom x hx h1 y hy h0, mul_zero]))

theorem mean_le (s : Finset ι) (r a : ι → ℝ) (C : ℝ) (hr : ∀ x ∈ s, 0 ≤ r x)
    (hs : ∑ x ∈ s, r x = 1) (ha : ∀ x ∈ s, a x ≤ C) : ∑ x ∈ s, r x * a x ≤ C := by
  calc ∑ x ∈ s, r x * a x ≤ ∑ x ∈ s, r x * C :=
        sum_le_sum (fun x hx => mul_le_mul_of_nonneg_left (ha x hx) (hr x hx))
    _ = C := by rw [← sum_mul, hs, one_mul]

theorem weighted_pos (s : Finset ι) (p a : ι → ℝ) (hp : ∀ x ∈ s, 0 ≤ p x)
    (hs : ∑ x ∈ s, p x = 1) (ha : ∀ x ∈ s, 0 < a x) : 0 < ∑ x ∈ s, p x * a x := by
  obtain ⟨x, hx, hpx⟩ : ∃ x ∈ s, 0 < p x :=
    exists_lt_of_sum_lt (by rw [sum_const_zero, hs]; exact one_pos)
  exact sum_pos' (fun x hx => mul_nonneg (hp x hx) (ha x hx).le) ⟨x, hx, mul_pos hpx (ha x hx)⟩

theorem sum_out (s : Finset ι) (t : Finset κ) (r : ι → ℝ) (P : ι → κ → ℝ)
    (hrow : ∀ x ∈ s, ∑ y ∈ t, P x y = 1) :
    ∑ y ∈ t, ∑ x ∈ s, r x * P x y = ∑ x ∈ s, r x := by
  rw [sum_comm]
  apply sum_congr rfl
  intro x hx
  rw [← mul_sum, hrow x hx, mul_one]

theorem eq_zero_of_sum_mul_eq_zero (s : Finset ι) (r P : ι → ℝ) (hr : ∀ x ∈ s, 0 ≤ r x)
    (hP : ∀ x ∈ s, 0 ≤ P x) (h0 : ∑ x ∈ s, r x * P x = 0) {x : ι} (hx : x ∈ s) (hrx : r x ≠ 0) :
    P x = 0 :=
  (mul_eq_zero.mp ((sum_eq_zero_iff_of_nonneg fun x hx => mul_nonneg (hr x hx) (hP x hx)).mp
    h0 x hx)).resolve_left hrx

theorem mi_nonneg (s : Finset ι) (t : Finset κ) (r : ι → ℝ) (P : ι → κ → ℝ)
    (hr : ∀ x ∈ s, 0 ≤ r x) (hs : ∑ x ∈ s, r x ≤ 1) (hP : ∀ x ∈ s, ∀ y ∈ t, 0 ≤ P x y)
    (hrow : ∀ x ∈ s, ∑ y ∈ t, P x y = 1) :
    0 ≤ ∑ x ∈ s, r x * ∑ y ∈ t, P x y * Real.logb 2 (P x y / ∑ x' ∈ s, r x' * P x' y) := by
  apply sum_nonneg
  intro x hx
  by_cases h1 : r x = 0
  · rw [h1, zero_mul]
  apply mul_nonneg (hr x hx)
  apply Lemmas.InfoReal.gibbs t (P x) (fun y => ∑ x' ∈ s, r x' * P x' y) (hP x hx)
    (fun y hy => sum_nonneg (fun x' hx' => mul_nonneg (hr x' hx') (hP x' hx' y hy)))
  · rw [sum_out s t r P hrow, hrow x hx]; exact hs
  · exact fun y hy h0 =>
      eq_zero_of_sum_mul_eq_zero s r (P · y) hr (fun x' hx' => hP x' hx' y hy) h0 hx h1

end Core

/-! ### The finitary core: rate–distortion -/

section RD
variable {ι κ : Type}

theorem tilt_term (w q c β dd : ℝ) (hc : 0 < c) (hdom : q = 0 → w = 0) :
    w * Real.logb 2 (w / (c * (2 : ℝ) ^ (-(β * dd)) * q))
      = w * (Real.logb 2 (w / q) + β * dd) - w * Real.logb 2 c := by
  by_cases h1 : w = 0
  · simp only [h1, zero_mul, sub_zero]
  have hq : q ≠ 0 := fun h => h1 (hdom h)
  have h2 := (Real.rpow_pos_of_pos two_pos (-(β * dd))).ne'
  rw [Real.logb_div h1 (mul_ne_zero (mul_ne_zero hc.ne' h2) hq),
    Real.logb_mul (mul_ne_zero hc.ne' h2) hq, Real.logb_mul hc.ne' h2,
    Real.logb_rpow two_pos (by norm_num), Real.logb_div h1 hq]
  ring

theorem rd_term (p W q lam β d : ℝ) (hp : 0 ≤ p) (hW : 0 ≤ W) (hq : p * W ≤ q) (hlam : 0 < lam) :
    (p * W) * Real.logb 2 (p * W / (p * lam * (2 : ℝ) ^ (-(β * d)) * q))
      = p * (W * Real.logb 2 (W / q)) - p * W * Real.logb 2 lam + β * (p * W * d) := by
  rcases hp.eq_or_lt with rfl | hp
  · simp only [zero_mul, mul_zero, sub_zero, add_zero]
  rw [mul_assoc p lam, mul_assoc p (lam * _), mul_div_mul_left _ _ hp.ne', mul_assoc p W,
    tilt_term W q lam β d hlam fun h => le_antisymm (nonpos_of_mul_nonpos_right (h ▸ hq) hp) hW]
  ring

theorem rd_row (t : Finset κ) (p lam β : ℝ) (W d q : κ → ℝ) (hp : 0 ≤ p)
    (hW : ∀ y ∈ t, 0 ≤ W y) (hq : ∀ y ∈ t, p * W y ≤ q y) (hlam : 0 < lam)
    (hrow : ∑ y ∈ t, W y = 1) :
    ∑ y ∈ t, (p * W y) * Real.logb 2 (p * W y / (p * lam * (2 : ℝ) ^ (-(β * d y)) * q y))
      = p * ∑ y ∈ t, W y * Real.logb 2 (W y / q y) - p * Real.logb 2 lam
        + β * ∑ y ∈ t, p * W y * d y := by
  rw [sum_congr rfl fun y hy => rd_term p (W y) (q y) lam β (d y) hp (hW y hy) (hq y hy) hlam,
    sum_add_distrib, sum_sub_distrib, ← mul_sum, ← sum_mul, ← mul_sum t W p, hrow, mul_one,
    ← mul_sum]

/-- Csiszár / Berger lower bound for the rate–distortion Lagrangian. -/
theorem rd_core (s : Finset ι) (t : Finset κ) (p : ι → ℝ) (W d : ι → κ → ℝ) (lam : ι → ℝ)
    (β : ℝ) (hp : ∀ x ∈ s, 0 ≤ p x)
    (hW : ∀ x ∈ s, ∀ y ∈ t, 0 ≤ W x y) (hrow : ∀ x ∈ s, ∑ y ∈ t, W x y = 1)
    (hlam : ∀ x ∈ s, 0 < lam x)
    (hc : ∀ y ∈ t, ∑ x ∈ s, p x * lam x * (2 : ℝ) ^ (-(β * d x y)) ≤ 1) :
    ∑ x ∈ s, p x * Real.logb 2 (lam x)
      ≤ ∑ x ∈ s, p x * ∑ y ∈ t, W x y * Real.logb 2 (W x y / ∑ x' ∈ s, p x' * W x' y)
        + β * ∑ x ∈ s, ∑ y ∈ t, p x * W x y * d x y := by
  set q : κ → ℝ := fun y => ∑ x' ∈ s, p x' * W x' y
  have hpW : ∀ x ∈ s, ∀ y ∈ t, 0 ≤ p x * W x y := fun x hx y hy =>
    mul_nonneg (hp x hx) (hW x hx y hy)
  have hqnn : ∀ y ∈ t, 0 ≤ q y := fun y hy => sum_nonneg fun x hx => hpW x hx y hy
  have hle : ∀ x ∈ s, ∀ y ∈ t, p x * W x y ≤ q y := fun x hx y hy =>
    single_le_sum (f := fun x' => p x' * W x' y) (fun x' hx' => hpW x' hx' y hy) hx
  have h2pos : ∀ e : ℝ, 0 < (2 : ℝ) ^ e := fun e => Real.rpow_pos_of_pos two_pos _
  rw [← sub_nonneg, add_sub_right_comm]
  -- Gibbs' inequality between the joint `p_x W_xy` and the sub-probability `p_x λ_x 2^{−β d_xy} q_y`
  calc 0 ≤ ∑ x ∈ s, ∑ y ∈ t, (p x * W x y) * Real.logb 2
          (p x * W x y / (p x * lam x * (2 : ℝ) ^ (-(β * d x y)) * q y)) := by
        refine gibbs_prod s t (fun x y => p x * W x y)
          (fun x y => p x * lam x * (2 : ℝ) ^ (-(β * d x y)) * q y) hpW
          (fun x hx y hy => mul_nonneg (mul_nonneg (mul_nonneg (hp x hx) (hlam x hx).le)
            (h2pos _).le) (hqnn y hy)) ?_ ?_
        · rw [sum_comm]
          refine (sum_le_sum fun y hy => ?_).trans_eq sum_comm
          rw [← sum_mul]
          exact mul_le_of_le_one_left (hqnn y hy) (hc y hy)
        · intro x hx y hy h0
          rcases mul_eq_zero.mp h0 with h | h
          · rw [(mul_eq_zero.mp ((mul_eq_zero.mp h).resolve_right (h2pos _).ne')).resolve_right
              (hlam x hx).ne', zero_mul]
          · exact le_antisymm (h ▸ hle x hx y hy) (hpW x hx y hy)
    _ = ∑ x ∈ s, (p x * ∑ y ∈ t, W x y * Real.logb 2 (W x y / q y) - p x * Real.logb 2 (lam x)
          + β * ∑ y ∈ t, p x * W x y * d x y) :=
        sum_congr rfl fun x hx =>
          rd_row t (p x) (lam x) β (W x) (d x) q (hp x hx) (hW x hx) (hle x hx) (hlam x hx)
            (hrow x hx)
    _ = _ := by rw [sum_add_distrib, sum_sub_distrib, ← mul_sum]
end RD

/-! ### List-level consequences: capacity -/

section ListCap

theorem isLaw_of_vec (q : List ℝ) (m : ℕ) (hl : q.length = m) (hnn : ∀ y < m, 0 ≤ vec q y)
    (hs : ∑ y ∈ range m, vec q y = 1) : IsLaw q m := by
  refine ⟨hl, ?_, by rw [sum_eq_sum_vec q m hl, hs]⟩
  intro a ha
  obtain ⟨i, hi, rfl⟩ := List.mem_iff_getElem.mp ha
  simpa [vec, hi] using hnn i (hl ▸ hi)

theorem outputLaw_isLaw (r : List ℝ) (P : List (List ℝ)) (n m : ℕ) (hr : IsLaw r n)
    (hP : IsChannel P n m) : IsLaw (outputLaw r P) m := by
  apply isLaw_of_vec _ _ (outputLaw_length r P n m hP.isMat hr.pos_len)
  · intro y _
    rw [vec_outputLaw r P n m hr.len hP.isMat]
    exact sum_nonneg (fun x _ => mul_nonneg (hr.vec_nonneg x) (hP.ent_nonneg x y))
  · simp only [vec_outputLaw r P n m hr.len hP.isMat]
    rw [sum_out (range n) (range m) (vec r) (ent P) (fun x hx => hP.sum_ent (mem_range.mp hx))]
    exact hr.sum_vec

/-- Where the output law vanishes, so does every row with positive weight. -/
theorem ent_eq_zero_of_outputLaw_eq_zero (r : List ℝ) (P : List (List ℝ)) (n m : ℕ)
    (hr : IsLaw r n) (hP : IsChannel P n m) {x y : ℕ} (hx : x < n) (hrx : vec r x ≠ 0)
    (h0 : vec (outputLaw r P) y = 0) : ent P x y = 0 := by
  rw [vec_outputLaw r P n m hr.len hP.isMat] at h0
  exact eq_zero_of_sum_mul_eq_zero (range n) (vec r) (ent P · y) (fun x' _ => hr.vec_nonneg x')
    (fun x' _ => hP.ent_nonneg x' y) h0 (mem_range.mpr hx) hrx

/-- `channelMI` is the `r`-weighted mean of the list of row divergences against `rP`. -/
theorem channelMI_eq_rows (r : List ℝ) (P : List (List ℝ)) (n m : ℕ) (hr : r.length = n)
    (hP : IsMat P n m) :
    channelMI (Real.logb 2) r P = ∑ x ∈ range n, vec r x *
      (P.map (fun px => klRow (Real.logb 2) px (outputLaw r P))).getD x 0 := by
  rw [channelMI_eq r P n m hr hP]
  apply sum_congr rfl
  intro x hx
  have hx' : x < n := mem_range.mp hx
  rw [klRows_getD P _ n m hP (outputLaw_length r P n m hP (by omega)) x hx']

theorem mean_le_lmaxOf (r : List ℝ) (l : List ℝ) (n : ℕ) (hr : IsLaw r n) (hl : l.length = n) :
    ∑ x ∈ range n, vec r x * l.getD x 0 ≤ lmaxOf l :=
  mean_le (range n) (vec r) (fun x => l.getD x 0) _ (fun x _ => hr.vec_nonneg x) hr.sum_vec
    (fun x hx => getD_le_lmaxOf l x (by rw [hl]; exact mem_range.mp hx))

/-- `I(r';P) ≤ Σ_x r'_x D(P_x‖q')` for a law `q'` that dominates the rows of positive weight. -/
theorem channelMI_le_sum_kl (P : List (List ℝ)) (n m : ℕ) (hP : IsChannel P n m)
    (q' : List ℝ) (hq' : IsLaw q' m) (r' : List ℝ) (hr' : IsLaw r' n)
    (hdom : ∀ x < n, vec r' x ≠ 0 → ∀ y < m, vec q' y = 0 → ent P x y = 0) :
    channelMI (Real.logb 2) r' P ≤ ∑ x ∈ range n, vec r' x *
      ∑ y ∈ range m, ent P x y * Real.logb 2 (ent P x y / vec q' y) := by
  rw [channelMI_eq r' P n m hr'.len hP.isMat]
  simp only [vec_outputLaw r' P n m hr'.len hP.isMat]
  exact mi_le_cross (range n) (range m) (vec r') (ent P) (vec q')
    (fun x _ => hr'.vec_nonneg x) (fun x _ y _ => hP.ent_nonneg x y)
    (fun y _ => hq'.vec_nonneg y)
    (by
      rw [sum_out (range n) (range m) (vec r') (ent P)
        (fun x hx => hP.sum_ent (mem_range.mp hx)), hr'.sum_vec, hq'.sum_vec])
    (fun x hx hne y hy => hdom x (mem_range.mp hx) hne y (mem_range.mp hy))

theorem channelMI_le_cross (P : List (List ℝ)) (n m : ℕ) (hP : IsChannel P n m)
    (q' : List ℝ) (hq' : IsLaw q' m)
    (hdom : ∀ x < n, ∀ y < m, vec q' y = 0 → ent P x y = 0)
    (r' : List ℝ) (hr' : IsLaw r' n) :
    channelMI (Real.logb 2) r' P ≤ ∑ x ∈ range n, vec r' x *
      (P.map (fun px => klRow (Real.logb 2) px q')).getD x 0 :=
  (channelMI_le_sum_kl P n m hP q' hq' r' hr' fun x hx _ => hdom x hx).trans_eq <|
    sum_congr rfl fun x hx => by rw [klRows_getD P q' n m hP.isMat hq'.len x (mem_range.mp hx)]

end ListCap

/-! ### Joint matrices, marginals, distortion -/

section Joint

theorem vec_rowSums (Q : List (List ℝ)) (n m : ℕ) (hQ : IsMat Q n m) (x : ℕ) (hx : x < n) :
    vec (rowSums Q) x = ∑ y ∈ range m, ent Q x y := by
  rw [rowSums, vec, getD_map _ Q [] 0 (i := x) (by rw [hQ.len]; exact hx), lsum_eq_sum,
    sum_eq_sum_vec _ m (hQ.row_len hx)]
  rfl

theorem colSums_eq (Q : List (List ℝ)) (n m : ℕ) (hQ : IsMat Q n m) (hn : 0 < n) :
    colSums Q = (List.range m).map (fun y => ∑ x ∈ range n, ent Q x y) := by
  cases Q with
  | nil => rw [← hQ.len] at hn; cases hn
  | cons row Q' =>
    rw [colSums, hQ.row row List.mem_cons_self]
    apply List.map_congr_left
    intro y _
    rw [lsum_eq_sum, sum_map_range _ [] _ n hQ.len]
    rfl

theorem vec_colSums (Q : List (List ℝ)) (n m : ℕ) (hQ : IsMat Q n m) (y : ℕ) (hy : y < m) :
    vec (colSums Q) y = ∑ x ∈ range n, ent Q x y := by
  rcases Nat.eq_zero_or_pos n with rfl | hn
  · rw [List.eq_nil_of_length_eq_zero hQ.len]; rfl
  · rw [colSums_eq Q n m hQ hn, vec_range_map m _ y hy]

theorem jointMI_eq (Q : List (List ℝ)) (n m : ℕ) (hQ : IsMat Q n m) :
    jointMI (Real.logb 2) Q = ∑ x ∈ range n, ∑ y ∈ range m,
      ent Q x y * Real.logb 2 (ent Q x y / (vec (rowSums Q) x * vec (colSums Q) y)) := by
  unfold jointMI
  simp only
  rw [lsum_eq_sum, sum_zipWith_range _ [] 0 Q (rowSums Q) n hQ.len (by simp [rowSums, hQ.len])]
  apply sum_congr rfl
  intro x hx
  have hx' : x < n := mem_range.mp hx
  rw [lsum_eq_sum, sum_zipWith_range _ 0 0 _ _ m (hQ.row_len hx')
    (by rw [colSums_eq Q n m hQ (by omega), List.length_map, List.length_range])]
  exact sum_congr rfl (fun y _ => ite_beq_zero_mul _ _)

theorem expDistortion_eq (Q d : List (List ℝ)) (n m : ℕ) (hQ : IsMat Q n m) (hd : IsMat d n m) :
    expDistortion Q d = ∑ x ∈ range n, ∑ y ∈ range m, ent Q x y * ent d x y := by
  unfold expDistortion
  rw [lsum_eq_sum, sum_zipWith_range _ [] [] Q d n hQ.len hd.len]
  apply sum_congr rfl
  intro x hx
  have hx' : x < n := mem_range.mp hx
  rw [lsum_eq_sum, sum_zipWith_range _ 0 0 _ _ m (hQ.row_len hx') (hd.row_len hx')]
  rfl

/-- The joint matrix `Q_xy = p_x W_xy` of a source and a test channel. -/
def jointOf (p : List ℝ) (W : List (List ℝ)) : List (List ℝ) :=
  List.zipWith (fun px row => row.map (px * ·)) p W

theorem jointOf_isMat (p : List ℝ) (W : List (List ℝ)) (n m : ℕ) (hp : p.length = n)
    (hW : IsMat W n m) : IsMat (jointOf p W) n m := by
  refine ⟨by simp [jointOf, hp, hW.len], ?_⟩
  intro row hrow
  obtain ⟨i, hi, rfl⟩ := List.mem_iff_getElem.mp hrow
  simp only [jointOf, List.getElem_zipWith, List.length_map]
  exact hW.row _ (List.getElem_mem _)

theorem ent_jointOf (p : List ℝ) (W : List (List ℝ)) (n m : ℕ) (hp : p.length = n)
    (hW : IsMat W n m) (x y : ℕ) (hx : x < n) (hy : y < m) :
    ent (jointOf p W) x y = vec p x * ent W x y := by
  have hxp : x < p.length := by omega
  have hxW : x < W.length := by rw [hW.len]; exact hx
  have hyW : y < W[x].length := by rw [hW.row _ (List.getElem_mem hxW)]; exact hy
  simp [ent, vec, jointOf, List.getD_eq_getElem?_getD, hxp, hxW, hyW]

end Joint

/-! ### `jointMI` of `Q_xy = p_x W_xy` is `channelMI p W`; the rate–distortion bound on lists -/

section RDList

theorem row_sum_ent (W : List (List ℝ)) (n m : ℕ) (hW : IsMat W n m)
    (hs : ∀ row ∈ W, row.sum = 1) (x : ℕ) (hx : x < n) : ∑ y ∈ range m, ent W x y = 1 :=
  (sum_eq_sum_vec _ m (hW.row_len hx)).symm.trans
    (hs _ (ListBasics.getD_mem (i := x) (by rw [hW.len]; exact hx) []))

theorem jointMI_eq_channelMI (p : List ℝ) (W Q : List (List ℝ)) (n m : ℕ) (hp : p.length = n)
    (hW : IsMat W n m) (hWs : ∀ row ∈ W, row.sum = 1) (hQ : IsMat Q n m)
    (hQe : ∀ x < n, ∀ y < m, ent Q x y = vec p x * ent W x y) :
    jointMI (Real.logb 2) Q = channelMI (Real.logb 2) p W := by
  rw [jointMI_eq Q n m hQ, channelMI_eq p W n m hp hW]
  apply sum_congr rfl
  intro x hx
  have hx' : x < n := mem_range.mp hx
  rw [mul_sum]
  apply sum_congr rfl
  intro y hy
  have hy' : y < m := mem_range.mp hy
  have hrow : ∑ y' ∈ range m, ent Q x y' = vec p x := by
    rw [sum_congr rfl (fun y' hy' => hQe x hx' y' (mem_range.mp hy')), ← mul_sum,
      row_sum_ent W n m hW hWs x hx', mul_one]
  have hcol : ∑ x' ∈ range n, ent Q x' y = ∑ x' ∈ range n, vec p x' * ent W x' y :=
    sum_congr rfl (fun x' hx'' => hQe x' (mem_range.mp hx'') y hy')
  rw [vec_rowSums Q n m hQ x hx', vec_colSums Q n m hQ y hy', vec_outputLaw p W n m hp hW,
    hrow, hcol, hQe x hx' y hy']
  by_cases h : vec p x = 0
  · simp [h]
  · rw [mul_div_mul_left _ _ h, mul_assoc]

theorem rowSums_eq (p : List ℝ) (W Q : List (List ℝ)) (n m : ℕ) (hp : p.length = n)
    (hW : IsMat W n m) (hWs : ∀ row ∈ W, row.sum = 1) (hQ : IsMat Q n m)
    (hQe : ∀ x < n, ∀ y < m, ent Q x y = vec p x * ent W x y) : rowSums Q = p := by
  apply List.ext_getElem
  · simp [rowSums, hQ.len, hp]
  · intro x h1 h2
    have hx : x < n := by omega
    have e1 := vec_rowSums Q n m hQ x hx
    rw [sum_congr rfl (fun y' hy' => hQe x hx y' (mem_range.mp hy')), ← mul_sum,
      row_sum_ent W n m hW hWs x hx, mul_one] at e1
    simpa [vec, List.getD_eq_getElem?_getD, List.getElem?_eq_getElem h1,
      List.getElem?_eq_getElem h2] using e1

theorem colSums_getD (p : List ℝ) (W Q : List (List ℝ)) (n m : ℕ) (hp : p.length = n)
    (hW : IsMat W n m) (hQ : IsMat Q n m)
    (hQe : ∀ x < n, ∀ y < m, ent Q x y = vec p x * ent W x y) (y : ℕ) (hy : y < m) :
    vec (colSums Q) y = vec (outputLaw p W) y := by
  rw [vec_colSums Q n m hQ y hy, vec_outputLaw p W n m hp hW]
  exact sum_congr rfl (fun x' hx'' => hQe x' (mem_range.mp hx'') y hy)

/-- The Csiszár / Berger bound in terms of the Core quantities, multipliers as a function. -/
theorem rd_dual_fn (p : List ℝ) (W d Q : List (List ℝ)) (lam : ℕ → ℝ) (β : ℝ) (n m : ℕ)
    (hp : IsLaw p n) (hW : IsChannel W n m) (hd : IsMat d n m) (hQ : IsMat Q n m)
    (hQe : ∀ x < n, ∀ y < m, ent Q x y = vec p x * ent W x y)
    (hlam : ∀ x < n, 0 < lam x)
    (hc : ∀ y < m, ∑ x ∈ range n, vec p x * lam x * (2 : ℝ) ^ (-(β * ent d x y)) ≤ 1) :
    ∑ x ∈ range n, vec p x * Real.logb 2 (lam x)
      ≤ jointMI (Real.logb 2) Q + β * expDistortion Q d := by
  have hWs : ∀ row ∈ W, row.sum = 1 := fun row hr => (hW.row row hr).sum_one
  rw [jointMI_eq_channelMI p W Q n m hp.len hW.isMat hWs hQ hQe,
    channelMI_eq p W n m hp.len hW.isMat, expDistortion_eq Q d n m hQ hd,
    sum_congr rfl fun x hx => sum_congr rfl fun y hy =>
      congrArg (· * ent d x y) (hQe x (mem_range.mp hx) y (mem_range.mp hy))]
  simp only [vec_outputLaw p W n m hp.len hW.isMat]
  exact rd_core (range n) (range m) (vec p) (ent W) (ent d) lam β
    (fun x _ => hp.vec_nonneg x) (fun x _ y _ => hW.ent_nonneg x y)
    (fun x hx => hW.sum_ent (mem_range.mp hx)) (fun x hx => hlam x (mem_range.mp hx))
    (fun y hy => hc y (mem_range.mp hy))

/-- The multiplier used by `rdLowerBound`: `λ_x = 1 / Σ_y q_y 2^{−β d_xy}`. -/
noncomputable def lamOf (β : ℝ) (q : List ℝ) (d : List (List ℝ)) (m x : ℕ) : ℝ :=
  1 / ∑ y ∈ range m, vec q y * (2 : ℝ) ^ (-(β * ent d x y))

/-- The column constraint values `c_y = Σ_x p_x λ_x 2^{−β d_xy}`. -/
noncomputable def cOf (β : ℝ) (p q : List ℝ) (d : List (List ℝ)) (n m y : ℕ) : ℝ :=
  ∑ x ∈ range n, vec p x * lamOf β q d m x * (2 : ℝ) ^ (-(β * ent d x y))

theorem rdLowerBound_eq (β : ℝ) (p q : List ℝ) (d : List (List ℝ)) (n m : ℕ)
    (hp : p.length = n) (hq : q.length = m) (hd : IsMat d n m) :
    rdLowerBound (Real.logb 2) (fun x => (2 : ℝ) ^ x) β p q d
      = ∑ x ∈ range n, vec p x * Real.logb 2 (lamOf β q d m x)
        - Real.logb 2 (lmaxOf ((List.range m).map (cOf β p q d n m))) := by
  unfold rdLowerBound
  simp only
  set L : List ℝ := d.map (fun dr => 1 / lsum (List.zipWith
    (fun qy dxy => qy * (2 : ℝ) ^ (-(β * dxy))) q dr)) with hL
  have hLlen : L.length = n := by rw [hL, List.length_map, hd.len]
  have hLx : ∀ x < n, L.getD x 0 = lamOf β q d m x := fun x hx => by
    rw [hL, getD_map _ d [] 0 (i := x) (by rw [hd.len]; exact hx), lsum_eq_sum,
      sum_zipWith_range _ 0 0 q _ m hq (hd.row_len hx)]
    rfl
  congr 1
  · rw [lsum_eq_sum, sum_zipWith_range _ 0 0 p L n hp hLlen]
    exact sum_congr rfl fun x hx => by rw [ite_beq_zero_mul, hLx x (mem_range.mp hx)]; rfl
  · rw [hq]
    refine congrArg (fun l => Real.logb 2 (lmaxOf l)) (List.map_congr_left fun y _ => ?_)
    rw [lsum_eq_sum, sum_zipWith_range _ 0 (0, []) p (L.zip d) n hp
      (by rw [List.length_zip, hLlen, hd.len, min_self])]
    apply sum_congr rfl
    intro x hx
    have hz : (L.zip d).getD x (0, []) = (L.getD x 0, d.getD x []) := by
      have hx' := mem_range.mp hx
      simp [List.getD_eq_getElem?_getD, hLlen, hd.len, hx']
    rw [hz, hLx x (mem_range.mp hx)]
    rfl

theorem lamOf_pos (β : ℝ) (q : List ℝ) (d : List (List ℝ)) (m x : ℕ) (hm : 0 < m)
    (hq : ∀ y < m, 0 < vec q y) : 0 < lamOf β q d m x :=
  one_div_pos.mpr (sum_pos
    (fun y hy => mul_pos (hq y (mem_range.mp hy)) (Real.rpow_pos_of_pos two_pos _))
    ⟨0, mem_range.mpr hm⟩)

end RDList

/-! ### Positive entries -/

section Pos

theorem zipWith_pos {β γ : Type} (f : β → γ → ℝ) (hf : ∀ a b, 0 < f a b) (l1 : List β)
    (l2 : List γ) : ∀ a ∈ List.zipWith f l1 l2, 0 < a := by
  induction l1 generalizing l2 with
  | nil => simp
  | cons a l1 ih =>
    cases l2 with
    | nil => simp
    | cons b l2 =>
      intro c hc
      rw [List.zipWith_cons_cons] at hc
      rcases List.mem_cons.mp hc with rfl | hc
      · exact hf a b
      · exact ih l2 c hc

theorem vec_pos_of_mem {r : List ℝ} {n : ℕ} (hl : r.length = n) (h : ∀ a ∈ r, 0 < a) :
    ∀ x < n, 0 < vec r x :=
  fun _ hx => h _ (ListBasics.getD_mem (hx.trans_eq hl.symm) 0)

theorem vec_pair_pos {a b : ℝ} (ha : 0 < a) (hb : 0 < b) : ∀ x < 2, 0 < vec [a, b] x :=
  vec_pos_of_mem rfl (List.forall_mem_cons.2 ⟨ha, List.forall_mem_singleton.2 hb⟩)

end Pos

/-! ### Closed forms: concrete channels -/

section Closed

theorem klRow_of_ent (P : List (List ℝ)) (q : List ℝ) (n m : ℕ) (hP : IsMat P n m)
    (hq : q.length = m) (C : ℝ)
    (h : ∀ x < n, ∑ y ∈ range m, ent P x y * Real.logb 2 (ent P x y / vec q y) = C) :
    ∀ px ∈ P, klRow (Real.logb 2) px q = C := by
  intro px hpx
  obtain ⟨i, hi, rfl⟩ := List.mem_iff_getElem.mp hpx
  have hi' : i < n := by rw [← hP.len]; exact hi
  have := klRows_getD P q n m hP hq i hi'
  rw [h i hi'] at this
  simpa [List.getD_eq_getElem?_getD, hi] using this

theorem isLaw_pair (a b : ℝ) (ha : 0 ≤ a) (hb : 0 ≤ b) (hab : a + b = 1) : IsLaw [a, b] 2 := by
  refine ⟨rfl, fun x hx => ?_, by rw [List.sum_cons, List.sum_cons, List.sum_nil, add_zero, hab]⟩
  rcases List.mem_pair.mp hx with rfl | rfl <;> assumption

theorem isLaw_pair_div (a b c : ℝ) (ha : 0 ≤ a) (hb : 0 ≤ b) (hc : 0 < c) (h : a + b = c) :
    IsLaw [a / c, b / c] 2 :=
  isLaw_pair _ _ (div_nonneg ha hc.le) (div_nonneg hb hc.le)
    (by rw [← add_div, h, div_self hc.ne'])

theorem isLaw_triple (a b c : ℝ) (ha : 0 ≤ a) (hb : 0 ≤ b) (hc : 0 ≤ c) (h : a + b + c = 1) :
    IsLaw [a, b, c] 3 := by
  refine ⟨rfl, fun x hx => ?_, by
    rw [List.sum_cons, List.sum_cons, List.sum_cons, List.sum_nil, add_zero, ← add_assoc, h]⟩
  simp only [List.mem_cons, List.not_mem_nil, or_false] at hx
  rcases hx with rfl | rfl | rfl <;> assumption

theorem isChannel_pair (r₁ r₂ : List ℝ) (m : ℕ) (h₁ : IsLaw r₁ m) (h₂ : IsLaw r₂ m) :
    IsChannel [r₁, r₂] 2 m :=
  ⟨rfl, by simp [h₁, h₂]⟩

theorem half_law : IsLaw [(1 : ℝ) / 2, 1 / 2] 2 :=
  isLaw_pair _ _ one_half_pos.le one_half_pos.le (add_halves 1)

theorem half_pos : ∀ x < 2, 0 < vec [(1 : ℝ) / 2, 1 / 2] x :=
  vec_pair_pos one_half_pos one_half_pos

theorem term_half (a : ℝ) : a * Real.logb 2 (a / (1 / 2)) = a * Real.logb 2 a + a := by
  by_cases h : a = 0
  · simp [h]
  · rw [Real.logb_div h (by norm_num), one_div, Real.logb_inv,
      Real.logb_self_eq_one (by norm_num)]
    ring

theorem term_self (a : ℝ) : a * Real.logb 2 (a / a) = 0 := by
  by_cases h : a = 0
  · simp [h]
  · rw [div_self h, Real.logb_one, mul_zero]

theorem term_double (a : ℝ) : a * Real.logb 2 (a / (a / 2)) = a := by
  by_cases h : a = 0
  · simp [h]
  · rw [div_div_cancel₀ h, Real.logb_self_eq_one (by norm_num), mul_one]

/-- The binary symmetric channel with crossover probability `e`. -/
def bsc (e : ℝ) : List (List ℝ) := [[1 - e, e], [e, 1 - e]]

theorem bsc_isChannel (e : ℝ) (h0 : 0 ≤ e) (h1 : e ≤ 1) : IsChannel (bsc e) 2 2 :=
  isChannel_pair _ _ 2 (isLaw_pair _ _ (sub_nonneg.mpr h1) h0 (sub_add_cancel 1 e))
    (isLaw_pair _ _ h0 (sub_nonneg.mpr h1) (add_sub_cancel e 1))

theorem bsc_quarter : IsChannel (bsc (1 / 4)) 2 2 := bsc_isChannel _ (by norm_num) (by norm_num)

theorem bsc_out (e : ℝ) : outputLaw [(1 : ℝ) / 2, 1 / 2] (bsc e) = [1 / 2, 1 / 2] := by
  have h : outputLaw [(1 : ℝ) / 2, 1 / 2] (bsc e)
      = [0 + 1 / 2 * (1 - e) + 1 / 2 * e, 0 + 1 / 2 * e + 1 / 2 * (1 - e)] := rfl
  rw [h]
  congr 1
  · ring
  · congr 1; ring

theorem klRow_half (a b : ℝ) : klRow (Real.logb 2) [a, b] [1 / 2, 1 / 2]
    = a * Real.logb 2 a + b * Real.logb 2 b + (a + b) := by
  simp only [klRow, lsum, List.zipWith_cons_cons, List.zipWith_nil_right, List.foldl_cons,
    List.foldl_nil, ite_beq_zero_mul]
  rw [term_half, term_half]; ring

theorem entropy_two (a b : ℝ) :
    entropyVals (Real.logb 2) [a, b] = -(a * Real.logb 2 a + b * Real.logb 2 b) := by
  simp only [entropyVals, plogp, lsum, List.map_cons, List.map_nil, List.foldl_cons,
    List.foldl_nil, ite_beq_zero_mul]
  ring

theorem bsc_rows (e : ℝ) : ∀ px ∈ bsc e, klRow (Real.logb 2) px
    (outputLaw [(1 : ℝ) / 2, 1 / 2] (bsc e)) = 1 - entropyVals (Real.logb 2) [e, 1 - e] := by
  intro px hpx
  rw [bsc_out, entropy_two]
  simp [bsc] at hpx
  rcases hpx with rfl | rfl
  · rw [klRow_half]; ring
  · rw [klRow_half]; ring

/-- The binary erasure channel with erasure probability `ε` (outputs `0, erased, 1`). -/
def bec (ε : ℝ) : List (List ℝ) := [[1 - ε, ε, 0], [0, ε, 1 - ε]]

theorem bec_isChannel (ε : ℝ) (h0 : 0 ≤ ε) (h1 : ε ≤ 1) : IsChannel (bec ε) 2 3 :=
  isChannel_pair _ _ 3
    (isLaw_triple _ _ _ (sub_nonneg.mpr h1) h0 le_rfl (by rw [add_zero, sub_add_cancel]))
    (isLaw_triple _ _ _ le_rfl h0 (sub_nonneg.mpr h1) (by rw [zero_add, add_sub_cancel]))

theorem bec_out (ε : ℝ) :
    outputLaw [(1 : ℝ) / 2, 1 / 2] (bec ε) = [(1 - ε) / 2, ε, (1 - ε) / 2] := by
  have h : outputLaw [(1 : ℝ) / 2, 1 / 2] (bec ε)
      = [0 + 1 / 2 * (1 - ε) + 1 / 2 * 0, 0 + 1 / 2 * ε + 1 / 2 * ε,
         0 + 1 / 2 * 0 + 1 / 2 * (1 - ε)] := rfl
  rw [h]
  congr 1
  · ring
  · congr 1
    · ring
    · congr 1; ring

theorem bec_rows (ε : ℝ) : ∀ px ∈ bec ε, klRow (Real.logb 2) px
    (outputLaw [(1 : ℝ) / 2, 1 / 2] (bec ε)) = 1 - ε := by
  intro px hpx
  rw [bec_out]
  simp [bec] at hpx
  rcases hpx with rfl | rfl
  · simp only [klRow, lsum, List.zipWith_cons_cons, List.zipWith_nil_right, List.foldl_cons,
      List.foldl_nil, ite_beq_zero_mul]
    rw [term_double, term_self]; ring
  · simp only [klRow, lsum, List.zipWith_cons_cons, List.zipWith_nil_right, List.foldl_cons,
      List.foldl_nil, ite_beq_zero_mul]
    rw [term_double, term_self]; ring

/-- The identity (noiseless) channel on `n` letters. -/
def identityChannel (n : ℕ) : List (List ℝ) :=
  (List.range n).map (fun i => (List.range n).map (fun j => if i = j then (1 : ℝ) else 0))

/-- The uniform law on `n` letters. -/
noncomputable def uniformLaw (n : ℕ) : List ℝ := List.replicate n (1 / (n : ℝ))

theorem uniformLaw_isLaw (n : ℕ) (hn : 0 < n) : IsLaw (uniformLaw n) n := by
  refine ⟨by simp [uniformLaw], ?_, ?_⟩
  · intro a ha
    rw [uniformLaw, List.mem_replicate] at ha
    rw [ha.2]; positivity
  · have : (n : ℝ) ≠ 0 := by positivity
    simp [uniformLaw, List.sum_replicate, this]

theorem vec_uniformLaw (n x : ℕ) (hx : x < n) : vec (uniformLaw n) x = 1 / (n : ℝ) := by
  simp [vec, uniformLaw, List.getD_eq_getElem?_getD, hx]

theorem ent_identity (n x y : ℕ) (hx : x < n) (hy : y < n) :
    ent (identityChannel n) x y = if x = y then 1 else 0 :=
  ent_range_map n n _ x y hx hy

theorem identity_isChannel (n : ℕ) : IsChannel (identityChannel n) n n := by
  refine ⟨by simp [identityChannel], ?_⟩
  intro row hrow
  obtain ⟨i, hi, rfl⟩ := List.mem_map.mp hrow
  have hi' : i < n := List.mem_range.mp hi
  apply isLaw_of_vec _ _ (by simp)
  · intro y hy
    rw [vec_range_map n _ y hy]; split <;> norm_num
  · rw [sum_congr rfl (fun y hy => vec_range_map n _ y (mem_range.mp hy))]
    rw [sum_ite_eq]; simp [hi']

theorem vec_out_identity (n y : ℕ) (hn : 0 < n) (hy : y < n) :
    vec (outputLaw (uniformLaw n) (identityChannel n)) y = 1 / (n : ℝ) := by
  rw [vec_outputLaw _ _ n n (uniformLaw_isLaw n hn).len (identity_isChannel n).isMat]
  have : ∀ x ∈ range n, vec (uniformLaw n) x * ent (identityChannel n) x y
      = if x = y then 1 / (n : ℝ) else 0 := by
    intro x hx
    rw [vec_uniformLaw n x (mem_range.mp hx), ent_identity n x y (mem_range.mp hx) hy]
    split <;> simp
  rw [sum_congr rfl this, sum_ite_eq']; simp [hy]

theorem noiseless_rows (n : ℕ) (hn : 0 < n) :
    ∀ px ∈ identityChannel n, klRow (Real.logb 2) px
      (outputLaw (uniformLaw n) (identityChannel n)) = Real.logb 2 n := by
  apply klRow_of_ent _ _ n n (identity_isChannel n).isMat
    (outputLaw_length _ _ n n (identity_isChannel n).isMat hn)
  intro x hx
  have : ∀ y ∈ range n, ent (identityChannel n) x y * Real.logb 2
      (ent (identityChannel n) x y / vec (outputLaw (uniformLaw n) (identityChannel n)) y)
      = if x = y then Real.logb 2 n else 0 := by
    intro y hy
    rw [ent_identity n x y hx (mem_range.mp hy), vec_out_identity n y hn (mem_range.mp hy)]
    split
    · simp
    · simp
  rw [sum_congr rfl this, sum_ite_eq]; simp [hx]

end Closed

/-! ### Bernoulli source under Hamming distortion -/

section Bernoulli

theorem ent_hammingMatrix (n x y : ℕ) (hx : x < n) (hy : y < n) :
    ent (hammingMatrix n : List (List ℝ)) x y = if x = y then 0 else 1 :=
  ent_range_map n n _ x y hx hy

theorem hammingMatrix_isMat (n : ℕ) : IsMat (hammingMatrix n : List (List ℝ)) n n :=
  isMat_range_map n n _

theorem sum_hamming_two (f : ℕ → ℝ) (β : ℝ) (y : ℕ) (hy : y < 2) :
    ∑ x ∈ range 2, f x * (2 : ℝ) ^ (-(β * ent (hammingMatrix 2) x y))
      = f y + f (1 - y) * (2 : ℝ) ^ (-β) := by
  rw [sum_range_succ, sum_range_one, ent_hammingMatrix 2 0 y two_pos hy,
    ent_hammingMatrix 2 1 y one_lt_two hy]
  interval_cases y <;> simp [add_comm]

theorem joint_term (py z px : ℝ) (hz : z ≠ 0) (hpx : px ≠ 0) :
    (py * z) * Real.logb 2 (py * z / (px * py)) = py * z * (Real.logb 2 z - Real.logb 2 px) := by
  by_cases h : py = 0
  · simp [h]
  · rw [mul_comm px, mul_div_mul_left _ _ h, Real.logb_div hz hpx]

theorem colSums_two (a b c d : ℝ) : colSums [[a, b], [c, d]] = [a + c, b + d] := by
  rw [show colSums [[a, b], [c, d]] = [0 + a + c, 0 + b + d] from rfl, zero_add, zero_add]

theorem jointMI_two (a b c d : ℝ) :
    jointMI (Real.logb 2) [[a, b], [c, d]]
      = a * Real.logb 2 (a / ((a + b) * (a + c))) + b * Real.logb 2 (b / ((a + b) * (b + d)))
        + (c * Real.logb 2 (c / ((c + d) * (a + c))) + d * Real.logb 2 (d / ((c + d) * (b + d)))) := by
  simp only [jointMI, colSums_two, rowSums, lsum, List.map_cons, List.map_nil,
    List.zipWith_cons_cons, List.zipWith_nil_right, List.foldl_cons, List.foldl_nil,
    ite_beq_zero_mul, zero_add]

theorem expDistortion_two (a b c d : ℝ) :
    expDistortion [[a, b], [c, d]] (hammingMatrix 2) = b + c := by
  simp [expDistortion, hammingMatrix, lsum, List.range_succ]

/-- The joint of an output law `(a, b)` and the backward channel BSC(`D`), with input marginal
`(px0, px1)`: its mutual information is `H(px) − H₂(D)`. -/
theorem bern_ach (a b D px0 px1 : ℝ) (hab : a + b = 1) (hD0 : 0 < D) (hD1 : D < 1)
    (h0 : a * (1 - D) + b * D = px0) (h1 : a * D + b * (1 - D) = px1) (hx0 : px0 ≠ 0) (hx1 : px1 ≠ 0) :
    jointMI (Real.logb 2) [[a * (1 - D), b * D], [a * D, b * (1 - D)]]
      = entropyVals (Real.logb 2) [px1, px0] - entropyVals (Real.logb 2) [D, 1 - D] := by
  rw [jointMI_two, entropy_two, entropy_two]
  have e1 : a * (1 - D) + a * D = a := by ring
  have e2 : b * D + b * (1 - D) = b := by ring
  have h1D : 1 - D ≠ 0 := (sub_pos.mpr hD1).ne'
  rw [h0, h1, e1, e2, joint_term a (1 - D) px0 h1D hx0, joint_term b D px0 hD0.ne' hx0,
    joint_term a D px1 hD0.ne' hx1, joint_term b (1 - D) px1 h1D hx1, ← h0, ← h1,
    eq_sub_of_add_eq' hab]
  ring

theorem two_rpow_neg_logb (a : ℝ) (ha : 0 < a) : (2 : ℝ) ^ (-Real.logb 2 a) = a⁻¹ := by
  rw [Real.rpow_neg two_pos.le, Real.rpow_logb two_pos (by norm_num) ha]

/-- The textbook forward test channel for a Bernoulli(`p`) source under Hamming distortion at
distortion level `D`: output law `(1−s, s)` with `s = (p−D)/(1−2D)`, backward channel BSC(`D`). -/
noncomputable def bernTest (p D : ℝ) : List (List ℝ) :=
  [[(1 - (p - D) / (1 - 2 * D)) * (1 - D) / (1 - p), (p - D) / (1 - 2 * D) * D / (1 - p)],
   [(1 - (p - D) / (1 - 2 * D)) * D / p, (p - D) / (1 - 2 * D) * (1 - D) / p]]

theorem bernTest_joint (p D : ℝ) (hp0 : 0 < p) (hp1 : p < 1) :
    jointOf [1 - p, p] (bernTest p D)
      = [[(1 - (p - D) / (1 - 2 * D)) * (1 - D), (p - D) / (1 - 2 * D) * D],
         [(1 - (p - D) / (1 - 2 * D)) * D, (p - D) / (1 - 2 * D) * (1 - D)]] := by
  have h1p : (1 - p) ≠ 0 := by linarith
  simp only [jointOf, bernTest, List.zipWith_cons_cons, List.zipWith_nil_right, List.map_cons,
    List.map_nil]
  rw [mul_div_cancel₀ _ h1p, mul_div_cancel₀ _ h1p, mul_div_cancel₀ _ hp0.ne',
    mul_div_cancel₀ _ hp0.ne']

/-- The forward channel obtained from an output law `(1−s, s)` and the backward channel BSC(`D`),
for the source `(1−p, p)` they induce. -/
theorem backward_isChannel (p D s : ℝ) (hp0 : 0 < p) (hp1 : p < 1) (hD0 : 0 ≤ D) (hD1 : D ≤ 1)
    (hs0 : 0 ≤ s) (hs1 : s ≤ 1) (hsd : s * (1 - 2 * D) = p - D) :
    IsChannel [[(1 - s) * (1 - D) / (1 - p), s * D / (1 - p)],
      [(1 - s) * D / p, s * (1 - D) / p]] 2 2 := by
  have h1p : 0 < 1 - p := sub_pos.mpr hp1
  have h1s : 0 ≤ 1 - s := sub_nonneg.mpr hs1
  have h1D : 0 ≤ 1 - D := sub_nonneg.mpr hD1
  exact isChannel_pair _ _ 2
    (isLaw_pair_div _ _ _ (mul_nonneg h1s h1D) (mul_nonneg hs0 hD0) h1p
      (by linear_combination (-1 : ℝ) * hsd))
    (isLaw_pair_div _ _ _ (mul_nonneg h1s hD0) (mul_nonneg hs0 h1D) hp0
      (by linear_combination hsd))

theorem bernTest_isChannel (p D : ℝ) (hp0 : 0 < p) (hp : p ≤ 1 / 2) (hD0 : 0 < D) (hD : D ≤ p)
    (hD2 : D < 1 / 2) : IsChannel (bernTest p D) 2 2 := by
  have h12 : 0 < 1 - 2 * D := sub_pos.mpr ((lt_div_iff₀' two_pos).mp hD2)
  exact backward_isChannel p D _ hp0 (hp.trans_lt one_half_lt_one) hD0.le
    (hD2.trans one_half_lt_one).le (div_nonneg (sub_nonneg.mpr hD) h12.le)
    ((div_le_one h12).mpr (by linear_combination hp + hD2)) (div_mul_cancel₀ _ h12.ne')

end Bernoulli

end Dit.Lemmas.Channel
