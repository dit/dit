/-
C08 — Every information measure depends only on the joint probabilities and on which variables
are addressed: its value is unchanged when the symbols of any variable are bijectively relabelled,
outcomes are given as strings or tuples, the input order of outcomes is permuted, zero-probability
outcomes are added, stored or trimmed, variables are addressed by name instead of index, or the
variables are permuted together with the arguments. Quantities that are symmetric in their groups
are unchanged by reordering the groups.

The transformations are those of `Core/Transform.lean` (`relabelTab`, `permuteTab`, `padZeros`,
row permutations `List.Perm`, trimming `List.filter`). Relabelling may change the symbol type
(`σ → τ`: strings vs. tuples, names vs. indices are instances). The entropy statements hold over
any ring `α` with decidable equality and for any function `log : α → α` (at `α := ℝ`,
`log := Real.logb 2` they are about the very terms of C04/C05); the divergence statements are at
`ℝ` like C06; the group symmetries are about `Comb.eval cast H` for an arbitrary set function
`H` into a commutative ring, like C05. Helper lemmas: Lemmas/Transform.lean.
-/
import DitModel.Lemmas.Transform
import DitModel.Props.C04
import DitModel.Props.C05
import DitModel.Props.C06

namespace Dit.Props.C08
open Dit Dit.Lemmas.Transform
open Dit.Lemmas.InfoAlg (Hc)
open Dit.Lemmas.InfoReal (fibreSum_append_zero fibreSum_of_not_mem)

/-! ## Projection and relabelling -/

section Relabel
variable {σ τ : Type}

/-- **Projection commutes with relabelling.** Selecting the (valid) positions `X` of a relabelled
outcome gives the selected symbols, each relabelled with the map of its own position. -/
theorem project_relabel (ρ : Nat → σ → τ) (X : List Nat) (o : List σ)
    (h : ∀ i ∈ X, i < o.length) :
    project X (relabelOutcome ρ o)
      = (List.zip X (project X o)).map (fun p => ρ p.1 p.2) := by
  induction X with
  | nil => rfl
  | cons i X ih =>
    have hi := h i (by simp)
    rw [Lemmas.Table.project_cons, Lemmas.Table.project_cons, getElem?_relabelOutcome,
      List.getElem?_eq_getElem hi]
    simp [ih (fun j hj => h j (List.mem_cons_of_mem _ hj))]

/-- Non-vacuity of the index bound of `project_relabel`. -/
example : ∀ i ∈ [2, 0], i < ["a", "b", "c"].length := by decide

/-- **Relabelling separates exactly what the projection separates.** With an injective symbol
map for every variable, two outcomes (of any lengths) agree on `X` after relabelling iff they
agree on `X` before. Injectivity is needed: a constant map merges everything. -/
theorem relabel_project_inj (ρ : Nat → σ → τ) (hρ : ∀ i, Function.Injective (ρ i))
    (X : List Nat) (o o' : List σ) :
    project X (relabelOutcome ρ o) = project X (relabelOutcome ρ o')
      ↔ project X o = project X o' :=
  relabel_project_inj_on ρ X o o' (fun i _ _ _ _ _ e => hρ i e)

/-- Relabelling with injective symbol maps is injective on whole outcomes. -/
theorem relabelOutcome_injective (ρ : Nat → σ → τ) (hρ : ∀ i, Function.Injective (ρ i)) :
    Function.Injective (relabelOutcome ρ) :=
  Lemmas.Transform.relabelOutcome_injective ρ hρ

/-- A per-variable relabelling of bits by strings; variable 0 is reversed (`true ↦ "0"`). -/
example : ∀ i, Function.Injective
    ((fun (i : Nat) (b : Bool) => if (decide (i = 0) == b) then "0" else "1") i) := by
  intro i a b h
  by_cases hi : i = 0 <;> cases a <;> cases b <;> simp_all

end Relabel

/-! ## Marginals under the four transformations -/

section Marginal
variable {κ κ' κ'' α : Type} [DecidableEq κ'] [DecidableEq κ''] [AddCommMonoid α]

/-- **Marginals along equivalent key maps.** If two key maps, into possibly different key types,
identify the same pairs of rows of `t`, the two marginals store the same values in the same
order (first-appearance order and fibre sums coincide); only the keys differ. -/
theorem vals_pushforward_of_equiv (f : κ → κ') (g : κ → κ'') (t : Tab κ α)
    (h : ∀ r ∈ t, ∀ r' ∈ t, f r.1 = f r'.1 ↔ g r.1 = g r'.1) :
    vals (pushforward f t) = vals (pushforward g t) :=
  Lemmas.Transform.vals_pushforward_of_equiv f g t h

/-- **Row order.** Storing the rows in another order permutes the values of every marginal. -/
theorem marginal_perm_rows (f : κ → κ') {t t' : Tab κ α} (h : t'.Perm t) :
    (vals (pushforward f t')).Perm (vals (pushforward f t)) :=
  vals_pushforward_perm f h

/-- **Zero padding, explicitly.** Appending rows of value zero leaves the marginal as it was and
appends one zero per image that was not there before (an existing image gets `0` added). -/
theorem marginal_append_zero (f : κ → κ') (t zs : Tab κ α) (hz : ∀ r ∈ zs, r.2 = 0) :
    vals (pushforward f (t ++ zs))
      = vals (pushforward f t)
        ++ ((dedup (zs.map (fun r => f r.1))).filter
            (fun x => decide (x ∉ t.map (fun r => f r.1)))).map (fun _ => 0) := by
  rw [vals_pushforward_eq, vals_pushforward_eq, List.map_append, Lemmas.Diverge.dedup_append,
    List.map_append]
  congr 1
  · exact List.map_congr_left (fun x _ => fibreSum_append_zero f t zs hz x)
  · apply List.map_congr_left
    intro x hx
    rw [fibreSum_append_zero f t zs hz x]
    exact fibreSum_of_not_mem f t x (of_decide_eq_true (List.mem_filter.mp hx).2)

variable {σ τ : Type} [DecidableEq σ] [DecidableEq τ]

/-- **Marginal of a relabelled table**: the same values in the same order (the keys are the
relabelled keys). Holds for ragged tables and any index list. -/
theorem pushforward_relabel (ρ : Nat → σ → τ) (hρ : ∀ i, Function.Injective (ρ i))
    (t : Tab (List σ) α) (X : List Nat) :
    vals (pushforward (project X) (relabelTab ρ t)) = vals (pushforward (project X) t) :=
  vals_pushforward_relabel_on ρ t X (fun i _ _ _ _ _ _ _ _ _ e => hρ i e)

set_option linter.unusedSectionVars false in
/-- **Rearranged outcome.** After rearranging an outcome by `π` (valid indices), the components
`X` sit at the positions `X.map (newIndex π)`; indices of `X` must be in `π` or out of range. -/
theorem project_permuteVars (π X : List Nat) (o : List σ) (hπ : ∀ i ∈ π, i < o.length)
    (hX : ∀ x ∈ X, x ∈ π ∨ o.length ≤ x) :
    project (X.map (newIndex π)) (permuteOutcome π o) = project X o :=
  project_permuteOutcome π X o hπ hX

/-- **Marginal of a table with permuted variables** on the renamed indices: literally the same
table (keys and values). The common length `n` of the stored outcomes is needed because
`project` drops out-of-range indices, which would shift positions. -/
theorem marginal_permuteVars (π : List Nat) (n : Nat) (t : Tab (List σ) α)
    (hlen : ∀ r ∈ t, r.1.length = n) (hπ : π.Perm (List.range n)) (X : List Nat) :
    pushforward (project (X.map (newIndex π))) (permuteTab π t) = pushforward (project X) t :=
  pushforward_permuteTab π X n t hlen (perm_range_valid hπ).1
    (fun x _ => (perm_range_valid hπ).2 x)

end Marginal

/-! ## Entropy of any subset of variables -/

section Entropy
variable {α : Type} [Ring α] [DecidableEq α] {σ τ : Type} [DecidableEq σ] [DecidableEq τ]

/-- **Relabelling.** Bijectively (injectively) relabelling the symbols of every variable — also
into another symbol type, e.g. characters of a string into entries of a tuple or names — does
not change the entropy of any subset of variables. -/
theorem entropyOf_relabel (log : α → α) (ρ : Nat → σ → τ) (hρ : ∀ i, Function.Injective (ρ i))
    (t : Tab (List σ) α) (X : List Nat) :
    entropyOf log (relabelTab ρ t) X = entropyOf log t X := by
  unfold entropyOf
  rw [pushforward_relabel ρ hρ t X]

/-- Sharper form of `entropyOf_relabel`: each `ρ i` (`i ∈ X`) need only be injective on the
symbols stored at position `i`. -/
theorem entropyOf_relabel_on (log : α → α) (ρ : Nat → σ → τ) (t : Tab (List σ) α) (X : List Nat)
    (hρ : ∀ i ∈ X, ∀ r ∈ t, ∀ r' ∈ t, ∀ s s',
      r.1[i]? = some s → r'.1[i]? = some s' → ρ i s = ρ i s' → s = s') :
    entropyOf log (relabelTab ρ t) X = entropyOf log t X := by
  unfold entropyOf
  rw [vals_pushforward_relabel_on ρ t X hρ]

/-- **Input order.** The entropy of any subset of variables does not depend on the order in
which the outcomes are stored (keys may even repeat). -/
theorem entropyOf_perm_rows (log : α → α) {t t' : Tab (List σ) α} (h : t'.Perm t)
    (X : List Nat) : entropyOf log t' X = entropyOf log t X :=
  entropyVals_perm log (marginal_perm_rows (project X) h)

/-- **Appended rows of value zero** (also for labels already stored) change no entropy. -/
theorem entropyOf_append_zero (log : α → α) (t zs : Tab (List σ) α) (hz : ∀ r ∈ zs, r.2 = 0)
    (X : List Nat) : entropyOf log (t ++ zs) X = entropyOf log t X :=
  entropyOf_of_fibre log _ _ X (fibreSum_append_zero (project X) t zs hz)

/-- **Adding zero-probability outcomes** (`make_dense`, a larger sample space) changes no
entropy. -/
theorem entropyOf_padZeros (log : α → α) (extra : List (List σ)) (t : Tab (List σ) α)
    (X : List Nat) : entropyOf log (padZeros extra t) X = entropyOf log t X := by
  obtain ⟨zs, e, hz, _⟩ := padZeros_eq_append extra t
  exact e ▸ entropyOf_append_zero log t zs hz X

/-- **Trimming** (`make_sparse`): dropping the stored rows of value zero changes no entropy. -/
theorem entropyOf_trim (log : α → α) (t : Tab (List σ) α) (X : List Nat) :
    entropyOf log (t.filter (fun r => decide (r.2 ≠ 0))) X = entropyOf log t X :=
  Lemmas.Transform.entropyOf_trim log t X

/-- **Permuting the variables together with the arguments.** For a permutation `π` of
`range n` (new variable `i` is old variable `π[i]`) and a table whose outcomes all have length
`n`, the entropy of the renamed index list in the rearranged table is the entropy of the original
index list in the original table — for every index list `X` (out-of-range indices are dropped on
both sides). -/
theorem entropyOf_permuteVars (log : α → α) (π : List Nat) (n : Nat) (t : Tab (List σ) α)
    (hlen : ∀ r ∈ t, r.1.length = n) (hπ : π.Perm (List.range n)) (X : List Nat) :
    entropyOf log (permuteTab π t) (X.map (newIndex π)) = entropyOf log t X := by
  unfold entropyOf
  rw [marginal_permuteVars π n t hlen hπ X]

/-- More generally `π` may be any list of valid indices (a selection with repetitions), as long
as the addressed variables are selected (or out of range). -/
theorem entropyOf_permuteVars_gen (log : α → α) (π X : List Nat) (n : Nat) (t : Tab (List σ) α)
    (hlen : ∀ r ∈ t, r.1.length = n) (hπ : ∀ i ∈ π, i < n) (hX : ∀ x ∈ X, x ∈ π ∨ n ≤ x) :
    entropyOf log (permuteTab π t) (X.map (newIndex π)) = entropyOf log t X := by
  unfold entropyOf
  rw [pushforward_permuteTab π X n t hlen hπ hX]

/-! ## Every entropy combination -/

/-- **`Comb.eval` is extensional** in the set function, on the sets occurring in the
combination. -/
theorem eval_congr {β : Type} [Zero β] [Add β] [Mul β] (cast : Rat → β) (H₁ H₂ : VSet → β)
    (c : Comb) (h : ∀ r ∈ c, H₁ r.2 = H₂ r.2) : Comb.eval cast H₁ c = Comb.eval cast H₂ c := by
  unfold Comb.eval
  congr 1
  apply List.map_congr_left
  intro r hr
  rw [h r hr]

/-- **Invariance of every measure, abstractly.** If a change of representation `t ↦ t'` with a
renaming `ren` of index sets preserves all subset entropies, it preserves the value of EVERY
entropy combination: co-information, total correlation, dual total correlation, CAEKL candidates,
O-information, TSE complexity, cohesion, residual entropy, (conditional) mutual information,
conditional entropy, the atoms and profiles of C18. -/
theorem measure_invariant (cast : Rat → α) (log : α → α) (t : Tab (List σ) α)
    (t' : Tab (List τ) α) (ren : VSet → VSet)
    (h : ∀ S, entropyOf log t' (ren S) = entropyOf log t S) (c : Comb) :
    Comb.eval cast (fun S => entropyOf log t' (ren S)) c
      = Comb.eval cast (fun S => entropyOf log t S) c :=
  eval_congr cast _ _ c (fun r _ => h r.2)

/-- Every measure is invariant under relabelling of the symbols. -/
theorem measure_invariant_relabel (cast : Rat → α) (log : α → α) (ρ : Nat → σ → τ)
    (hρ : ∀ i, Function.Injective (ρ i)) (t : Tab (List σ) α) (c : Comb) :
    Comb.eval cast (fun S => entropyOf log (relabelTab ρ t) S) c
      = Comb.eval cast (fun S => entropyOf log t S) c :=
  measure_invariant cast log t (relabelTab ρ t) (fun S => S)
    (entropyOf_relabel log ρ hρ t) c

/-- Every measure is invariant under the stored order of the outcomes. -/
theorem measure_invariant_perm_rows (cast : Rat → α) (log : α → α) {t t' : Tab (List σ) α}
    (h : t'.Perm t) (c : Comb) :
    Comb.eval cast (fun S => entropyOf log t' S) c
      = Comb.eval cast (fun S => entropyOf log t S) c :=
  measure_invariant cast log t t' (fun S => S) (entropyOf_perm_rows log h) c

/-- Every measure is invariant under adding zero-probability outcomes. -/
theorem measure_invariant_padZeros (cast : Rat → α) (log : α → α) (extra : List (List σ))
    (t : Tab (List σ) α) (c : Comb) :
    Comb.eval cast (fun S => entropyOf log (padZeros extra t) S) c
      = Comb.eval cast (fun S => entropyOf log t S) c :=
  measure_invariant cast log t (padZeros extra t) (fun S => S)
    (entropyOf_padZeros log extra t) c

/-- Every measure is invariant under trimming the stored zeros. -/
theorem measure_invariant_trim (cast : Rat → α) (log : α → α) (t : Tab (List σ) α) (c : Comb) :
    Comb.eval cast (fun S => entropyOf log (t.filter (fun r => decide (r.2 ≠ 0))) S) c
      = Comb.eval cast (fun S => entropyOf log t S) c :=
  measure_invariant cast log t _ (fun S => S) (entropyOf_trim log t) c

/-- Every measure is invariant under permuting the variables together with the arguments: the
combination evaluated on the rearranged table through the renaming `S ↦ S.map (newIndex π)`
(no re-sorting needed) has the value of the combination on the original table. -/
theorem measure_invariant_permuteVars (cast : Rat → α) (log : α → α) (π : List Nat) (n : Nat)
    (t : Tab (List σ) α) (hlen : ∀ r ∈ t, r.1.length = n) (hπ : π.Perm (List.range n))
    (c : Comb) :
    Comb.eval cast (fun S => entropyOf log (permuteTab π t) (S.map (newIndex π))) c
      = Comb.eval cast (fun S => entropyOf log t S) c :=
  measure_invariant cast log t (permuteTab π t) (fun S => S.map (newIndex π))
    (entropyOf_permuteVars log π n t hlen hπ) c

end Entropy

/-- Non-vacuity of `entropyOf_relabel_on`: `s ↦ 1 - s` is not injective on `ℕ`, but it is on the
stored symbols `{0, 1}` (it reverses their order). -/
example :
    let t : Tab (List Nat) Rat := [([0, 1], 1 / 2), ([1, 0], 1 / 2)]
    let ρ : Nat → Nat → Nat := fun _ s => 1 - s
    ∀ i ∈ [0, 1], ∀ r ∈ t, ∀ r' ∈ t, ∀ s s',
      r.1[i]? = some s → r'.1[i]? = some s' → ρ i s = ρ i s' → s = s' := by
  intro t ρ i _ r hr r' hr' s s' h1 h2 h3
  have hb : ∀ r ∈ t, ∀ s ∈ r.1, s ≤ 1 := by decide
  have hs := hb r hr s (List.mem_of_getElem? h1)
  have hs' := hb r' hr' s' (List.mem_of_getElem? h2)
  have h3 : 1 - s = 1 - s' := h3
  omega

/-- Non-vacuity of `entropyOf_permuteVars_gen` / `project_permuteVars`: a selection `π = [2, 0]`
of a three-variable outcome, addressed variable `0` (selected) and `5` (out of range). -/
example : (∀ i ∈ [2, 0], i < 3) ∧ (∀ x ∈ [0, 5], x ∈ [2, 0] ∨ 3 ≤ x)
    ∧ project ([0, 5].map (newIndex [2, 0])) (permuteOutcome [2, 0] ["a", "b", "c"])
        = project [0, 5] ["a", "b", "c"] := by
  decide

/-- Non-vacuity of the zero-row hypotheses. -/
example : ∀ r ∈ ([(["c"], 0), (["a"], 0)] : Tab (List String) Rat), r.2 = 0 := by decide

/-! ### Non-vacuity: a concrete rational table -/

/-- Reversing the symbols of both variables (and renaming bits to strings): the marginals on
`[0]`, `[1]`, `[0, 1]` keep their value lists. -/
example :
    let t : Tab (List Bool) Rat :=
      [([false, false], 1 / 2), ([false, true], 0), ([true, true], 1 / 4), ([true, false], 1 / 4)]
    let ρ : Nat → Bool → String := fun _ b => if b then "0" else "1"
    (∀ X ∈ [[0], [1], [0, 1], [1, 0]],
      vals (pushforward (project X) (relabelTab ρ t)) = vals (pushforward (project X) t))
    ∧ keys (pushforward (project [0]) (relabelTab ρ t)) = [["1"], ["0"]] := by
  decide +kernel

/-- A variable swap `π = [1, 0]`: index `0` is renamed to `1` and vice versa, and the marginals
coincide as tables. -/
example :
    let t : Tab (List Bool) Rat :=
      [([false, false], 1 / 2), ([false, true], 0), ([true, true], 1 / 4), ([true, false], 1 / 4)]
    [1, 0].Perm (List.range 2) ∧ (∀ r ∈ t, r.1.length = 2)
    ∧ [0].map (newIndex [1, 0]) = [1]
    ∧ permuteTab [1, 0] t
        = [([false, false], 1 / 2), ([true, false], 0), ([true, true], 1 / 4),
            ([false, true], 1 / 4)]
    ∧ pushforward (project ([0].map (newIndex [1, 0]))) (permuteTab [1, 0] t)
        = pushforward (project [0]) t
    ∧ vals (pushforward (project [0]) t) = [1 / 2, 1 / 2]
    ∧ vals (pushforward (project [1]) t) = [3 / 4, 1 / 4] := by
  decide +kernel

/-- Row permutation, zero padding and trimming on the same table: the value lists of the
marginal on `[1]` are permutations of each other up to zeros. -/
example :
    let t : Tab (List Bool) Rat :=
      [([false, false], 1 / 2), ([false, true], 0), ([true, true], 1 / 4), ([true, false], 1 / 4)]
    (t.drop 2 ++ t.take 2).Perm t
    ∧ vals (pushforward (project [1]) t) = [3 / 4, 1 / 4]
    ∧ vals (pushforward (project [1]) (t.drop 2 ++ t.take 2)) = [1 / 4, 3 / 4]
    ∧ vals (pushforward (project [0, 1, 2]) (padZeros [[true, true], [false, false, true]] t))
        = [1 / 2, 0, 1 / 4, 1 / 4, 0]
    ∧ vals (pushforward (project [0, 1]) (t.filter (fun r => decide (r.2 ≠ 0))))
        = [1 / 2, 1 / 4, 1 / 4] := by
  decide +kernel

/-- The generic statements apply to the real-valued terms of C04/C05. -/
example (ρ : Nat → Bool → String) (hρ : ∀ i, Function.Injective (ρ i))
    (t : Tab (List Bool) ℝ) (X : List Nat) :
    entropyOf (Real.logb 2) (relabelTab ρ t) X
      = -((dedup (t.map (fun r => project X r.1))).map (fun x =>
          Lemmas.InfoReal.fibreSum (project X) t x
            * Real.logb 2 (Lemmas.InfoReal.fibreSum (project X) t x))).sum := by
  rw [entropyOf_relabel (Real.logb 2) ρ hρ t X]
  exact Props.C04.entropyOf_eq_def t X

example (t : Tab (List Bool) ℝ) (π : List Nat) (hlen : ∀ r ∈ t, r.1.length = 3)
    (hπ : π.Perm (List.range 3)) :
    Comb.eval (Rat.castHom ℝ)
        (fun S => entropyOf (Real.logb 2) (permuteTab π t) (S.map (newIndex π)))
        (coinfoC [[0], [1], [2]] [])
      = Comb.eval (Rat.castHom ℝ) (entropyOf (Real.logb 2) t) (coinfoC [[0], [1], [2]] []) :=
  measure_invariant_permuteVars _ _ π 3 t hlen hπ _

/-! ## Divergences between two tables -/

section Divergence
variable {κ κ' : Type} [DecidableEq κ] [DecidableEq κ']

/-- **Label alignment is label-blind.** Renaming the labels of both tables by one injective map
`φ` gives the very same list of aligned pairs (along `t1`), over any number type. Injectivity is
needed: merged labels would be looked up wrongly. -/
theorem alignPair_relabel {α : Type} [AddCommMonoid α] (φ : κ → κ') (hφ : Function.Injective φ)
    (t1 t2 : Tab κ α) :
    alignPair (t1.map (fun r => (φ r.1, r.2))) (t2.map (fun r => (φ r.1, r.2)))
      = alignPair t1 t2 :=
  alignPair_map_inj φ hφ t1 t2

/-- The same for the alignment over the union of the labels. -/
theorem alignUnion_relabel {α : Type} [AddCommMonoid α] (φ : κ → κ') (hφ : Function.Injective φ)
    (t1 t2 : Tab κ α) :
    alignUnion (t1.map (fun r => (φ r.1, r.2))) (t2.map (fun r => (φ r.1, r.2)))
      = alignUnion t1 t2 :=
  alignUnion_map_inj φ hφ t1 t2

/-- Relabelling the symbols of every variable (`relabelTab`) is such a renaming of labels. -/
theorem align_relabelTab {α σ τ : Type} [AddCommMonoid α] [DecidableEq σ] [DecidableEq τ]
    (ρ : Nat → σ → τ) (hρ : ∀ i, Function.Injective (ρ i)) (t1 t2 : Tab (List σ) α) :
    alignPair (relabelTab ρ t1) (relabelTab ρ t2) = alignPair t1 t2
      ∧ alignUnion (relabelTab ρ t1) (relabelTab ρ t2) = alignUnion t1 t2 :=
  ⟨alignPair_map_inj _ (Lemmas.Transform.relabelOutcome_injective ρ hρ) t1 t2,
    alignUnion_map_inj _ (Lemmas.Transform.relabelOutcome_injective ρ hρ) t1 t2⟩

/-- **KL divergence and cross entropy are invariant under relabelling** (value `+∞`
included). -/
theorem kl_relabel (log : ℝ → ℝ) (φ : κ → κ') (hφ : Function.Injective φ) (t1 t2 : Tab κ ℝ) :
    klVals log (alignPair (t1.map (fun r => (φ r.1, r.2))) (t2.map (fun r => (φ r.1, r.2))))
        = klVals log (alignPair t1 t2)
    ∧ crossEntropyVals log
          (alignPair (t1.map (fun r => (φ r.1, r.2))) (t2.map (fun r => (φ r.1, r.2))))
        = crossEntropyVals log (alignPair t1 t2) := by
  rw [alignPair_map_inj φ hφ]
  exact ⟨rfl, rfl⟩

/-- **The variational distance is invariant under relabelling.** -/
theorem tv_relabel (two : ℝ) (φ : κ → κ') (hφ : Function.Injective φ) (t1 t2 : Tab κ ℝ) :
    tvVals two (alignUnion (t1.map (fun r => (φ r.1, r.2))) (t2.map (fun r => (φ r.1, r.2))))
      = tvVals two (alignUnion t1 t2) := by
  rw [alignUnion_map_inj φ hφ]

/-- **Bhattacharyya coefficient, Hellinger distance and the power sums** (hence the Rényi,
Tsallis, Hellinger and alpha divergences) **are invariant under relabelling.** -/
theorem bc_relabel (sqrt : ℝ → ℝ) (R : RealOps ℝ) (a b : ℝ) (φ : κ → κ')
    (hφ : Function.Injective φ) (t1 t2 : Tab κ ℝ) :
    bcVals sqrt (alignUnion (t1.map (fun r => (φ r.1, r.2))) (t2.map (fun r => (φ r.1, r.2))))
        = bcVals sqrt (alignUnion t1 t2)
    ∧ hellingerVals sqrt
          (alignUnion (t1.map (fun r => (φ r.1, r.2))) (t2.map (fun r => (φ r.1, r.2))))
        = hellingerVals sqrt (alignUnion t1 t2)
    ∧ powerSum R a b
          (alignUnion (t1.map (fun r => (φ r.1, r.2))) (t2.map (fun r => (φ r.1, r.2))))
        = powerSum R a b (alignUnion t1 t2) := by
  rw [alignUnion_map_inj φ hφ]
  exact ⟨rfl, rfl, rfl⟩

example : Function.Injective (fun b : Bool => if b then "heads" else "tails") := by
  intro a b h
  cases a <;> cases b <;> simp_all

/-- **Row order (KL).** The C08 instance of C06 `kl_label_invariant`: storing either table in
another order does not change `D(t1‖t2)`; the keys of `t2` must be pairwise distinct (otherwise
the lookup finds the first of several rows, which depends on the order). -/
theorem kl_perm_rows (log : ℝ → ℝ) {t1 t1' t2 t2' : Tab κ ℝ} (h1 : t1'.Perm t1)
    (h2 : t2'.Perm t2) (hnd : (keys t2).Nodup) :
    klVals log (alignPair t1' t2') = klVals log (alignPair t1 t2) :=
  (Props.C06.kl_label_invariant log h1.symm h2.symm hnd).symm

/-- **Row order (variational distance)**, the C08 instance of C06 `tv_label_invariant`. -/
theorem tv_perm_rows {t1 t1' t2 t2' : Tab κ ℝ} (h1 : t1'.Perm t1) (h2 : t2'.Perm t2)
    (hnd1 : (keys t1).Nodup) (hnd2 : (keys t2).Nodup) :
    tvVals 2 (alignUnion t1' t2') = tvVals 2 (alignUnion t1 t2) :=
  (Props.C06.tv_label_invariant h1.symm h2.symm hnd1 hnd2).symm

example : (keys [("a", (1 : ℝ) / 2), ("b", 1 / 2)]).Nodup := by simp [keys]

variable {σ : Type} [DecidableEq σ]

/-- **Zero padding (KL, cross entropy).** Adding zero-probability outcomes to either table
changes neither value (nor finiteness): new rows of `t1` give pairs `(0, q)`, which contribute
nothing (C06 `align_extra_zero`); new rows of `t2` are looked up as `0`, as absent labels are. -/
theorem kl_padZeros (log : ℝ → ℝ) (e1 e2 : List (List σ)) (t1 t2 : Tab (List σ) ℝ) :
    klVals log (alignPair (padZeros e1 t1) (padZeros e2 t2)) = klVals log (alignPair t1 t2)
    ∧ crossEntropyVals log (alignPair (padZeros e1 t1) (padZeros e2 t2))
        = crossEntropyVals log (alignPair t1 t2) := by
  obtain ⟨z1, E1, hz1, _⟩ := padZeros_eq_append e1 t1
  obtain ⟨z2, E2, hz2, _⟩ := padZeros_eq_append e2 t2
  rw [E1, E2, alignPair_append_zero_right _ _ _ hz2, Lemmas.Transform.alignPair_append_left]
  exact Props.C06.align_extra_zero log _ _ (alignPair_zero_left z1 t2 hz1)

/-- **Zero padding (variational distance)**: the new labels give pairs `(0, 0)`. -/
theorem tv_padZeros (e1 e2 : List (List σ)) (t1 t2 : Tab (List σ) ℝ) :
    tvVals 2 (alignUnion (padZeros e1 t1) (padZeros e2 t2)) = tvVals 2 (alignUnion t1 t2) := by
  obtain ⟨z1, E1, hz1, _⟩ := padZeros_eq_append e1 t1
  obtain ⟨z2, E2, hz2, _⟩ := padZeros_eq_append e2 t2
  rw [E1, E2, Lemmas.Diverge.tvVals_eq, Lemmas.Diverge.tvVals_eq,
    sum_alignUnion_append_zero (fun r : ℝ × ℝ => |r.1 - r.2|) (by simp) t1 z1 t2 z2 hz1 hz2]

/-- **Zero padding (Bhattacharyya coefficient, power sums)**; `sqrt 0 = 0` is all that is used
of the square root. -/
theorem bc_padZeros (sqrt : ℝ → ℝ) (hs : sqrt 0 = 0) (R : RealOps ℝ) (a b : ℝ)
    (e1 e2 : List (List σ)) (t1 t2 : Tab (List σ) ℝ) :
    bcVals sqrt (alignUnion (padZeros e1 t1) (padZeros e2 t2)) = bcVals sqrt (alignUnion t1 t2)
    ∧ powerSum R a b (alignUnion (padZeros e1 t1) (padZeros e2 t2))
        = powerSum R a b (alignUnion t1 t2) := by
  obtain ⟨z1, E1, hz1, _⟩ := padZeros_eq_append e1 t1
  obtain ⟨z2, E2, hz2, _⟩ := padZeros_eq_append e2 t2
  rw [E1, E2]
  unfold bcVals powerSum
  simp only [Lemmas.ListBasics.lsum_eq_sum]
  exact ⟨sum_alignUnion_append_zero (fun r : ℝ × ℝ => sqrt (r.1 * r.2)) (by simp [hs])
      t1 z1 t2 z2 hz1 hz2,
    sum_alignUnion_append_zero
      (fun r : ℝ × ℝ => if (r.1 == 0 || r.2 == 0) = true then 0 else R.pow r.1 a * R.pow r.2 b)
      (by simp) t1 z1 t2 z2 hz1 hz2⟩

/-- **Permuting the variables of both tables** (a permutation `π` of `range n`, all stored
outcomes of length `n`) leaves both alignments unchanged, hence every divergence computed from
them (KL, cross entropy, variational distance, Bhattacharyya, Hellinger, power sums). The common
length is needed: rearranging is injective only on outcomes of the right length. -/
theorem align_permuteTab {α : Type} [AddCommMonoid α] (π : List Nat) (n : Nat)
    (hπ : π.Perm (List.range n)) (t1 t2 : Tab (List σ) α)
    (h1 : ∀ r ∈ t1, r.1.length = n) (h2 : ∀ r ∈ t2, r.1.length = n) :
    alignPair (permuteTab π t1) (permuteTab π t2) = alignPair t1 t2
      ∧ alignUnion (permuteTab π t1) (permuteTab π t2) = alignUnion t1 t2 := by
  have hk : ∀ a ∈ keys t1 ++ keys t2, a.length = n := by
    intro a ha
    rcases List.mem_append.mp ha with ha | ha
    · obtain ⟨v, hv⟩ := Lemmas.Table.mem_keys.mp ha; exact h1 _ hv
    · obtain ⟨v, hv⟩ := Lemmas.Table.mem_keys.mp ha; exact h2 _ hv
  exact ⟨alignPair_map_injOn (permuteOutcome π) t1 t2 (fun a ha b hb e =>
      permuteOutcome_inj hπ (hk a (List.mem_append_right _ ha)) (hk b (List.mem_append_left _ hb)) e),
    alignUnion_map_injOn (permuteOutcome π) t1 t2 (fun a ha b hb e =>
      permuteOutcome_inj hπ (hk a ha) (hk b hb) e)⟩

/-- **Trimming (KL, cross entropy).** Dropping the stored zeros of both tables changes neither
value; the keys of `t2` must be pairwise distinct (a zero row shadowing a later non-zero row with
the same label would otherwise be removed). -/
theorem kl_trim (log : ℝ → ℝ) (t1 t2 : Tab (List σ) ℝ) (hnd : (keys t2).Nodup) :
    klVals log (alignPair (t1.filter (fun r => decide (r.2 ≠ 0)))
        (t2.filter (fun r => decide (r.2 ≠ 0)))) = klVals log (alignPair t1 t2)
    ∧ crossEntropyVals log (alignPair (t1.filter (fun r => decide (r.2 ≠ 0)))
        (t2.filter (fun r => decide (r.2 ≠ 0)))) = crossEntropyVals log (alignPair t1 t2) := by
  rw [alignPair_trim t1 t2 hnd]
  exact Lemmas.Diverge.klVals_filter_fst log _

example :
    alignPair (padZeros [["c"]] [(["a"], (1 : Rat) / 2), (["b"], 1 / 2)])
        (padZeros [["a"], ["d"]] [(["b"], (1 : Rat) / 4), (["c"], 3 / 4)])
      = [(1 / 2, 0), (1 / 2, 1 / 4), (0, 3 / 4)]
    ∧ alignUnion (padZeros [["c"]] [(["a"], (1 : Rat) / 2), (["b"], 1 / 2)])
        (padZeros [["a"], ["d"]] [(["b"], (1 : Rat) / 4), (["c"], 3 / 4)])
      = [(1 / 2, 0), (1 / 2, 1 / 4), (0, 3 / 4), (0, 0)] := by
  decide +kernel

end Divergence

/-! ## Reordering the groups of the symmetric measures -/

section Groups
variable {R : Type} [CommRing R] (cast : ℚ →+* R) (H : VSet → R)
open Dit.Lemmas.InfoAlg

/-- The union of the groups does not depend on their order. -/
theorem vunions_symm {groups groups' : List VSet} (h : groups'.Perm groups) :
    vunions groups' = vunions groups :=
  vunions_perm h

/-- **Total correlation** ignores the order of its groups (any set function `H`). -/
theorem tc_symm {groups groups' : List VSet} (h : groups'.Perm groups) (Z : VSet) :
    Comb.eval cast H (tcC groups' Z) = Comb.eval cast H (tcC groups Z) := by
  rw [eval_tcC, eval_tcC, vunions_perm h, (h.map _).sum_eq]

/-- **Residual entropy** ignores the order of its groups. -/
theorem residual_symm {groups groups' : List VSet} (h : groups'.Perm groups) (Z : VSet) :
    Comb.eval cast H (residualC groups' Z) = Comb.eval cast H (residualC groups Z) := by
  rw [eval_residualC, eval_residualC, vunions_perm h, (h.map _).sum_eq]

/-- **Dual total correlation** ignores the order of its groups. -/
theorem dtc_symm {groups groups' : List VSet} (h : groups'.Perm groups) (Z : VSet) :
    Comb.eval cast H (dtcC groups' Z) = Comb.eval cast H (dtcC groups Z) := by
  rw [eval_dtcC, eval_dtcC, residual_symm cast H h, vunions_perm h]

/-- **O-information** ignores the order of its groups. -/
theorem oinfo_symm {groups groups' : List VSet} (h : groups'.Perm groups) (Z : VSet) :
    Comb.eval cast H (oinfoC groups' Z) = Comb.eval cast H (oinfoC groups Z) := by
  rw [eval_oinfoC, eval_oinfoC, tc_symm cast H h, dtc_symm cast H h]

/-- **Co-information** ignores the order of its groups: the sublists of a reordered list are the
sublists of the list, each possibly reordered, and `⋃` and the parity of the size do not see
that. -/
theorem coinfo_symm {groups groups' : List VSet} (h : groups'.Perm groups) (Z : VSet) :
    Comb.eval cast H (coinfoC groups' Z) = Comb.eval cast H (coinfoC groups Z) := by
  rw [eval_coinfoC, eval_coinfoC]
  exact sum_sublists_perm h _ (fun a b hab => by rw [hab.length_eq, vunions_perm hab])

/-- **Interaction information** ignores the order of its groups. -/
theorem interaction_symm {groups groups' : List VSet} (h : groups'.Perm groups) (Z : VSet) :
    Comb.eval cast H (interactionC groups' Z) = Comb.eval cast H (interactionC groups Z) := by
  rw [eval_interactionC, eval_interactionC, coinfo_symm cast H h, h.length_eq]

/-- **TSE complexity** ignores the order of its groups. -/
theorem tse_symm {groups groups' : List VSet} (h : groups'.Perm groups) (Z : VSet) :
    Comb.eval cast H (tseC groups' Z) = Comb.eval cast H (tseC groups Z) := by
  rw [eval_tseC, eval_tseC, h.length_eq, vunions_perm h]
  congr 1
  apply List.map_congr_left
  intro k _
  rw [sum_combos_perm h k _ (fun a b hab => by rw [vunions_perm hab])]

/-- **Cohesion** of every order ignores the order of its groups. -/
theorem cohesion_symm (k : Nat) {groups groups' : List VSet} (h : groups'.Perm groups)
    (Z : VSet) :
    Comb.eval cast H (cohesionC k groups' Z) = Comb.eval cast H (cohesionC k groups Z) := by
  rw [eval_cohesionC, eval_cohesionC, h.length_eq, vunions_perm h,
    sum_combos_perm h k _ (fun a b hab => by rw [vunions_perm hab])]

/-- **CAEKL mutual information** ignores the order of its groups: the values of the candidates
(one per partition of the groups into at least two blocks) form the same multiset, so their
minimum is the same. -/
theorem caekl_symm {groups groups' : List VSet} (h : groups'.Perm groups) (Z : VSet) :
    ((caeklCands groups' Z).map (Comb.eval cast H)).Perm
      ((caeklCands groups Z).map (Comb.eval cast H)) := by
  unfold caeklCands
  rw [List.map_map, List.map_map]
  have e : ∀ gs : List VSet, (Comb.eval cast H ∘ caeklCand gs Z)
      = fun P => cast (1 / ((P.length : Rat) - 1))
        * ((P.map (fun B => Hc H (vunions B) Z)).sum - Hc H (vunions gs) Z) := by
    intro gs; funext P; exact eval_caeklCand cast H gs Z P
  rw [e, e, vunions_perm h]
  apply map_filter_setPartitions_perm h
  · intro p p' hp; rw [hp.length_eq]
  · intro p p' hp; rw [hp.length_eq]
  · intro p p' hp; rw [hp.length_eq, (hp.map _).sum_eq]
  · intro p p' hp
    rw [hp.length_eq,
      map_eq_of_forall₂ (fun B => Hc H (vunions B) Z) (fun a b hab => by rw [vunions_perm hab]) hp]

example : [[2], [0], [1]].Perm [[0], [1], [2]] := by decide
/-- Reordering the groups leaves the combinations of co-information and TSE equal as normal forms;
the CAEKL candidates come out in another order (`caekl_symm` is about a permutation). -/
example : Comb.canon (coinfoC [[2], [0], [1]] [3]) = Comb.canon (coinfoC [[0], [1], [2]] [3])
    ∧ Comb.canon (tseC [[2], [0], [1]] [3]) = Comb.canon (tseC [[0], [1], [2]] [3])
    ∧ (caeklCands [[2], [0], [1]] []).map Comb.canon ≠ (caeklCands [[0], [1], [2]] []).map Comb.canon
    ∧ ((caeklCands [[2], [0], [1]] []).map Comb.canon).Perm
        ((caeklCands [[0], [1], [2]] []).map Comb.canon) := by
  decide +kernel

end Groups

end Dit.Props.C08
