/-
Helper lemmas for the connected informations (`Core/Connected.lean`, property C18):

* `negDiffs` (`-np.diff`) as a `zipWith`: length, entries in `getElem?` form, `drop`;
* `combos` / `kWayGroups`: membership, the two extreme orders (`k = 1`: the singletons, `k = n`:
  the single group of all variables), every `k`-subset extends to a `(k+1)`-subset;
* `IsMaxentChain`: what `marginal_maxent_dists` is supposed to return, stated with the notions of
  C14 (`Feasible`, optimality among the feasible tables), and the entropies along such a chain;
* the joint entropy `entropyVals (vals t)` is `entropyOf t (range n)`, and the total correlation of
  the single variables in the notation of C05.

Property theorems are in Props/C18Conn.lean.
-/
import DitModel.Core.Connected
import DitModel.Props.C14
import DitModel.Props.C05

namespace Dit.Lemmas.Connected
open Dit Dit.Lemmas.Table Dit.Lemmas.InfoAlg Dit.Lemmas.InfoReal Dit.Lemmas.Maxent

/-! ### `negDiffs` -/

section NegDiffs
variable {α : Type} [AddCommGroup α]

@[simp] theorem negDiffs_nil : negDiffs ([] : List α) = [] := rfl
@[simp] theorem negDiffs_single (a : α) : negDiffs [a] = [] := rfl
theorem negDiffs_cons_cons (a b : α) (t : List α) :
    negDiffs (a :: b :: t) = (a - b) :: negDiffs (b :: t) := rfl

/-- `-np.diff(h)` is `h[:-1] - h[1:]`. -/
theorem negDiffs_eq_zipWith (l : List α) : negDiffs l = List.zipWith (· - ·) l l.tail := by
  induction l with
  | nil => rfl
  | cons a t ih =>
    cases t with
    | nil => rfl
    | cons b t => rw [negDiffs_cons_cons, ih]; rfl

theorem negDiffs_length (l : List α) : (negDiffs l).length = l.length - 1 := by
  rw [negDiffs_eq_zipWith, List.length_zipWith, List.length_tail, Nat.min_eq_right (Nat.sub_le _ _)]

theorem negDiffs_getElem? (l : List α) (k : Nat) (v : α) :
    (negDiffs l)[k]? = some v ↔ ∃ a b, l[k]? = some a ∧ l[k + 1]? = some b ∧ a - b = v := by
  rw [negDiffs_eq_zipWith, List.getElem?_zipWith_eq_some, List.getElem?_tail]

theorem negDiffs_drop (l : List α) (j : Nat) : (negDiffs l).drop j = negDiffs (l.drop j) := by
  rw [negDiffs_eq_zipWith, negDiffs_eq_zipWith, List.drop_zipWith, List.drop_tail, List.tail_drop]

end NegDiffs

/-! ### `combos` and `kWayGroups` -/

section Combos
variable {β : Type}

/-- `combos k l` lists the sublists of length `k` (in another order than `List.sublistsLen`). -/
theorem mem_combos {k : Nat} {l g : List β} : g ∈ combos k l ↔ g.Sublist l ∧ g.length = k := by
  rw [← List.mem_sublistsLen]
  induction l generalizing k g with
  | nil => cases k <;> simp [combos]
  | cons x t ih =>
    cases k with
    | zero => simp [combos]
    | succ k =>
      simp only [combos, List.sublistsLen_succ_cons, List.mem_append, List.mem_map, ih, or_comm]

theorem combos_length_self (l : List β) : combos l.length l = [l] := by
  induction l with
  | nil => rfl
  | cons x t ih =>
    have h0 : combos (t.length + 1) t = [] :=
      List.eq_nil_iff_forall_not_mem.mpr fun g hg =>
        Nat.not_succ_le_self _ ((mem_combos.mp hg).2 ▸ (mem_combos.mp hg).1.length_le)
    show (combos t.length t).map (x :: ·) ++ combos (t.length + 1) t = [x :: t]
    rw [ih, h0]; rfl

theorem exists_sublist_succ {g l : List β} (h : g.Sublist l) (hlt : g.length < l.length) :
    ∃ g', g'.Sublist l ∧ g'.length = g.length + 1 ∧ g.Sublist g' := by
  induction h with
  | slnil => exact absurd hlt (Nat.lt_irrefl 0)
  | @cons g l a h ih =>
    by_cases hl : g.length < l.length
    · obtain ⟨g', h1, h2, h3⟩ := ih hl
      exact ⟨g', h1.cons a, h2, h3⟩
    · obtain rfl : g = l := h.eq_of_length_le (Nat.le_of_not_lt hl)
      exact ⟨a :: g, .refl _, rfl, (List.Sublist.refl g).cons a⟩
  | @cons_cons g l a h ih =>
    obtain ⟨g', h1, h2, h3⟩ := ih (Nat.lt_of_succ_lt_succ hlt)
    exact ⟨a :: g', h1.cons_cons a, congrArg (· + 1) h2, h3.cons_cons a⟩

theorem kWayGroups_one (n : Nat) : kWayGroups n 1 = singletons n :=
  combos_one _

theorem kWayGroups_self (n : Nat) : kWayGroups n n = [List.range n] := by
  unfold kWayGroups
  have := combos_length_self (List.range n)
  rwa [List.length_range] at this

theorem mem_kWayGroups {n k : Nat} {g : List Nat} :
    g ∈ kWayGroups n k ↔ g.Sublist (List.range n) ∧ g.length = k := mem_combos

theorem kWayGroups_coarse {n k : Nat} (hk : k < n) :
    ∀ g ∈ kWayGroups n k, ∃ g' ∈ kWayGroups n (k + 1), ∀ i ∈ g, i ∈ g' := by
  intro g hg
  obtain ⟨h1, h2⟩ := mem_kWayGroups.mp hg
  obtain ⟨g', h3, h4, h5⟩ := exists_sublist_succ h1 (by rw [h2, List.length_range]; exact hk)
  exact ⟨g', mem_kWayGroups.mpr ⟨h3, by rw [h4, h2]⟩, fun i hi => h5.subset hi⟩

theorem kWayGroups_valid {n k : Nat} {g : List Nat} (hg : g ∈ kWayGroups n k) :
    ∀ i ∈ g, i < n :=
  fun _ hi => List.mem_range.mp ((mem_kWayGroups.mp hg).1.subset hi)

end Combos

/-! ### The chain of `marginal_maxent_dists` -/

section Chain
variable {σ : Type} [DecidableEq σ]

/-- `H(p) = −Σ p log₂ p` over the stored values, the functional that C14 maximises. -/
noncomputable def Hbits (p : Tab (List σ) ℝ) : ℝ := entropyVals (Real.logb 2) (vals p)

/-- What `marginal_maxent_dists(d)` is meant to return for a source table `t` on the product
space of the alphabets `as` (`n = as.length` variables): `n + 1` tables, the first the uniform
table on the space, and the `k`-th (`1 ≤ k ≤ n`) feasible for the `k`-way marginal constraints
of `t` (`Feasible` of C14 with the groups `kWayGroups n k`) and of maximal entropy among the
feasible tables (optimality as stated in C14: `∀ p, Feasible … p → H p ≤ H P`). -/
structure IsMaxentChain (t : Tab (List σ) ℝ) (as : List (List σ))
    (chain : List (Tab (List σ) ℝ)) : Prop where
  len : chain.length = as.length + 1
  zero : chain[0]? = some (uniformOn (fun k : Nat => (k : ℝ)) (cartesian as))
  feas : ∀ k P, 1 ≤ k → k ≤ as.length → chain[k]? = some P →
    Feasible t (cartesian as) (kWayGroups as.length k) P
  opt : ∀ k P, 1 ≤ k → k ≤ as.length → chain[k]? = some P →
    ∀ p, Feasible t (cartesian as) (kWayGroups as.length k) p → Hbits p ≤ Hbits P

/-- The one `n`-way group holds all variables, so only the source is feasible for it. -/
theorem eq_of_feasible_top {t p : Tab (List σ) ℝ} {as : List (List σ)} (hnd : ∀ a ∈ as, a.Nodup)
    (hk : keys t = cartesian as)
    (hp : Feasible t (cartesian as) (kWayGroups as.length as.length) p) : p = t := by
  rw [kWayGroups_self] at hp
  exact Props.C14.chain_end t p _ (nodup_cartesian hnd) hk as.length
    (fun o ho => length_of_mem_cartesian ho) hp

variable (t : Tab (List σ) ℝ) (as : List (List σ)) (chain : List (Tab (List σ) ℝ))
  (hc : IsMaxentChain t as chain)
include hc

theorem chain_H_zero :
    (chain.map Hbits)[0]? = some (Real.logb 2 ((cartesian as).length : ℝ)) := by
  rw [List.getElem?_map, hc.zero]
  exact congrArg some (entropy_uniformOn _)

variable (hnd : ∀ a ∈ as, a.Nodup) (hk : keys t = cartesian as)
include hnd hk

theorem chain_last (hn : 1 ≤ as.length) : chain.getLast? = some t := by
  have hlt : as.length < chain.length := by rw [hc.len]; omega
  have hP := List.getElem?_eq_getElem hlt
  rw [List.getLast?_eq_getElem?, hc.len, Nat.add_sub_cancel, hP]
  exact congrArg some (eq_of_feasible_top hnd hk (hc.feas _ _ hn le_rfl hP))

theorem chain_H_last (hn : 1 ≤ as.length) : (chain.map Hbits).getLast? = some (Hbits t) := by
  rw [List.getLast?_map, chain_last t as chain hc hnd hk hn]
  rfl

variable (hmass : mass t = 1)
include hmass

/-- The entropies do not increase along the chain: the uniform table has the largest entropy on
the space, and a table with the `(k+1)`-way marginals of `t` is feasible for the `k`-way
constraints, of which the `k`-th member is the maximiser. -/
theorem chain_antitone {k : Nat} {P Q : Tab (List σ) ℝ} (hP : chain[k]? = some P)
    (hQ : chain[k + 1]? = some Q) : Hbits Q ≤ Hbits P := by
  have hkn : k + 1 ≤ as.length :=
    Nat.le_of_lt_succ ((List.getElem?_eq_some_iff.mp hQ).1.trans_eq hc.len)
  have hf := hc.feas (k + 1) Q (Nat.le_add_left 1 k) hkn hQ
  cases k with
  | zero =>
    obtain rfl := Option.some.inj (hc.zero.symm.trans hP)
    exact (Props.C14.uniform_max_entropy Q (cartesian as) (nodup_cartesian hnd) hf.keys_eq
      hf.nonneg (hf.mass_eq.trans hmass)).2.1
  | succ j =>
    exact (Props.C14.chain_monotone t P Q (cartesian as) _ _ hk
      (kWayGroups_coarse (Nat.lt_of_succ_le hkn))
      (fun o ho g' hg' i hi => by
        rw [length_of_mem_cartesian ho]; exact kWayGroups_valid hg' i hi)
      (hc.opt (j + 1) P (Nat.le_add_left 1 j) (Nat.le_of_succ_le hkn) hP) hf).2

variable (htn : ∀ r ∈ t, 0 ≤ r.2)
include htn

/-- The order-1 member has the entropy of the product of the marginals, `Σ_i H(X_i)`. -/
theorem chain_H_one (hn : 1 ≤ as.length) :
    (chain.map Hbits)[1]?
      = some ((List.range as.length).map (fun i => entropyOf (Real.logb 2) t [i])).sum := by
  have hlt : 1 < chain.length := by rw [hc.len]; omega
  have hP := List.getElem?_eq_getElem hlt
  have hf := hc.feas 1 _ le_rfl hn hP
  have ho := hc.opt 1 _ le_rfl hn hP
  rw [kWayGroups_one] at hf ho
  rw [List.getElem?_map, hP, ← Props.C14.maxent_singletons_entropy t as hnd hk htn hmass]
  exact congrArg some (le_antisymm (Props.C14.maxent_singletons t _ as hnd hk htn hmass hf).1
    (ho _ (Props.C14.maxent_singletons_feasible t as hnd hk htn hmass)))

end Chain

section ChainExample
variable {σ : Type} [DecidableEq σ]

/-- Non-vacuity of `IsMaxentChain`: for two variables, `[uniform, product of marginals, t]` is a
maximum-entropy chain of every probability table `t` on a product space. -/
theorem isMaxentChain_two (t : Tab (List σ) ℝ) (a b : List σ)
    (hnd : ∀ x ∈ [a, b], x.Nodup) (hk : keys t = cartesian [a, b]) (htn : ∀ r ∈ t, 0 ≤ r.2)
    (hmass : mass t = 1) :
    IsMaxentChain t [a, b]
      [uniformOn (fun k : Nat => (k : ℝ)) (cartesian [a, b]),
       prodMarg t (singletons 2) (cartesian [a, b]), t] := by
  have key : ∀ k P, 1 ≤ k → k ≤ 2 →
      [uniformOn (fun k : Nat => (k : ℝ)) (cartesian [a, b]),
       prodMarg t (singletons 2) (cartesian [a, b]), t][k]? = some P →
      Feasible t (cartesian [a, b]) (kWayGroups 2 k) P
        ∧ ∀ p, Feasible t (cartesian [a, b]) (kWayGroups 2 k) p → Hbits p ≤ Hbits P := by
    intro k P h1 h2 hP
    obtain rfl | rfl : k = 1 ∨ k = 2 := by omega
    · obtain rfl := Option.some.inj hP
      rw [kWayGroups_one]
      exact ⟨Props.C14.maxent_singletons_feasible t [a, b] hnd hk htn hmass,
        fun p hp => (Props.C14.maxent_singletons t p [a, b] hnd hk htn hmass hp).1⟩
    · obtain rfl := Option.some.inj hP
      exact ⟨Feasible.self _ _ _ hk htn,
        fun p hp => (congrArg Hbits (eq_of_feasible_top (as := [a, b]) hnd hk hp)).le⟩
  exact ⟨rfl, rfl, fun k P h1 h2 hP => (key k P h1 h2 hP).1,
    fun k P h1 h2 hP => (key k P h1 h2 hP).2⟩

end ChainExample

/-! ### Joint entropy and total correlation in the notation of C05 -/

section TC
variable {σ : Type} [DecidableEq σ]

/-- For a table that lists each outcome once, all outcomes of length `n`, the entropy of the
stored values is the entropy of the marginal on all variables. -/
theorem entropyOf_range_eq (t : Tab (List σ) ℝ) (n : Nat) (hnd : (keys t).Nodup)
    (hlen : ∀ o ∈ keys t, o.length = n) :
    entropyOf (Real.logb 2) t (List.range n) = entropyVals (Real.logb 2) (vals t) := by
  have hfull : ∀ o ∈ keys t, project (List.range n) o = o := fun o ho => by
    rw [← hlen o ho]; exact project_range_length o
  rw [entropyOf_rows, entropyVals_eq_sum, vals, List.map_map]
  refine congrArg (- List.sum ·)
    (List.map_congr_left fun r hr => congrArg (r.2 * Real.logb 2 ·) ?_)
  rw [hfull r.1 (mem_keys_of_mem hr), fibreSum_eq_ite]
  exact ((margAt_eq_wtBy t _ r.1).symm.trans
    (lookupD_eq_margAt_of_full t hnd _ hfull r.1).symm).trans (Table.lookupD_eq_of_mem hnd hr 0)

theorem vunions_singletons (n : Nat) : vunions (singletons n) = List.range n := by
  unfold vunions singletons
  rw [← List.flatMap_def, List.flatMap_singleton', vnorm_of_sorted List.pairwise_lt_range]

/-- The total correlation of the single variables, in the notation of C05, is
`Σ_i H(X_i) − H(X_0 … X_{n−1})` for a table of mass 1. -/
theorem eval_tc_singletons (t : Tab (List σ) ℝ) (n : Nat) (hmass : mass t = 1) :
    Comb.eval (Rat.castHom ℝ) (entropyOf (Real.logb 2) t) (tcC (singletons n) [])
      = ((List.range n).map (fun i => entropyOf (Real.logb 2) t [i])).sum
        - entropyOf (Real.logb 2) t (List.range n) := by
  have hm : (t.map (·.2)).sum = 1 := by rw [← hmass, mass_eq_sum]; rfl
  rw [eval_tcC, vunions_singletons]
  simp only [Hc_entropyOf_nil t hm, singletons, List.map_map, Function.comp_def]

end TC

end Dit.Lemmas.Connected
