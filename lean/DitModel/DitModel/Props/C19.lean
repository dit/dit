/-
C19 — Inference from data: sliding-window word counts.

"`distribution_from_data` and `dist_from_timeseries` assign to each length-`L` word exactly its
sliding-window count divided by the number of windows; `counts_from_data`'s conditional counts
add up to the history counts."

Theorems about `Dit.windows` (boltons `windowed_iter`), `Dit.wordCounts` (the `Counter` of the
windows), `Dit.condCounts` and `Dit.histCounts` (Core/Counts.lean), for every data list over any
symbol type with decidable equality and every window length. Counts are natural numbers; the
statement about frequencies is over an arbitrary field of characteristic zero.
Helper lemmas: Lemmas/Counts.lean.
-/
import DitModel.Lemmas.Counts

namespace Dit.Props.C19
open Dit Dit.Lemmas.Counts

variable {σ : Type}

/-- **Number of windows.** A data list of length `n` has `n + 1 - L` windows of length `L`
(natural subtraction: none when `L > n`). `1 ≤ L` is needed: for `L = 0` the definition (like
the Python iterator) degenerates and yields `n` empty windows, not `n + 1`. -/
theorem windows_length (L : Nat) (data : List σ) (hL : 1 ≤ L) :
    (windows L data).length = data.length + 1 - L :=
  Lemmas.Counts.windows_length L data hL

/-- **Window width.** Every window has exactly `L` symbols (for every `L`, also `L = 0`). -/
theorem windows_mem_length (L : Nat) (data : List σ) (w : List σ) (hw : w ∈ windows L data) :
    w.length = L := by
  induction data with
  | nil => cases hw
  | cons x xs ih =>
    rw [windows_cons] at hw
    split at hw
    · next h =>
      rcases List.mem_cons.mp hw with rfl | hw'
      · exact List.length_take_of_le h
      · exact ih hw'
    · cases hw

/-- **Window content.** The `i`-th window is the `L` symbols of the data starting at position
`i`: windows slide by one and come in order of their starting position. -/
theorem windows_getElem (L : Nat) (data : List σ) (i : Nat) (hi : i < (windows L data).length) :
    (windows L data)[i] = (data.drop i).take L :=
  Lemmas.Counts.windows_getElem L data i hi

/-- **No windows.** Data shorter than the window length has no windows at all (so the
frequencies are undefined: the real code divides by zero windows). -/
theorem windows_short (L : Nat) (data : List σ) (h : data.length < L) : windows L data = [] := by
  cases data with
  | nil => rfl
  | cons x xs => exact if_neg (Nat.not_le_of_lt h)

variable [DecidableEq σ]

/-- **Counts.** The count stored for a word `w` (`0` if `w` is not stored) is the number of
windows equal to `w`. -/
theorem wordCounts_count (L : Nat) (data : List σ) (w : List σ) :
    lookupD 0 (wordCounts L data) w = (windows L data).count w :=
  lookupD_countWords _ w

/-- **One row per word.** The stored words are pairwise distinct. -/
theorem wordCounts_keys_nodup (L : Nat) (data : List σ) : (keys (wordCounts L data)).Nodup :=
  nodup_keys_countWords _

/-- **Support.** A word is stored iff it occurs as a window of the data. -/
theorem wordCounts_mem_keys (L : Nat) (data : List σ) (w : List σ) :
    w ∈ keys (wordCounts L data) ↔ w ∈ windows L data :=
  mem_keys_countWords _ w

/-- **Rows.** Every stored row `(w, c)` carries the window count of `w`, which is positive, and
`w` has length `L`: no zero counts and no words of the wrong length are stored. -/
theorem wordCounts_row (L : Nat) (data : List σ) (w : List σ) (c : Nat)
    (h : (w, c) ∈ wordCounts L data) :
    c = (windows L data).count w ∧ 0 < c ∧ w.length = L := by
  have hw : w ∈ windows L data :=
    (wordCounts_mem_keys L data w).mp (Lemmas.Table.mem_keys_of_mem h)
  have hc : c = (windows L data).count w := by
    rw [← wordCounts_count, lookupD,
      (Lemmas.Table.lookup?_eq_some_iff (wordCounts_keys_nodup L data)).mpr h]
    rfl
  exact ⟨hc, hc ▸ List.count_pos_iff.mpr hw, windows_mem_length L data w hw⟩

/-- **Total.** The stored counts add up to the number of windows. -/
theorem wordCounts_sum (L : Nat) (data : List σ) :
    (vals (wordCounts L data)).sum = (windows L data).length :=
  sum_vals_countWords _

/-- **Normalisation.** When there is at least one window (`1 ≤ L ≤ length`), the frequencies
`count / #windows` — the probabilities of `distribution_from_data` — sum to one, over any field
of characteristic zero (e.g. `ℚ`, `ℝ`). Both hypotheses are needed: they say that the number of
windows `length + 1 - L` is the right denominator and is not zero. -/
theorem freq_sum_one {α : Type} [Field α] [CharZero α] (L : Nat) (data : List σ)
    (hL : 1 ≤ L) (hd : L ≤ data.length) :
    ((vals (wordCounts L data)).map
      (fun c : Nat => (c : α) / ((data.length + 1 - L : Nat) : α))).sum = 1 := by
  apply sum_map_cast_div
  · omega
  · rw [wordCounts_sum, windows_length L data hL]

/-- **Frequencies are at most one.** A count is at most the number of windows (a stored count is
positive by `wordCounts_row`). -/
theorem wordCounts_le (L : Nat) (data : List σ) (w : List σ) :
    lookupD 0 (wordCounts L data) w ≤ (windows L data).length := by
  rw [wordCounts_count]; exact List.count_le_length

/-- **History counts.** The count stored for a history `h'` is the sum of the counts of the
words whose first `h` symbols are `h'` (for any table of word counts `wc`). -/
theorem histCounts_spec (h : Nat) (wc : Tab (List σ) Nat) (h' : List σ) :
    lookupD 0 (histCounts h wc) h' =
      ((wc.filter (fun r => r.1.take h = h')).map (·.2)).sum := by
  rw [histCounts, Lemmas.Table.lookupD_pushforward, Lemmas.Table.wtBy_eq_sum_filter]

/-- **Conditional counts add up to history counts.** Summing the conditional counts
`condCounts` over all futures of a history `h'` gives the history count of `h'`. -/
theorem cond_counts_sum (h : Nat) (wc : Tab (List σ) Nat) (h' : List σ) :
    (((condCounts h wc).filter (fun r => r.1.1 = h')).map (·.2)).sum =
      lookupD 0 (histCounts h wc) h' := by
  rw [histCounts_spec]
  simp [condCounts, List.filter_map, Function.comp_def]

/-- **Splitting loses nothing.** A conditional-count row is a word-count row split at `h`:
gluing history and future back gives the word, with the same count. -/
theorem condCounts_row (h : Nat) (wc : Tab (List σ) Nat) (a b : List σ) (c : Nat) :
    ((a, b), c) ∈ condCounts h wc ↔ ∃ w, (w, c) ∈ wc ∧ w.take h = a ∧ w.drop h = b := by
  unfold condCounts
  rw [List.mem_map]
  constructor
  · rintro ⟨⟨w, c'⟩, hm, he⟩
    simp only [Prod.mk.injEq] at he
    obtain ⟨⟨h1, h2⟩, h3⟩ := he
    subst h3
    exact ⟨w, hm, h1, h2⟩
  · rintro ⟨w, hm, h1, h2⟩
    exact ⟨(w, c), hm, by simp [h1, h2]⟩

/-- **Distinct (history, future) pairs.** Distinct words give distinct pairs. -/
theorem condCounts_keys_nodup (h : Nat) (wc : Tab (List σ) Nat) (hn : (keys wc).Nodup) :
    (keys (condCounts h wc)).Nodup := by
  have e : keys (condCounts h wc) = (keys wc).map (fun w => (w.take h, w.drop h)) := by
    simp [keys, condCounts, Function.comp_def]
  rw [e]
  refine List.Nodup.map ?_ hn
  intro w1 w2 he
  simp only [Prod.mk.injEq] at he
  rw [← List.take_append_drop h w1, ← List.take_append_drop h w2, he.1, he.2]

/-- **One row per history**, and a history is stored iff it is the prefix of a stored word. -/
theorem histCounts_keys (h : Nat) (wc : Tab (List σ) Nat) :
    (keys (histCounts h wc)).Nodup ∧
      ∀ h', h' ∈ keys (histCounts h wc) ↔ ∃ w ∈ keys wc, w.take h = h' :=
  ⟨Lemmas.Table.keys_pushforward_nodup _ _, Lemmas.Table.mem_keys_pushforward _ wc⟩

/-- **Totals preserved.** Conditional counts, history counts and word counts have the same
total (for `wc = wordCounts L data`: the number of windows). -/
theorem histCounts_total (h : Nat) (wc : Tab (List σ) Nat) :
    (vals (histCounts h wc)).sum = (vals wc).sum ∧
      (vals (condCounts h wc)).sum = (vals wc).sum := by
  refine ⟨?_, ?_⟩
  · rw [← Lemmas.Table.mass_eq_sum, ← Lemmas.Table.mass_eq_sum]
    exact Lemmas.Table.mass_pushforward _ wc
  · simp [vals, condCounts, Function.comp_def]

/-- **History counts from the data.** The history counts obtained from the length-`(h+f)`
windows count, for each history `h'`, the occurrences of `h'` among the first
`length + 1 - (h+f)` windows of length `h` — all length-`h` windows except the last `f`, which
have no future of length `f`. (`1 ≤ h + f` as in `windows_length`.) -/
theorem histCounts_eq_windows (h f : Nat) (data : List σ) (hL : 1 ≤ h + f) (h' : List σ) :
    lookupD 0 (histCounts h (wordCounts (h + f) data)) h' =
      ((windows h data).take (data.length + 1 - (h + f))).count h' := by
  rw [histCounts, Lemmas.Table.lookupD_pushforward, wordCounts, wtBy_countWords,
    ← windows_length (h + f) data hL, ← map_take_windows, count_map_take]

/-! ### Examples (non-vacuity) -/

example : windows 2 [0, 1, 0, 1, 1] = [[0, 1], [1, 0], [0, 1], [1, 1]] := by decide +kernel
example : wordCounts 2 [0, 1, 0, 1, 1] = [([0, 1], 2), ([1, 0], 1), ([1, 1], 1)] := by
  decide +kernel
example : wordCounts 6 [0, 1, 0, 1, 1] = [] := by decide +kernel
example : condCounts 1 (wordCounts 2 [0, 1, 0, 1, 1]) =
    [(([0], [1]), 2), (([1], [0]), 1), (([1], [1]), 1)] := by decide +kernel
example : histCounts 1 (wordCounts 2 [0, 1, 0, 1, 1]) = [([0], 2), ([1], 2)] := by
  decide +kernel
/-- Hypotheses of `freq_sum_one` and `histCounts_eq_windows` at `L = 2 = 1 + 1`, five symbols. -/
example : 1 ≤ 2 ∧ 2 ≤ [0, 1, 0, 1, 1].length ∧ 1 ≤ 1 + 1 := by decide
example : (windows 1 [0, 1, 0, 1, 1]).take (5 + 1 - (1 + 1)) = [[0], [1], [0], [1]] := by
  decide +kernel
/-- A stored row, hypothesis of `wordCounts_row`. -/
example : (([0, 1] : List Nat), 2) ∈ wordCounts 2 [0, 1, 0, 1, 1] := by decide +kernel
/-- Duplicate-free keys, hypothesis of `condCounts_keys_nodup`. -/
example : (keys (wordCounts 2 [0, 1, 0, 1, 1])).Nodup := by decide +kernel
/-- The degenerate `L = 0` case excluded from `windows_length`. -/
example : windows 0 [7, 8] = [[], []] := by decide +kernel

end Dit.Props.C19
