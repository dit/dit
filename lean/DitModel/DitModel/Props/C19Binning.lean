/-
C19 (binning clause) — "`binned()` assigns every sample to one of the requested bins, uniformly
spaced or equally populated."

Theorems about `Dit.uniformBin` (Core/Examples.lean; model of `uniform_binning`:
`int(bins·(x − min)/(max − min + 1e-12))`) and about `Dit.sortAsc`, `Dit.quantileSorted`,
`Dit.maxentThresholds`, `Dit.maxentLoop`, `Dit.maxentBinning`, `Dit.countLE` (Core/Binning.lean;
model of `maxent_binning`: NumPy linear-interpolation percentiles at `100·i/bins`, the first and the
last replaced by `∓∞`, then the loop `symb[(a <= ts) & (ts < b)] = i`), over an arbitrary
linearly ordered field `α` with the cast `fun n : Nat => (n : α)` for `ofNat`, for all sample
lists and all `bins`.  Helper lemmas: Lemmas/Binning.lean.  The sliding-window part of C19 is
Props/C19.lean.
-/
import DitModel.Lemmas.Binning
import Mathlib.Algebra.Field.Rat
import Mathlib.Algebra.Order.Ring.Rat
import Mathlib.Tactic.Linarith

namespace Dit.Props.C19Binning
open Dit Dit.Lemmas.Binning

variable {α : Type} [Field α] [LinearOrder α] [IsStrictOrderedRing α]

/-! ### `uniform_binning` -/

set_option linter.unusedSectionVars false in
/-- **Uniform: every sample gets one of the requested bins.** For `bins ≥ 1` the label is below
`bins`, whatever `lo`, `range`, `eps` and the sample are (the model is a fold over `0..bins−1`
that starts from `0`). `0 < bins` is needed: for `bins = 0` the label is `0`, not `< 0`. -/
theorem uniformBin_lt {bins : Nat} (hb : 0 < bins) (lo range eps x : α) :
    uniformBin (fun n : Nat => (n : α)) bins lo range eps x < bins := by
  rw [uniformBin_eq_findGreatest]
  exact lt_of_le_of_lt (Nat.findGreatest_le _) (Nat.sub_lt hb Nat.one_pos)

example : (0 : Nat) < 4 := by decide
example : uniformBin (fun n : Nat => (n : Rat)) 4 0 3 (1 / 1000) 3 = 3 := by decide +kernel

/-- **Uniform: the label is the floor** `⌊bins·(x − lo)/(range + eps)⌋`: for a positive
denominator, a sample not below `lo` and below the top (`bins·(x−lo) < bins·(range+eps)`, which
holds for every `x ≤ lo + range` when `eps > 0`), `k` is the label iff
`k·(range+eps) ≤ bins·(x−lo) < (k+1)·(range+eps)`. The hypotheses are needed: for `x < lo` the
model returns `0` (Python's `int` truncates towards zero, also `0` for `x` just below `lo`, but
negative further down), and above the top the fold stops at `bins − 1`. -/
theorem uniformBin_spec {bins : Nat} (hb : 0 < bins) {lo range eps x : α} (hw : 0 < range + eps)
    (hlo : lo ≤ x) (hhi : (bins : α) * (x - lo) < (bins : α) * (range + eps)) (k : Nat) :
    k = uniformBin (fun n : Nat => (n : α)) bins lo range eps x
      ↔ (k : α) * (range + eps) ≤ (bins : α) * (x - lo)
          ∧ (bins : α) * (x - lo) < ((k : α) + 1) * (range + eps) :=
  Lemmas.Binning.uniformBin_spec hb hw hlo hhi k

example : (0 : Nat) < 4 ∧ (0 : Rat) < 3 + 1 / 1000 ∧ (0 : Rat) ≤ 2
    ∧ ((4 : Nat) : Rat) * (2 - 0) < ((4 : Nat) : Rat) * (3 + 1 / 1000) := by decide +kernel
example : uniformBin (fun n : Nat => (n : Rat)) 4 0 3 (1 / 1000) 2 = 2 := by decide +kernel

/-- **Uniformly spaced.** The same statement as intervals: bin `k` is exactly the half-open
interval `[lo + k·w, lo + (k+1)·w)` where `w = (range + eps)/bins` is the same for all bins. -/
theorem uniformBin_interval {bins : Nat} (hb : 0 < bins) {lo range eps x : α}
    (hw : 0 < range + eps) (hlo : lo ≤ x) (hhi : x < lo + (range + eps)) (k : Nat) :
    k = uniformBin (fun n : Nat => (n : α)) bins lo range eps x
      ↔ lo + (k : α) * ((range + eps) / (bins : α)) ≤ x
          ∧ x < lo + ((k : α) + 1) * ((range + eps) / (bins : α)) := by
  have hbpos : (0 : α) < (bins : α) := Nat.cast_pos.mpr hb
  rw [uniformBin_spec hb hw hlo (mul_lt_mul_of_pos_left (sub_lt_iff_lt_add'.mpr hhi) hbpos) k,
    ← le_sub_iff_add_le', ← sub_lt_iff_lt_add', ← mul_div_assoc, ← mul_div_assoc,
    div_le_iff₀ hbpos, lt_div_iff₀ hbpos, mul_comm (x - lo)]

example : (0 : Nat) < 4 ∧ (0 : Rat) < 3 + 1 / 1000 ∧ (1 : Rat) ≤ 3 ∧ (3 : Rat) < 1 + (3 + 1 / 1000) := by
  decide +kernel
example : uniformBin (fun n : Nat => (n : Rat)) 4 1 3 (1 / 1000) 3 = 2 := by decide +kernel

/-- **Uniform: monotone.** A larger sample never gets a smaller label; no hypothesis is needed
(not even a positive denominator). -/
theorem uniformBin_mono (bins : Nat) (lo range eps : α) {x y : α} (hxy : x ≤ y) :
    uniformBin (fun n : Nat => (n : α)) bins lo range eps x
      ≤ uniformBin (fun n : Nat => (n : α)) bins lo range eps y := by
  rw [uniformBin_eq_findGreatest, uniformBin_eq_findGreatest]
  exact Nat.findGreatest_mono_left (fun k hk => hk.trans
    (mul_le_mul_of_nonneg_left (sub_le_sub_right hxy lo) (Nat.cast_nonneg bins))) _

example : uniformBin (fun n : Nat => (n : Rat)) 4 0 3 (1 / 1000) 1 = 1
    ∧ uniformBin (fun n : Nat => (n : Rat)) 4 0 3 (1 / 1000) (5 / 2) = 3 := by decide +kernel

/-- **Uniform: the minimum is in bin `0`** (positive denominator needed: with `range + eps ≤ 0`
every test of the fold succeeds and the minimum lands in bin `bins − 1`). -/
theorem uniformBin_min (bins : Nat) {lo range eps : α} (hw : 0 < range + eps) :
    uniformBin (fun n : Nat => (n : α)) bins lo range eps lo = 0 := by
  rw [uniformBin_eq_findGreatest, Nat.findGreatest_eq_zero_iff, sub_self, mul_zero]
  exact fun k hk _ => not_le.mpr (mul_pos (Nat.cast_pos.mpr hk) hw)

example : (0 : Rat) < 3 + 1 / 1000 := by decide +kernel
example : uniformBin (fun n : Nat => (n : Rat)) 4 1 3 (1 / 1000) 1 = 0 := by decide +kernel

/-- **Uniform: the maximum is in bin `bins − 1`**, so both end bins are used, as long as the
slack is small against the spread: `(bins − 1)·eps ≤ range`. The hypothesis is needed (and is
exactly what the test of the last pass says): for constant data, `range = 0 < eps`, all samples
are in bin `0`. Positivity of `eps` is not needed for this direction. -/
theorem uniformBin_max {bins : Nat} (hb : 0 < bins) {lo range eps : α}
    (he : ((bins : α) - 1) * eps ≤ range) :
    uniformBin (fun n : Nat => (n : α)) bins lo range eps (lo + range) = bins - 1 := by
  rw [uniformBin_eq_findGreatest]
  refine Nat.findGreatest_eq ?_
  rw [Nat.cast_pred hb]
  linarith

example : (0 : Nat) < 4 ∧ (((4 : Nat) : Rat) - 1) * (1 / 1000) ≤ 3 := by decide +kernel
example : uniformBin (fun n : Nat => (n : Rat)) 4 1 3 (1 / 1000) (1 + 3) = 4 - 1 := by decide +kernel
example : uniformBin (fun n : Nat => (n : Rat)) 4 1 0 (1 / 1000) (1 + 0) = 0 := by decide +kernel

/-! ### `maxent_binning`: the assignment loop -/

set_option linter.unusedSectionVars false in
/-- **Maxent: every sample is assigned**, for ANY list of thresholds (sorted or not, of any
length): with `bins ≥ 1` some pass of the loop fires, so no `NaN` is left in `symb`. (Pass `0` has
no lower test, the last pass no upper test, and failing the upper test of pass `i` is passing the
lower test of pass `i+1`.) For `bins = 0` the loop is empty and the result is `none`. -/
theorem maxentLoop_isSome (ths : List α) {bins : Nat} (hb : 0 < bins) (x : α) :
    (maxentLoop ths bins x).isSome = true := by
  obtain ⟨r, h, _⟩ := maxentLoop_some ths hb x
  rw [h]; rfl

example : (0 : Nat) < 3 := by decide
example : maxentLoop [(5 : Rat), 1, 7, 0] 3 2 = some 1 := by decide +kernel

set_option linter.unusedSectionVars false in
/-- **Maxent: the label is one of the requested bins**: whenever the loop assigns `k`, `k < bins`. -/
theorem maxentLoop_lt (ths : List α) (bins : Nat) (x : α) (k : Nat)
    (h : maxentLoop ths bins x = some k) : k < bins := by
  cases bins with
  | zero => cases h
  | succ n =>
    rw [maxentLoop_succ] at h
    split at h
    · cases h
      exact Nat.lt_succ_of_le (Nat.findGreatest_le n)
    · cases h

example : maxentLoop [(0 : Rat), 1, 2, 3] 3 (3 / 2) = some 1 := by decide +kernel

set_option linter.unusedSectionVars false in
/-- **Maxent: closed form of the label.** If the thresholds are non-decreasing (indices
`0..bins`), the label is the number of interior thresholds `t_1..t_{bins−1}` that are `≤ x`.
Sortedness is needed: for thresholds `[_, 1, 5, 3, _]`, `bins = 4` and `x = 4` passes `1` and `3`
fire, the loop keeps the last one, `3`, while only two interior thresholds are `≤ 4`. -/
theorem maxentLoop_eq_countLE (ths : List α) {bins : Nat} (hb : 0 < bins) (x : α)
    (hs : ∀ i j, i ≤ j → j ≤ bins → ths.getD i 0 ≤ ths.getD j 0) :
    maxentLoop ths bins x = some (countLE ths bins x) :=
  Lemmas.Binning.maxentLoop_eq_countLE ths hb x hs

example : (0 : Nat) < 3 ∧ ∀ i j, i ≤ j → j ≤ 3 → [(0 : Rat), 1, 2, 3].getD i 0 ≤ [(0 : Rat), 1, 2, 3].getD j 0 := by
  exact ⟨by decide, fun i j hij hj =>
    sorted_getD_le (by decide +kernel) hij (Nat.lt_succ_of_le hj)⟩
example : maxentLoop [(0 : Rat), 1, 5, 3, 9] 4 4 = some 3 ∧ countLE [(0 : Rat), 1, 5, 3, 9] 4 4 = 2 := by
  decide +kernel

set_option linter.unusedSectionVars false in
/-- **Maxent: monotone.** With non-decreasing thresholds a larger sample never gets a smaller
label. -/
theorem maxentLoop_mono (ths : List α) {bins : Nat} (hb : 0 < bins) {x y : α} (hxy : x ≤ y)
    (hs : ∀ i j, i ≤ j → j ≤ bins → ths.getD i 0 ≤ ths.getD j 0) :
    ∃ kx ky, maxentLoop ths bins x = some kx ∧ maxentLoop ths bins y = some ky ∧ kx ≤ ky :=
  ⟨_, _, Lemmas.Binning.maxentLoop_eq_countLE ths hb x hs,
    Lemmas.Binning.maxentLoop_eq_countLE ths hb y hs, countLE_mono ths bins hxy⟩

example : maxentLoop [(0 : Rat), 1, 2, 3] 3 (1 / 2) = some 0
    ∧ maxentLoop [(0 : Rat), 1, 2, 3] 3 (5 / 2) = some 2 := by decide +kernel

/-! ### `maxent_binning`: sorting and percentiles -/

set_option linter.unusedSectionVars false in
/-- **Sorting keeps the samples**: `sortAsc ts` is a permutation of `ts`. -/
theorem sortAsc_perm (ts : List α) : (sortAsc ts).Perm ts :=
  Lemmas.Binning.sortAsc_perm ts

set_option linter.unusedSectionVars false in
/-- **Sorting sorts**: `sortAsc ts` is non-decreasing. -/
theorem sortAsc_sorted (ts : List α) : (sortAsc ts).Pairwise (· ≤ ·) :=
  Lemmas.Binning.sortAsc_sorted ts

/-- **A percentile lies between its two neighbouring order statistics**: for sorted non-empty
`a` and a fraction `num/den ≤ 1`, with `v = num·(n−1)/den`,
`a[⌊v⌋] ≤ percentile ≤ a[min(⌊v⌋+1, n−1)]`. `num ≤ den` keeps `⌊v⌋` a valid position. -/
theorem quantileSorted_between {a : List α} (hs : a.Pairwise (· ≤ ·)) (hne : 0 < a.length)
    {num den : Nat} (hnd : num ≤ den) (hd : 0 < den) :
    a.getD (num * (a.length - 1) / den) 0 ≤ quantileSorted (fun n : Nat => (n : α)) a num den
      ∧ quantileSorted (fun n : Nat => (n : α)) a num den
          ≤ a.getD (min (num * (a.length - 1) / den + 1) (a.length - 1)) 0 :=
  Lemmas.Binning.quantileSorted_between hs hne hnd hd

example : [(1 : Rat), 2, 4, 8].Pairwise (· ≤ ·) ∧ 0 < [(1 : Rat), 2, 4, 8].length ∧ 1 ≤ 2 ∧ 0 < 2 := by
  decide +kernel
example : quantileSorted (fun n : Nat => (n : Rat)) [1, 2, 4, 8] 1 2 = 3 := by decide +kernel

set_option linter.unusedSectionVars false in
/-- **The 0th percentile is the minimum** of the samples (for every `den`, also `0`). -/
theorem quantileSorted_zero (ts : List α) (hne : ts ≠ []) (den : Nat) :
    quantileSorted (fun n : Nat => (n : α)) (sortAsc ts) 0 den ∈ ts
      ∧ ∀ x ∈ ts, quantileSorted (fun n : Nat => (n : α)) (sortAsc ts) 0 den ≤ x := by
  rw [Lemmas.Binning.quantileSorted_zero]
  exact (sortAsc_min_max ts hne).1

example : quantileSorted (fun n : Nat => (n : Rat)) (sortAsc [3, 1, 2]) 0 4 = 1 := by decide +kernel

set_option linter.unusedSectionVars false in
/-- **The 100th percentile is the maximum** of the samples. -/
theorem quantileSorted_full (ts : List α) (hne : ts ≠ []) {den : Nat} (hd : 0 < den) :
    quantileSorted (fun n : Nat => (n : α)) (sortAsc ts) den den ∈ ts
      ∧ ∀ x ∈ ts, x ≤ quantileSorted (fun n : Nat => (n : α)) (sortAsc ts) den den := by
  rw [Lemmas.Binning.quantileSorted_full _ hd]
  exact (sortAsc_min_max ts hne).2

example : quantileSorted (fun n : Nat => (n : Rat)) (sortAsc [3, 1, 2]) 4 4 = 3 := by decide +kernel

/-- **Percentiles are monotone in the fraction**: for sorted non-empty `a` and
`num ≤ num' ≤ den`, the percentile at `num/den` is at most the one at `num'/den`. -/
theorem quantileSorted_mono {a : List α} (hs : a.Pairwise (· ≤ ·)) (hne : 0 < a.length)
    {num num' den : Nat} (h1 : num ≤ num') (h2 : num' ≤ den) (hd : 0 < den) :
    quantileSorted (fun n : Nat => (n : α)) a num den
      ≤ quantileSorted (fun n : Nat => (n : α)) a num' den :=
  Lemmas.Binning.quantileSorted_mono hs hne h1 h2 hd

example : quantileSorted (fun n : Nat => (n : Rat)) [1, 2, 4, 8] 1 3 = 2
    ∧ quantileSorted (fun n : Nat => (n : Rat)) [1, 2, 4, 8] 2 3 = 4 := by decide +kernel

/-- **The thresholds are sorted**: the `bins + 1` percentiles are non-decreasing, for every
sample list (the empty one included, where the model gives all zeros) and every `bins`. -/
theorem maxentThresholds_sorted (bins : Nat) (ts : List α) :
    (maxentThresholds (fun n : Nat => (n : α)) bins ts).Pairwise (· ≤ ·) := by
  rw [List.pairwise_iff_getElem]
  intro i j hi hj hij
  rw [maxentThresholds_length] at hj
  rw [← List.getD_eq_getElem _ 0 hi, ← List.getD_eq_getElem _ 0]
  exact maxentThresholds_mono bins ts i j hij.le (Nat.le_of_lt_succ hj)

/-! ### `maxent_binning` as a whole -/

/-- **Maxent: every sample gets one of the requested bins, monotonically.** For `bins ≥ 1` and
every sample list: every entry of the result is `some k` with `k < bins` (no `NaN`), the result
has one entry per sample, and whenever `ts[i] ≤ ts[j]` the label of `ts[i]` is at most the label
of `ts[j]` (in particular equal samples get equal labels). Non-emptiness of `ts` is not needed. -/
theorem maxentBinning_total_mono {bins : Nat} (hb : 0 < bins) (ts : List α) :
    (maxentBinning (fun n : Nat => (n : α)) bins ts).length = ts.length
      ∧ (∀ e ∈ maxentBinning (fun n : Nat => (n : α)) bins ts, ∃ k, e = some k ∧ k < bins)
      ∧ ∀ i j (hi : i < ts.length) (hj : j < ts.length), ts[i] ≤ ts[j] →
          ∃ ki kj, (maxentBinning (fun n : Nat => (n : α)) bins ts)[i]? = some (some ki)
            ∧ (maxentBinning (fun n : Nat => (n : α)) bins ts)[j]? = some (some kj) ∧ ki ≤ kj := by
  have heq := Lemmas.Binning.maxentBinning_eq_countLE (α := α) hb ts
  refine ⟨by rw [heq, List.length_map], fun e he => ?_, fun i j hi hj hij => ?_⟩
  · rw [heq, List.mem_map] at he
    obtain ⟨x, _, rfl⟩ := he
    exact ⟨_, rfl, countLE_lt _ hb x⟩
  · rw [heq, List.getElem?_map, List.getElem?_map, List.getElem?_eq_getElem hi,
      List.getElem?_eq_getElem hj]
    exact ⟨_, _, rfl, rfl, countLE_mono _ bins hij⟩

example : (0 : Nat) < 3 := by decide
example : maxentBinning (fun n : Nat => (n : Rat)) 3 [5, 1, 4, 2, 3, 6]
    = [some 2, some 0, some 1, some 0, some 1, some 2] := by decide +kernel

/-- **Equally populated.** For pairwise distinct samples (`n` of them) and `bins ≥ 1`, every
label `k < bins` is received by at least `⌊(n−1)/bins⌋` and at most `⌈n/bins⌉` samples (natural
division). Distinctness is needed: all samples equal to a threshold go to the same bin, e.g.
constant data end up in a single bin. -/
theorem maxentBinning_equally_populated {bins : Nat} (hb : 0 < bins) (ts : List α) (hn : ts.Nodup)
    {k : Nat} (hk : k < bins) :
    (ts.length - 1) / bins ≤ (maxentBinning (fun n : Nat => (n : α)) bins ts).count (some k)
      ∧ (maxentBinning (fun n : Nat => (n : α)) bins ts).count (some k)
          ≤ (ts.length + bins - 1) / bins := by
  rw [count_maxentBinning hb]
  rcases Nat.eq_zero_or_pos ts.length with h0 | hne
  · obtain rfl := List.length_eq_zero_iff.mp h0
    exact ⟨(Nat.zero_div bins).le, Nat.zero_le _⟩
  · -- with `n = m + 1` samples the bounds read `m / bins` and `m / bins + 1`
    obtain ⟨m, hm⟩ := Nat.exists_eq_add_one_of_ne_zero hne.ne'
    rw [countP_eq_sub (fun x => countLE (maxentThresholds (Nat.cast : Nat → α) bins ts) bins x),
      countP_label_lt ts hn hne hk, hm, Nat.add_sub_cancel, Nat.add_right_comm m 1 bins,
      Nat.add_sub_cancel, Nat.add_div_right m hb]
    rcases Nat.lt_or_ge (k + 1) bins with hk1 | hk1
    · -- an inner bin: the difference of two consecutive ceilings
      rw [countP_label_lt ts hn hne hk1, hm, Nat.add_sub_cancel, Nat.succ_mul]
      exact (ceil_add_bounds (k * m) m hb).imp Nat.le_sub_of_add_le' Nat.sub_le_iff_le_add'.mpr
    · -- the last bin: all `m + 1` samples but those below it, which is exactly `m / bins + 1`
      obtain rfl := Nat.le_antisymm hk1 hk
      have e : m + 1 = m / (k + 1) + 1 + (k * m + (k + 1) - 1) / (k + 1) := by
        rw [Nat.add_right_comm (m / (k + 1)) 1, Nat.add_comm (m / (k + 1)), ceil_mul_succ]
      rw [List.countP_eq_length.mpr (fun x _ => decide_eq_true (countLE_lt _ hb x)), hm,
        Nat.sub_eq_of_eq_add e]
      exact ⟨Nat.le_succ _, le_refl _⟩

example : (0 : Nat) < 3 ∧ [(5 : Rat), 1, 4, 2, 3, 6, 7].Nodup ∧ 1 < 3 := by decide +kernel
example : (maxentBinning (fun n : Nat => (n : Rat)) 3 [5, 1, 4, 2, 3, 6, 7]).count (some 1) = 2
    ∧ (7 - 1) / 3 = 2 ∧ (7 + 3 - 1) / 3 = 3 := by decide +kernel

/-- **Equally populated, in round numbers**: at least `n/bins − 1` and at most
`(n + bins − 1)/bins + 1` samples per label (a corollary of `maxentBinning_equally_populated`). -/
theorem maxentBinning_equally_populated' {bins : Nat} (hb : 0 < bins) (ts : List α) (hn : ts.Nodup)
    {k : Nat} (hk : k < bins) :
    ts.length / bins - 1 ≤ (maxentBinning (fun n : Nat => (n : α)) bins ts).count (some k)
      ∧ (maxentBinning (fun n : Nat => (n : α)) bins ts).count (some k)
          ≤ (ts.length + bins - 1) / bins + 1 := by
  obtain ⟨h1, h2⟩ := maxentBinning_equally_populated hb ts hn hk
  have h3 : ts.length / bins ≤ (ts.length - 1) / bins + 1 := by
    rw [← Nat.add_div_right _ hb]
    exact Nat.div_le_div_right (Nat.le_add_of_sub_le (Nat.sub_le_sub_left hb _))
  exact ⟨(Nat.sub_le_of_le_add h3).trans h1, h2.trans (Nat.le_succ _)⟩

example : (0 : Nat) < 2 ∧ [(5 : Rat), 1, 4].Nodup ∧ 0 < 2 := by decide +kernel
example : maxentBinning (fun n : Nat => (n : Rat)) 2 [5, 1, 4] = [some 1, some 0, some 1] := by
  decide +kernel

end Dit.Props.C19Binning
