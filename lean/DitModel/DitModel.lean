import DitModel.Core.Table
import DitModel.Core.Sampling
import DitModel.Core.Counts
import DitModel.Core.Simplex
import DitModel.Core.Dist
import DitModel.Core.Coalesce
import DitModel.Props.C12
import DitModel.Core.Info
import DitModel.Props.C19
import DitModel.Props.C20
import DitModel.Props.C02
import DitModel.Core.Aitchison
import DitModel.Props.C09
import DitModel.Props.C04
import DitModel.Props.C05
import DitModel.Props.C01
import DitModel.Core.Ops
import DitModel.Core.Constructors
import DitModel.Props.C07
import DitModel.Core.Diverge
import DitModel.Props.C03
import DitModel.Props.C11
import DitModel.Props.C06
import DitModel.Core.Partition
import DitModel.Core.Lattice
import DitModel.Props.C17
import DitModel.Props.C18
import DitModel.Core.Query
import DitModel.Props.C10
import DitModel.Core.Channel
import DitModel.Props.C13
import DitModel.Core.Meet
import DitModel.Props.C16
import DitModel.Core.Maxent
import DitModel.Core.Transform
import DitModel.Props.C08
import DitModel.Props.C14
import DitModel.Core.AuxJoint
import DitModel.Props.C15
import DitModel.Core.Examples
import DitModel.Core.Binning
import DitModel.Lemmas.ListBasics
import DitModel.Lemmas.GroupsBy
import DitModel.Lemmas.Examples
import DitModel.Props.C11Examples
import DitModel.Lemmas.Binning
import DitModel.Props.C19Binning
import DitModel.Lemmas.Chain
import DitModel.Props.C16Chain
import DitModel.Lemmas.DivInv
import DitModel.Props.C08Div
import DitModel.Core.BA
import DitModel.Core.CapLoop
import DitModel.Lemmas.BA
import DitModel.Props.C13BA
import DitModel.Lemmas.CapLoop
import DitModel.Props.C13Cap
import DitModel.Core.PruneExpand
import DitModel.Core.Connected
import DitModel.Core.Diverge2
import DitModel.Lemmas.PruneExpand
import DitModel.Props.C11Prune
import DitModel.Lemmas.Connected
import DitModel.Props.C18Conn
import DitModel.Lemmas.Diverge2
import DitModel.Props.C06Chernoff
import DitModel.Core.SigAlg
import DitModel.Lemmas.SigAlg
import DitModel.Props.C16Sigma
import DitModel.Core.SetPart
import DitModel.Lemmas.Bounds
import DitModel.Props.C15Bounds
import DitModel.Lemmas.SetPart
import DitModel.Props.C16Fci
import DitModel.Core.Wedge
import DitModel.Lemmas.Wedge
import DitModel.Props.C17Wedge
import DitModel.Lemmas.MaxCorr
import DitModel.Props.C06MaxCorr
import DitModel.Lemmas.Caekl
import DitModel.Props.C05Partitions
import DitModel.Lemmas.FciBound
import DitModel.Props.C16FciBound
import DitModel.Lemmas.FciMss
import DitModel.Props.C16FciMss
import DitModel.Core.FDiv
import DitModel.Lemmas.FDiv
import DitModel.Props.C06FDiv
import DitModel.Core.Generator
import DitModel.Core.Memo
import DitModel.Lemmas.SamplingMore
import DitModel.Props.C12More
import DitModel.Props.C10Memo
