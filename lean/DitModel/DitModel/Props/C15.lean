/-
C15 — Auxiliary-variable optimisers (`dit.algorithms.optimization.BaseAuxVarOptimizer`).

For every admissible parameter vector the constructed joint is a proper joint distribution, its
restriction to the original variables is the input, each auxiliary variable depends only on its
declared parents, the reported objective is the named entropy combination of that joint, and the
bounds on intrinsic mutual information and on the information bottleneck hold at every feasible
point.

Tables are `Tab (List Nat) α` keyed by index tuples. Parts about sums are over a field `α`
(`ofNat := Nat.cast`, `CharZero` so that the uniform fallback row `1/bound` is defined); parts
about entropies are at `ℝ` with `H := entropyOf (Real.logb 2)`.
Helper lemmas: Lemmas/AuxJoint.lean, Lemmas/Bounds.lean.
-/
import DitModel.Lemmas.AuxJoint
import DitModel.Props.C05

namespace Dit.Props.C15
open Dit Dit.Lemmas.Table Dit.Lemmas.InfoAlg
open Dit.Lemmas.AuxJoint (chanAt chanProd constChan copyChan GoodCast goodCast_natCast exT
  wtBy_auxStep_old wtBy_auxStep_new_parents constructJoint_cons auxStep_nonneg chanAt_nonneg
  chanAt_row_sum_natCast copyChan_row_of_fit)
open Dit.Lemmas.Bounds (cmi_transfer cmi_agree cmi_eq_left mi_le_of_cmi_zero)

/-! ## Channels are row-stochastic -/

section Channel
variable {α : Type} [Field α] [DecidableEq α] [CharZero α]

/-- **Every row of a channel sums to one**, whatever the parameters: a row of non-zero total is
normalised, a row of total zero becomes uniform. `bound ≥ 1` is needed (an empty alphabet has no
distribution); `CharZero` makes `1 / bound` the uniform weight. -/
theorem channel_stochastic (shape : List Nat) (bound : Nat) (params : List α)
    (parents : List Nat) (hb : 1 ≤ bound) :
    ((List.range bound).map
      (fun k => channelOf (fun n : Nat => (n : α)) shape bound params parents k)).sum = 1 :=
  Lemmas.AuxJoint.channel_row_sum _ shape bound params parents rfl
    (Nat.cast_ne_zero.mpr (by omega))

example : (1 : Nat) ≤ 2 := by decide
/-- Both branches occur: parent value `0` reads the row `[1, 3]`, parent value `1` a zero row. -/
example : (List.range 2).map (channelOf (fun n : Nat => (n : Rat)) [2] 2 [1, 3, 0, 0] [0])
    = [1 / 4, 3 / 4] := by decide +kernel
example : (List.range 2).map (channelOf (fun n : Nat => (n : Rat)) [2] 2 [1, 3, 0, 0] [1])
    = [1 / 2, 1 / 2] := by decide +kernel
/-- Missing parameters read as `0`: a too short vector gives uniform rows. -/
example : (List.range 2).map (channelOf (fun n : Nat => (n : Rat)) [2] 2 [1, 3] [1])
    = [1 / 2, 1 / 2] := by decide +kernel

end Channel

section ChannelOrd
variable {α : Type} [Field α] [LinearOrder α] [IsStrictOrderedRing α]

/-- **Channel entries are non-negative** when the parameters are (the optimiser's box
constraints `0 ≤ x ≤ 1`). -/
theorem channel_nonneg (shape : List Nat) (bound : Nat) (params : List α) (parents : List Nat)
    (k : Nat) (hp : ∀ p ∈ params, 0 ≤ p) :
    0 ≤ channelOf (fun n : Nat => (n : α)) shape bound params parents k :=
  Lemmas.AuxJoint.channel_nonneg' _ shape bound params parents k (Nat.cast_nonneg _) hp

example : ∀ p ∈ ([1, 3, 0, 0] : List Rat), 0 ≤ p := by decide +kernel

end ChannelOrd

/-! ## Mass, marginal, keys, factorisation -/

section Joint
variable {α : Type} [Field α] [DecidableEq α] [CharZero α]

set_option linter.unusedSectionVars false in
/-- **One conditioning step preserves the total mass**, if every channel row that is used sums
to one over the alphabet of the new variable. -/
theorem auxStep_mass (joint : Tab (List Nat) α) (av : AuxVar) (chan : List Nat → Nat → α)
    (hrow : ∀ o ∈ keys joint, ((List.range av.bound).map (chan (project av.bases o))).sum = 1) :
    mass (auxStep joint av chan) = mass joint := by
  rw [← wtBy_true, ← wtBy_true]
  exact wtBy_auxStep_old _ _ joint av chan hrow fun _ _ _ _ => Iff.rfl

/-- **The constructed joint has the mass of the input** (so it sums to one when the input
does), for every parameter vector `x` of any length and all auxiliary variables with a non-empty
alphabet. -/
theorem aux_sums_one (avs : List AuxVar) (sizes : List Nat) (t : Tab (List Nat) α) (x : List α)
    (hb : ∀ av ∈ avs, 1 ≤ av.bound) :
    mass (constructJoint (fun n : Nat => (n : α)) sizes t avs x) = mass t :=
  Lemmas.AuxJoint.constructJoint_mass _ avs sizes t x (goodCast_natCast avs hb)

/-- **The restriction to the original variables is the input** (event form): every event `p` on
the first `n₀` coordinates has the same weight in the constructed joint as in the input. The
keys of the input must all have length `n₀` (so that `take n₀` is the old outcome). -/
theorem aux_marginal (n₀ : Nat) (p : List Nat → Prop) [DecidablePred p] (avs : List AuxVar)
    (sizes : List Nat) (t : Tab (List Nat) α) (x : List α) (hb : ∀ av ∈ avs, 1 ≤ av.bound)
    (hlen : ∀ o ∈ keys t, o.length = n₀) :
    wtBy (fun o => p (o.take n₀)) (constructJoint (fun n : Nat => (n : α)) sizes t avs x)
      = wtBy p t :=
  Lemmas.AuxJoint.constructJoint_wtBy_old _ n₀ p avs sizes t x (goodCast_natCast avs hb) hlen

/-- **The restriction to the original variables is the input** (table form): summing out the
auxiliary coordinates gives a table with the stored keys of the input and the same value at
every key. Distinct keys are needed for `lookupD` to see the whole weight of an outcome. -/
theorem aux_marginal_lookup (n₀ : Nat) (avs : List AuxVar) (sizes : List Nat)
    (t : Tab (List Nat) α) (x : List α) (hb : ∀ av ∈ avs, 1 ≤ av.bound)
    (hlen : ∀ o ∈ keys t, o.length = n₀) (hnd : (keys t).Nodup) (o : List Nat) :
    lookupD 0 (dropLastVars avs.length (constructJoint (fun n : Nat => (n : α)) sizes t avs x)) o
        = lookupD 0 t o
      ∧ (o ∈ keys (dropLastVars avs.length
            (constructJoint (fun n : Nat => (n : α)) sizes t avs x)) ↔ o ∈ keys t) := by
  rw [Lemmas.AuxJoint.dropLastVars_constructJoint _ n₀ avs sizes t x (goodCast_natCast avs hb) hlen
    hnd]
  exact ⟨rfl, Iff.rfl⟩

/-- **The restriction to the original variables is the input** (exact form): summing out the
auxiliary coordinates returns the input table itself, row for row in the same order. -/
theorem aux_marginal_table (n₀ : Nat) (avs : List AuxVar) (sizes : List Nat)
    (t : Tab (List Nat) α) (x : List α) (hb : ∀ av ∈ avs, 1 ≤ av.bound)
    (hlen : ∀ o ∈ keys t, o.length = n₀) (hnd : (keys t).Nodup) :
    dropLastVars avs.length (constructJoint (fun n : Nat => (n : α)) sizes t avs x) = t :=
  Lemmas.AuxJoint.dropLastVars_constructJoint _ n₀ avs sizes t x (goodCast_natCast avs hb) hlen hnd

set_option linter.unusedSectionVars false in
/-- **Keys of the constructed joint**: an input key followed by one in-range symbol per
auxiliary variable; all of length `n₀ + m`; pairwise distinct when the input's keys are. -/
theorem aux_keys (n₀ : Nat) (avs : List AuxVar) (sizes : List Nat) (t : Tab (List Nat) α)
    (x : List α) (ofNat : Nat → α) :
    (∀ o', o' ∈ keys (constructJoint ofNat sizes t avs x)
        ↔ ∃ o ∈ keys t, ∃ ks, List.Forall₂ (fun k (av : AuxVar) => k < av.bound) ks avs
            ∧ o' = o ++ ks)
    ∧ ((∀ o ∈ keys t, o.length = n₀) →
        ∀ o' ∈ keys (constructJoint ofNat sizes t avs x), o'.length = n₀ + avs.length)
    ∧ ((keys t).Nodup → (keys (constructJoint ofNat sizes t avs x)).Nodup) :=
  ⟨Lemmas.AuxJoint.mem_keys_constructJoint ofNat avs sizes t x,
   Lemmas.AuxJoint.length_keys_constructJoint ofNat avs sizes t x n₀,
   Lemmas.AuxJoint.nodup_keys_constructJoint ofNat avs sizes t x⟩

set_option linter.unusedSectionVars false in
/-- **Factorisation of one step**: `joint'(o, k) = joint(o) · chan(parents(o), k)` for `k` in
the alphabet of the new variable; i.e. `P(W = k | old = o) = chan(project bases o, k)`. No
assumption on the table (the first stored row wins on both sides). -/
theorem auxStep_lookup (joint : Tab (List Nat) α) (av : AuxVar) (chan : List Nat → Nat → α)
    (o : List Nat) (k : Nat) (hk : k < av.bound) :
    lookupD 0 (auxStep joint av chan) (o ++ [k])
      = lookupD 0 joint o * chan (project av.bases o) k := by
  induction joint with
  | nil => exact (zero_mul _).symm
  | cons r joint ih =>
    rw [Lemmas.AuxJoint.auxStep_cons]
    unfold lookupD at ih ⊢
    rw [lookup?_append, lookup?_cons]
    by_cases e : r.1 = o
    · subst e
      rw [Lemmas.AuxJoint.lookup?_map_of_injective (fun _ _ h => List.singleton_inj.mp (List.append_cancel_left h))
        _ (List.mem_range.mpr hk), if_pos rfl]
      rfl
    · rw [if_neg e, lookup?_eq_none_iff.mpr, Option.none_or, ih]
      intro hmem
      obtain ⟨_, hs, e'⟩ := List.mem_map.mp hmem
      obtain ⟨k', _, rfl⟩ := List.mem_map.mp hs
      exact e (List.append_inj_left' e' rfl)

/-- **The joint factorises along the declared parent sets**: the value at `o ++ [k₁,…,k_m]` is
`t(o) · Π_i chan_i(parents_i, k_i)`, where (`chanProd`) the `i`-th factor is the channel of the
`i`-th auxiliary variable at the values its parents take in `o ++ [k₁,…,k_{i-1}]`. -/
theorem constructJoint_lookup (ofNat : Nat → α) (avs : List AuxVar) (sizes : List Nat)
    (t : Tab (List Nat) α) (x : List α) (o ks : List Nat)
    (hks : List.Forall₂ (fun k (av : AuxVar) => k < av.bound) ks avs) :
    lookupD 0 (constructJoint ofNat sizes t avs x) (o ++ ks)
      = lookupD 0 t o * chanProd ofNat sizes avs x o ks := by
  induction avs generalizing sizes t x o ks with
  | nil =>
    cases hks
    rw [List.append_nil]
    exact (mul_one _).symm
  | cons av rest ih =>
    cases hks with
    | cons hk hks' =>
      rename_i k ks'
      rw [constructJoint_cons, List.append_cons o k ks', ih _ _ _ _ _ hks',
        auxStep_lookup t av _ o k hk]
      exact mul_assoc _ _ _

set_option linter.unusedSectionVars false in
/-- Unfolding of the product: first factor, then the rest on the extended outcome. -/
theorem chanProd_cons (ofNat : Nat → α) (sizes : List Nat) (av : AuxVar) (rest : List AuxVar)
    (x : List α) (o : List Nat) (k : Nat) (ks : List Nat) :
    chanProd ofNat sizes (av :: rest) x o (k :: ks)
      = channelOf ofNat (av.bases.map (fun b => sizes.getD b 0)) av.bound
            (x.take (blockSize sizes av)) (project av.bases o) k
        * chanProd ofNat (sizes ++ [av.bound]) rest (x.drop (blockSize sizes av)) (o ++ [k]) ks :=
  rfl

set_option linter.unusedSectionVars false in
/-- **Each auxiliary variable depends only on its declared parents** (one step, event form):
given the values `b` of its parents, the new variable is independent of every event `E` on the
old coordinates: `P(E, B=b, W=k) · P(B=b) = P(E, B=b) · P(B=b, W=k)`. -/
theorem aux_markov (joint : Tab (List Nat) α) (av : AuxVar) (chan : List Nat → Nat → α)
    (hrow : ∀ o ∈ keys joint, ((List.range av.bound).map (chan (project av.bases o))).sum = 1)
    (E : List Nat → Prop) [DecidablePred E] (b : List Nat) (k : Nat) :
    wtBy (fun o' => (E o'.dropLast ∧ project av.bases o'.dropLast = b) ∧ o'.getLast? = some k)
        (auxStep joint av chan)
      * wtBy (fun o' => project av.bases o'.dropLast = b) (auxStep joint av chan)
    = wtBy (fun o' => E o'.dropLast ∧ project av.bases o'.dropLast = b) (auxStep joint av chan)
      * wtBy (fun o' => project av.bases o'.dropLast = b ∧ o'.getLast? = some k)
          (auxStep joint av chan) := by
  rw [wtBy_auxStep_new_parents (fun o => E o ∧ project av.bases o = b) b k joint av chan
      (fun _ _ h => h.2),
    wtBy_auxStep_new_parents (fun o => project av.bases o = b) b k joint av chan
      (fun _ _ h => h),
    wtBy_auxStep_old (fun o' => project av.bases o'.dropLast = b)
      (fun o => project av.bases o = b) joint av chan hrow
      (fun o _ k _ => by rw [List.dropLast_concat]),
    wtBy_auxStep_old (fun o' => E o'.dropLast ∧ project av.bases o'.dropLast = b)
      (fun o => E o ∧ project av.bases o = b) joint av chan hrow
      (fun o _ k _ => by rw [List.dropLast_concat])]
  ring

set_option linter.unusedSectionVars false in
/-- The conditional law of the new variable as event weights (rows with equal keys all count):
`P(old = o, W = k) = P(old = o) · chan(parents(o), k)`. -/
theorem aux_conditional (joint : Tab (List Nat) α) (av : AuxVar) (chan : List Nat → Nat → α)
    (o : List Nat) (k : Nat) (hk : k < av.bound) :
    wtBy (fun o' => o'.dropLast = o ∧ o'.getLast? = some k) (auxStep joint av chan)
      = wtBy (fun o' => o' = o) joint * chan (project av.bases o) k := by
  rw [wtBy_auxStep_new_parents (fun o' => o' = o) (project av.bases o) k joint av chan
    (fun _ _ h => by rw [h]), if_pos hk]

end Joint

section JointOrd
variable {α : Type} [Field α] [LinearOrder α] [IsStrictOrderedRing α]

/-- **All values of the constructed joint are non-negative** for non-negative input and
parameters: together with `aux_sums_one`, a proper joint distribution. -/
theorem aux_nonneg (avs : List AuxVar) (sizes : List Nat) (t : Tab (List Nat) α) (x : List α)
    (hx : ∀ p ∈ x, 0 ≤ p) (hnn : ∀ r ∈ t, 0 ≤ r.2) :
    ∀ s ∈ constructJoint (fun n : Nat => (n : α)) sizes t avs x, 0 ≤ s.2 :=
  Lemmas.AuxJoint.constructJoint_nonneg _ avs sizes t x (fun _ _ => Nat.cast_nonneg _) hx hnn

end JointOrd

/-! ## Non-vacuity: a 2×2 input, one auxiliary variable with parent `[1]`, a zero row -/

/-- The example input is `exT = [00 ↦ 1/4, 01 ↦ 1/4, 10 ↦ 1/8, 11 ↦ 3/8]` (Lemmas/AuxJoint.lean). -/
example : constructJoint (fun n : Nat => (n : Rat)) [2, 2] exT [⟨[1], 2⟩] [1, 3, 0, 0]
    = [([0, 0, 0], 1 / 16), ([0, 0, 1], 3 / 16), ([0, 1, 0], 1 / 8), ([0, 1, 1], 1 / 8),
       ([1, 0, 0], 1 / 32), ([1, 0, 1], 3 / 32), ([1, 1, 0], 3 / 16), ([1, 1, 1], 3 / 16)] := by
  decide +kernel
example : dropLastVars 1
    (constructJoint (fun n : Nat => (n : Rat)) [2, 2] exT [⟨[1], 2⟩] [1, 3, 0, 0]) = exT := by
  decide +kernel
example : mass (constructJoint (fun n : Nat => (n : Rat)) [2, 2] exT [⟨[1], 2⟩] [1, 3, 0, 0]) = 1 := by
  decide +kernel
/-- The hypotheses of the theorems above hold for the example. -/
example : (∀ av ∈ ([⟨[1], 2⟩] : List AuxVar), 1 ≤ av.bound) ∧ (∀ o ∈ keys exT, o.length = 2)
    ∧ (keys exT).Nodup ∧ (∀ r ∈ exT, 0 ≤ r.2) := by decide +kernel
/-- Two auxiliary variables, the second with parents `[0, 2]` (an old variable and the first
auxiliary variable) and a copy-like channel: summing both out returns the input. -/
example : dropLastVars 2
    (constructJoint (fun n : Nat => (n : Rat)) [2, 2] exT [⟨[1], 2⟩, ⟨[0, 2], 2⟩]
      [1, 3, 0, 0, 1, 0, 0, 1, 1, 1, 0, 0]) = exT := by
  decide +kernel
example : List.Forall₂ (fun k (av : AuxVar) => k < av.bound) [1, 0] [⟨[1], 2⟩, ⟨[0, 2], 2⟩] := by
  repeat constructor
/-- The row-sum hypothesis of `auxStep_mass` / `aux_markov` holds for the channel built from the
example's parameter vector (normalised row and uniform fallback row). -/
example : ∀ o ∈ keys exT, ((List.range 2).map
    (chanAt (fun n : Nat => (n : Rat)) [2, 2] ⟨[1], 2⟩ [1, 3, 0, 0] (project [1] o))).sum = 1 := by
  decide +kernel
/-- The factorisation on the example: `joint(1,0,1) = t(1,0) · chan([0], 1) = 1/8 · 3/4`. -/
example : lookupD 0 (constructJoint (fun n : Nat => (n : Rat)) [2, 2] exT [⟨[1], 2⟩] [1, 3, 0, 0])
      ([1, 0] ++ [1]) = 3 / 32
    ∧ lookupD 0 exT [1, 0] * chanProd (fun n : Nat => (n : Rat)) [2, 2] [⟨[1], 2⟩] [1, 3, 0, 0]
      [1, 0] [1] = 3 / 32 := by
  decide +kernel

/-! ## Entropies of the constructed joint (at `ℝ`) -/

section Entropy

/-- **The reported objective is the named quantity on the constructed joint**: the value of the
combination `cmiC X Y Z` is `H(X∪Z) + H(Y∪Z) − H(X∪Y∪Z) − H(Z)` with `H` the entropy of the
marginals of the table returned by `constructJoint`. -/
theorem objective_cmi_def (avs : List AuxVar) (sizes : List Nat) (t : Tab (List Nat) ℝ)
    (x : List ℝ) (X Y Z : VSet) :
    Comb.eval (Rat.castHom ℝ)
        (entropyOf (Real.logb 2) (constructJoint (fun n : Nat => (n : ℝ)) sizes t avs x))
        (cmiC X Y Z)
      = entropyOf (Real.logb 2) (constructJoint (fun n : Nat => (n : ℝ)) sizes t avs x)
            (vunion X Z)
        + entropyOf (Real.logb 2) (constructJoint (fun n : Nat => (n : ℝ)) sizes t avs x)
            (vunion Y Z)
        - entropyOf (Real.logb 2) (constructJoint (fun n : Nat => (n : ℝ)) sizes t avs x)
            (vunion (vunion X Y) Z)
        - entropyOf (Real.logb 2) (constructJoint (fun n : Nat => (n : ℝ)) sizes t avs x)
            (vnorm Z) := by
  rw [eval_cmiC]; unfold Hc; ring

/-- **A coordinate that is constant on the support adds nothing** to any subset entropy. -/
theorem entropy_add_deterministic {σ : Type} [DecidableEq σ] (t : Tab (List σ) ℝ) (S : List Nat)
    (w : Nat) (c : Option σ) (h : ∀ r ∈ t, r.2 ≠ 0 → r.1[w]? = c) :
    entropyOf (Real.logb 2) t (vunion S [w]) = entropyOf (Real.logb 2) t S :=
  Lemmas.AuxJoint.entropy_add_deterministic _ t S w c h

/-- **A copy of a coordinate already in `S` adds nothing** to `H(S)`. -/
theorem entropy_add_copy {σ : Type} [DecidableEq σ] (t : Tab (List σ) ℝ) (S : List Nat)
    (w z : Nat) (hz : z ∈ S) (h : ∀ r ∈ t, r.2 ≠ 0 → r.1[w]? = r.1[z]?) :
    entropyOf (Real.logb 2) t (vunion S [w]) = entropyOf (Real.logb 2) t S :=
  Lemmas.AuxJoint.entropy_add_copy _ t S w z hz h

example : ∀ r ∈ ([(["a", "0"], 1 / 2), (["b", "0"], 1 / 2), (["b", "1"], 0)] :
    Tab (List String) ℝ), r.2 ≠ 0 → r.1[1]? = some "0" := by
  intro r hr; simp at hr; rcases hr with rfl | rfl | rfl <;> simp

/-- **Entropies of sets of original variables are those of the input** (one step). -/
theorem aux_entropy_old (joint : Tab (List Nat) ℝ) (av : AuxVar) (chan : List Nat → Nat → ℝ)
    (n : Nat) (S : List Nat)
    (hrow : ∀ o ∈ keys joint, ((List.range av.bound).map (chan (project av.bases o))).sum = 1)
    (hlen : ∀ o ∈ keys joint, o.length = n) (hS : ∀ i ∈ S, i < n) :
    entropyOf (Real.logb 2) (auxStep joint av chan) S = entropyOf (Real.logb 2) joint S :=
  Lemmas.AuxJoint.entropyOf_auxStep_old _ joint av chan n S hrow hlen hS

/-- **Value at the constant channel** (`W ≡ 0`): `I(X:Y|W)` on the extended table is `I(X:Y)`
on the input. -/
theorem constant_channel_value (t : Tab (List Nat) ℝ) (av : AuxVar) (n : Nat)
    (hb : 1 ≤ av.bound) (hlen : ∀ o ∈ keys t, o.length = n) (X Y : VSet)
    (hX : ∀ v ∈ X, v < n) (hY : ∀ v ∈ Y, v < n) :
    Comb.eval (Rat.castHom ℝ) (entropyOf (Real.logb 2) (auxStep t av constChan)) (cmiC X Y [n])
      = Comb.eval (Rat.castHom ℝ) (entropyOf (Real.logb 2) t) (cmiC X Y []) :=
  cmi_transfer _ _ _ n []
    (Lemmas.AuxJoint.entropyOf_const t av n hb hlen) X Y hX hY

/-- **Value at the copy channel** (`W = Z`, single parent `z`): `I(X:Y|W)` on the extended
table is `I(X:Y|Z)` on the input. The alphabet of `W` must contain the values of `Z`
(`hfit`), otherwise the copy channel is not a channel. -/
theorem copy_channel_value (t : Tab (List Nat) ℝ) (av : AuxVar) (n z : Nat)
    (hbases : av.bases = [z]) (hz : z < n)
    (hfit : ∀ o ∈ keys t, ∀ j, o[z]? = some j → j < av.bound)
    (hlen : ∀ o ∈ keys t, o.length = n) (X Y : VSet)
    (hX : ∀ v ∈ X, v < n) (hY : ∀ v ∈ Y, v < n) :
    Comb.eval (Rat.castHom ℝ) (entropyOf (Real.logb 2) (auxStep t av copyChan)) (cmiC X Y [n])
      = Comb.eval (Rat.castHom ℝ) (entropyOf (Real.logb 2) t) (cmiC X Y [z]) :=
  cmi_transfer _ _ _ n [z]
    (Lemmas.AuxJoint.entropyOf_copy t av n z hbases hz hfit hlen) X Y hX hY

/-- Both special channels are produced by parameter vectors. -/
example : (List.range 2).map (channelOf (fun n : Nat => (n : Rat)) [2] 2 [1, 0, 1, 0] [1])
    = (List.range 2).map (constChan [1]) := by decide +kernel
example : (List.range 2).map (channelOf (fun n : Nat => (n : Rat)) [2] 2 [1, 0, 0, 1] [1])
    = (List.range 2).map (copyChan [1]) := by decide +kernel
example : (∀ o ∈ keys exT, ∀ j, o[1]? = some j → j < 2) := by decide +kernel

/-- **Markov chain `R – parents – W`** at the level of entropies: in the table extended by one
auxiliary variable `W` (coordinate `n`) with parents `av.bases`, `I(W : R | parents) = 0` for
every set `R` of original variables — in particular for `R = range n ∖ parents`. The input
values must be non-negative (a zero marginal with non-zero rows would break `log` additivity);
the channel only needs rows summing to one. -/
theorem aux_cmi_zero (joint : Tab (List Nat) ℝ) (av : AuxVar) (chan : List Nat → Nat → ℝ)
    (n : Nat) (R : VSet)
    (hrow : ∀ o ∈ keys joint, ((List.range av.bound).map (chan (project av.bases o))).sum = 1)
    (hlen : ∀ o ∈ keys joint, o.length = n) (hnn : ∀ r ∈ joint, 0 ≤ r.2)
    (hb : ∀ i ∈ av.bases, i < n) (hR : ∀ i ∈ R, i < n) :
    Comb.eval (Rat.castHom ℝ) (entropyOf (Real.logb 2) (auxStep joint av chan))
      (cmiC [n] R av.bases) = 0 := by
  rw [eval_cmiC]
  unfold Hc
  linear_combination Lemmas.AuxJoint.auxStep_cmi_zero_explicit joint av chan n R hrow hlen hnn hb hR

/-- `aux_cmi_zero` for the joint built by `constructJoint` with one auxiliary variable and any
parameter vector, with `rest = range n ∖ parents`. -/
theorem aux_cmi_zero_construct (sizes : List Nat) (t : Tab (List Nat) ℝ) (av : AuxVar)
    (x : List ℝ) (n : Nat) (hbd : 1 ≤ av.bound) (hlen : ∀ o ∈ keys t, o.length = n)
    (hnn : ∀ r ∈ t, 0 ≤ r.2) (hb : ∀ i ∈ av.bases, i < n) :
    Comb.eval (Rat.castHom ℝ)
      (entropyOf (Real.logb 2) (constructJoint (fun k : Nat => (k : ℝ)) sizes t [av] x))
      (cmiC [n] (vdiff (List.range n) av.bases) av.bases) = 0 := by
  apply aux_cmi_zero t av _ n _ _ hlen hnn hb
  · intro i hi
    exact List.mem_range.mp ((mem_vdiff _ _ _).mp hi).1
  · exact fun o _ => chanAt_row_sum_natCast sizes av x hbd _

end Entropy

/-! ## Bounds at every feasible point -/

section Bounds

/-- **Intrinsic mutual information, order part**: the reported value `min(a, b, c)` of the
values at the constant channel (`a`), at the copy channel (`b`) and at the optimiser's point
(`c`), all non-negative, lies between `0` and `min(a, b)`. -/
theorem imi_bounds {β : Type} [LinearOrder β] [Zero β] (a b c : β) (ha : 0 ≤ a) (hb : 0 ≤ b)
    (hc : 0 ≤ c) : 0 ≤ min a (min b c) ∧ min a (min b c) ≤ min a b :=
  ⟨le_min ha (le_min hb hc), min_le_min_left _ (min_le_left _ _)⟩

/-- **Intrinsic mutual information lies between `0` and `min(I(X:Y), I(X:Y|Z))`**: for a
non-negative input table, an auxiliary variable `W` (coordinate `n`) with single parent `z`, and
any non-negative channel `chan` (the optimiser's point), the minimum of `I(X:Y|W)` over the
constant channel, the copy channel and `chan` is `≥ 0` and `≤ min(I(X:Y), I(X:Y|Z))` of the
input. -/
theorem imi_bounds_table (t : Tab (List Nat) ℝ) (av : AuxVar) (n z : Nat)
    (chan : List Nat → Nat → ℝ) (hbd : 1 ≤ av.bound) (hbases : av.bases = [z]) (hz : z < n)
    (hfit : ∀ o ∈ keys t, ∀ j, o[z]? = some j → j < av.bound)
    (hlen : ∀ o ∈ keys t, o.length = n) (hnn : ∀ r ∈ t, 0 ≤ r.2)
    (hchan : ∀ o ∈ keys t, ∀ k < av.bound, 0 ≤ chan (project av.bases o) k)
    (X Y : VSet) (hX : ∀ v ∈ X, v < n) (hY : ∀ v ∈ Y, v < n) :
    0 ≤ min (Comb.eval (Rat.castHom ℝ) (entropyOf (Real.logb 2) (auxStep t av constChan))
              (cmiC X Y [n]))
          (min (Comb.eval (Rat.castHom ℝ) (entropyOf (Real.logb 2) (auxStep t av copyChan))
              (cmiC X Y [n]))
            (Comb.eval (Rat.castHom ℝ) (entropyOf (Real.logb 2) (auxStep t av chan))
              (cmiC X Y [n])))
    ∧ min (Comb.eval (Rat.castHom ℝ) (entropyOf (Real.logb 2) (auxStep t av constChan))
              (cmiC X Y [n]))
          (min (Comb.eval (Rat.castHom ℝ) (entropyOf (Real.logb 2) (auxStep t av copyChan))
              (cmiC X Y [n]))
            (Comb.eval (Rat.castHom ℝ) (entropyOf (Real.logb 2) (auxStep t av chan))
              (cmiC X Y [n])))
        ≤ min (Comb.eval (Rat.castHom ℝ) (entropyOf (Real.logb 2) t) (cmiC X Y []))
            (Comb.eval (Rat.castHom ℝ) (entropyOf (Real.logb 2) t) (cmiC X Y [z])) := by
  rw [constant_channel_value t av n hbd hlen X Y hX hY,
    copy_channel_value t av n z hbases hz hfit hlen X Y hX hY]
  exact imi_bounds _ _ _ (Props.C05.mi_nonneg t hnn X Y) (Props.C05.cmi_nonneg t hnn X Y [z])
    (Props.C05.cmi_nonneg _ (auxStep_nonneg t av chan hnn hchan) X Y [n])

/-- **Information bottleneck, relevance**: with the bottleneck variable `T` (coordinate `n`)
drawn from `X = av.bases` through any non-negative channel with rows summing to one,
`I(T:Y) ≤ I(X:Y)` (data processing): `I(T:Y|X) = 0` by `aux_cmi_zero`, so
`H(Y|X) = H(Y|T,X) ≤ H(Y|T)`. The left side is evaluated on the extended table, the right
side on the input. -/
theorem ib_bounds_relevance (t : Tab (List Nat) ℝ) (av : AuxVar) (chan : List Nat → Nat → ℝ)
    (n : Nat) (Y : VSet)
    (hrow : ∀ o ∈ keys t, ((List.range av.bound).map (chan (project av.bases o))).sum = 1)
    (hchan : ∀ o ∈ keys t, ∀ k < av.bound, 0 ≤ chan (project av.bases o) k)
    (hlen : ∀ o ∈ keys t, o.length = n) (hnn : ∀ r ∈ t, 0 ≤ r.2)
    (hb : ∀ i ∈ av.bases, i < n) (hY : ∀ i ∈ Y, i < n) :
    Comb.eval (Rat.castHom ℝ) (entropyOf (Real.logb 2) (auxStep t av chan)) (cmiC [n] Y [])
      ≤ Comb.eval (Rat.castHom ℝ) (entropyOf (Real.logb 2) t) (cmiC av.bases Y []) := by
  have hmk := aux_cmi_zero t av chan n Y hrow hlen hnn hb hY
  rw [eval_cmiC] at hmk
  rw [← cmi_agree _ (fun S => aux_entropy_old t av chan n S hrow hlen) hb hY (by simp), eval_cmiC,
    eval_cmiC]
  exact mi_le_of_cmi_zero (Lemmas.InfoReal.entropy_Submod _ (auxStep_nonneg t av chan hnn hchan)) hmk

/-- **Information bottleneck, complexity**: `I(X:T) ≤ H(X)` (as `H(X|∅)` of the input), for any
non-negative channel with rows summing to one: `H(X|T) ≥ 0`. -/
theorem ib_bounds_complexity (t : Tab (List Nat) ℝ) (av : AuxVar) (chan : List Nat → Nat → ℝ)
    (n : Nat) (X : VSet)
    (hrow : ∀ o ∈ keys t, ((List.range av.bound).map (chan (project av.bases o))).sum = 1)
    (hchan : ∀ o ∈ keys t, ∀ k < av.bound, 0 ≤ chan (project av.bases o) k)
    (hlen : ∀ o ∈ keys t, o.length = n) (hnn : ∀ r ∈ t, 0 ≤ r.2) (hX : ∀ i ∈ X, i < n) :
    Comb.eval (Rat.castHom ℝ) (entropyOf (Real.logb 2) (auxStep t av chan)) (cmiC X [n] [])
      ≤ Comb.eval (Rat.castHom ℝ) (entropyOf (Real.logb 2) t) (condH X []) := by
  have hs := Lemmas.InfoReal.entropy_Submod _ (auxStep_nonneg t av chan hnn hchan)
  rw [eval_cmiC, eval_condH, cmi_eq_left,
    ← Hc_agree (fun S => aux_entropy_old t av chan n S hrow hlen) hX (by simp)]
  exact sub_le_self _ (Hc_nonneg hs X _)

/-- **Information-bottleneck bounds for every admissible parameter vector**: for the joint built
by `constructJoint` from a non-negative input, one auxiliary variable `T` (coordinate `n`) with
parents `X = av.bases` and any non-negative parameter vector `x` (of any length), relevance
never exceeds `I(X:Y)` and complexity never exceeds `H(X)`. -/
theorem ib_bounds (sizes : List Nat) (t : Tab (List Nat) ℝ) (av : AuxVar) (x : List ℝ) (n : Nat)
    (Y : VSet) (hbd : 1 ≤ av.bound) (hx : ∀ p ∈ x, 0 ≤ p)
    (hlen : ∀ o ∈ keys t, o.length = n) (hnn : ∀ r ∈ t, 0 ≤ r.2)
    (hb : ∀ i ∈ av.bases, i < n) (hY : ∀ i ∈ Y, i < n) :
    Comb.eval (Rat.castHom ℝ)
        (entropyOf (Real.logb 2) (constructJoint (fun k : Nat => (k : ℝ)) sizes t [av] x))
        (cmiC [n] Y [])
      ≤ Comb.eval (Rat.castHom ℝ) (entropyOf (Real.logb 2) t) (cmiC av.bases Y [])
    ∧ Comb.eval (Rat.castHom ℝ)
        (entropyOf (Real.logb 2) (constructJoint (fun k : Nat => (k : ℝ)) sizes t [av] x))
        (cmiC av.bases [n] [])
      ≤ Comb.eval (Rat.castHom ℝ) (entropyOf (Real.logb 2) t) (condH av.bases []) := by
  have hrow := fun o (_ : o ∈ keys t) =>
    chanAt_row_sum_natCast sizes av x hbd (project av.bases o)
  have hchan := fun o (_ : o ∈ keys t) k (_ : k < av.bound) =>
    chanAt_nonneg (fun k : Nat => (k : ℝ)) sizes av x (Nat.cast_nonneg _) hx (project av.bases o) k
  exact ⟨ib_bounds_relevance t av _ n Y hrow hchan hlen hnn hb hY,
    ib_bounds_complexity t av _ n av.bases hrow hchan hlen hnn hb⟩

/-- Non-vacuity of the hypotheses on a real table: a 2×2 input and the copy channel of
variable `1`. -/
example : (∀ o ∈ keys ([([0, 0], 1 / 2), ([1, 1], 1 / 2)] : Tab (List Nat) ℝ), o.length = 2)
    ∧ (∀ r ∈ ([([0, 0], 1 / 2), ([1, 1], 1 / 2)] : Tab (List Nat) ℝ), 0 ≤ r.2)
    ∧ (∀ o ∈ keys ([([0, 0], 1 / 2), ([1, 1], 1 / 2)] : Tab (List Nat) ℝ),
        ((List.range 2).map (copyChan (α := ℝ) (project [1] o))).sum = 1) := by
  have hlen : ∀ o ∈ keys ([([0, 0], 1 / 2), ([1, 1], 1 / 2)] : Tab (List Nat) ℝ), o.length = 2 := by
    show ∀ o ∈ [[0, 0], [1, 1]], o.length = 2
    decide
  refine ⟨hlen, ?_, copyChan_row_of_fit _ ⟨[1], 2⟩ 2 1 rfl (by decide) ?_ hlen⟩
  · simp only [List.forall_mem_cons]
    norm_num
  · show ∀ o ∈ [[0, 0], [1, 1]], ∀ j, o[1]? = some j → j < 2
    decide
example : (∀ o ∈ keys ([([0, 0], 1 / 2), ([1, 1], 1 / 2)] : Tab (List Nat) ℝ),
      ∀ k < 2, 0 ≤ copyChan (α := ℝ) (project [1] o) k)
    ∧ (∀ i ∈ [1], i < 2) ∧ (∀ p ∈ ([1, 3, 0, 0] : List ℝ), 0 ≤ p) := by
  refine ⟨?_, by decide, ?_⟩
  · intro o _ k _; unfold copyChan; split <;> norm_num
  · intro p hp; simp at hp; rcases hp with rfl | rfl | rfl <;> norm_num

end Bounds

end Dit.Props.C15
