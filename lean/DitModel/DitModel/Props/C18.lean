/-
C18 — ShannonPartition assigns to each atom the conditional co-information of its variables
given all the others, so the atoms sum to the joint entropy and any entropy or (conditional)
mutual information is recovered as the sum of the atoms it covers. The complexity profile at
scale k is the sum of atoms shared by at least k variables (scale 1 is the joint entropy, the
scales sum to the sum of marginal entropies); entropy-triangle points are non-negative and sum
to one. (The property is stated for joint distributions of 2..4 variables; part (a) is proved
for every number of variables.)

Part (a) is algebra about `Comb.eval cast H` for an arbitrary set function `H : VSet → R` into a
commutative ring, for ANY number `n` of variables: the theorems are proved by inclusion–exclusion
(telescoping of the atoms, a recursion for co-informations and the same recursion for queries);
only `H ∅ = 0` is used, and only where the statement mentions a plain entropy. Beside them the
canonical-form device (`eval_eq_of_canon_eq`: combinations with equal canonical forms have equal
values; canonical forms are computable) lets the kernel evaluate an identity for a fixed `n`: the
examples that compute the canonical forms of `atomsTotalC`, `queryC`, `atomC`, `profileC` by
`decide +kernel` do not depend on the general proofs.
Part (b) is about `H := entropyOf (Real.logb 2) t` for a table `t` with non-negative values.
Helper lemmas: Lemmas/Partition.lean.
-/
import DitModel.Lemmas.Partition
import DitModel.Props.C05

namespace Dit.Props.C18
open Dit Dit.Lemmas.InfoAlg Dit.Lemmas.InfoReal Dit.Lemmas.Partition

/-! ## (a) Atoms, queries, complexity profile -/

section Algebra
variable {R : Type} [CommRing R] (cast : ℚ →+* R) (H : VSet → R)

/-- **The canonical-form device.** Two combinations with the same canonical form have the same
value, for every `H` with `H ∅ = 0` that depends only on the normalised set (`canon` drops the
empty set and merges sets with equal normal forms, so both hypotheses are needed). -/
theorem eval_eq_of_canon_eq (h0 : H [] = 0) (hn : ∀ s, H s = H (vnorm s)) {c₁ c₂ : Comb}
    (h : c₁.canon = c₂.canon) : Comb.eval cast H c₁ = Comb.eval cast H c₂ :=
  Lemmas.Partition.eval_eq_of_canon_eq cast H h0 hn h

/-- By evaluation of the canonical form: the 15 atoms of 4 variables sum to `H(0123)`. -/
example (h0 : H [] = 0) (hn : ∀ s, H s = H (vnorm s)) :
    Comb.eval cast H (atomsTotalC 4) = Comb.eval cast H [(1, [0, 1, 2, 3])] :=
  eval_eq_of_canon_eq cast H h0 hn (by decide +kernel)
/-- A query over 3 variables read off the table `queryAllOn`, whose entries `query_checked` takes
from the general theorem (nothing is evaluated here). -/
example (h0 : H [] = 0) (hn : ∀ s, H s = H (vnorm s)) :
    Comb.eval cast H (queryC 3 [[0, 1], [2]] [])
      = Comb.eval cast H (coinfoC [[0, 1], [2]] []) :=
  query_lift cast H h0 hn 3 1 (query_checked 3 1 (by decide)) _ _ rfl (by decide) (by decide)

/-- **Atoms are conditional co-informations**: the atom of the variable set `S` is the
co-information of the variables of `S` (as singleton groups) given all the other variables. -/
theorem atom_is_cond_coinfo (n : Nat) (S : VSet) :
    atomC n S = coinfoC (S.map (fun i => [i])) (vdiff (List.range n) S) := rfl

/-- The value of an atom: the alternating sum of the conditional entropies of the sub-families
of `S` given the complement of `S` (C05's `coinfo_def`). -/
theorem atom_eval (n : Nat) (S : VSet) :
    Comb.eval cast H (atomC n S)
      = ((sublists (S.map (fun i => [i]))).map (fun Xs =>
          (if Xs.length % 2 = 1 then (1 : R) else -1)
            * Hc H (vunions Xs) (vdiff (List.range n) S))).sum :=
  eval_coinfoC cast H _ _

/-- The atoms below a set of variables telescope: for distinct variables `L` and any `B`,
`Σ_{∅ ≠ S ⊆ L} I[S | (L ∖ S) ∪ B] = H(L | B)`. -/
theorem atoms_telescope (L : List Nat) (hnd : L.Nodup) (B : VSet) :
    (((sublists L).filter (fun S => !S.isEmpty)).map (fun S =>
        Comb.eval cast H (coinfoC (S.map (fun i => [i])) (vdiff L S ++ B)))).sum = Hc H L B := by
  rw [filter_sublists_eq_nes]
  exact Lemmas.Partition.atoms_telescope cast H L hnd B

/-- The atoms sum to `H(all) − H(∅)`, for every number of variables and every set function. -/
theorem atoms_sum_general (n : Nat) :
    Comb.eval cast H (atomsTotalC n) = H (List.range n) - H [] :=
  eval_atomsTotalC cast H n

/-- **The atoms sum to the joint entropy**, for every number of variables (`H ∅ = 0`). -/
theorem atoms_sum (h0 : H [] = 0) (n : Nat) :
    Comb.eval cast H (atomsTotalC n) = H (List.range n) := by
  rw [eval_atomsTotalC, h0, sub_zero]

/-- **Any (conditional) co-information is the sum of the atoms it covers**: for every number
`n` of variables, every non-empty list of groups of variables below `n` (in any order,
overlapping, with repetitions) and any conditioning variables below `n`, the partition's answer
to the query equals the conditional co-information `I[G₁ : … : G_k | Z]` — for every set
function `H`. The list of groups must be non-empty: see `query_nil`. -/
theorem query_eq_coinfo (n : Nat) (groups : List VSet) (crvs : VSet) (hne : groups ≠ [])
    (hg : ∀ g ∈ groups, ∀ v ∈ g, v < n) (hc : ∀ c ∈ crvs, c < n) :
    Comb.eval cast H (queryC n groups crvs) = Comb.eval cast H (coinfoC groups crvs) := by
  obtain ⟨g, G, rfl⟩ := List.exists_cons_of_ne_nil hne
  rw [eval_queryC_general cast H n (g :: G) crvs hg hc, sgnSum_cons, zero_mul, sub_zero]

/-- For no groups the covered atoms (those avoiding `Z`) sum to `H(all | Z)`, while the
co-information of no groups is `0`: the hypothesis `groups ≠ []` above is needed. -/
theorem query_nil (n : Nat) (crvs : VSet) (hc : ∀ c ∈ crvs, c < n) :
    Comb.eval cast H (queryC n [] crvs) = Hc H (List.range n) crvs
      ∧ Comb.eval cast H (coinfoC [] crvs) = 0 :=
  ⟨eval_queryC_nil cast H n crvs hc, eval_nil cast H⟩

example : ([[0, 1], [2]] : List VSet) ≠ []
    ∧ (∀ g ∈ ([[0, 1], [2]] : List VSet), ∀ v ∈ g, v < 3) ∧ ∀ c ∈ ([] : VSet), c < 3 := by
  decide
example : (queryC 2 [] []).canon = [(1, [0, 1])] ∧ (coinfoC [] []).canon = [] := by
  decide +kernel

/-- **Entropies are recovered**: the atoms covered by one group `G` given `Z` sum to the
conditional entropy `H(G | Z)`. -/
theorem query_entropy (n : Nat) (G Z : VSet) (hG : ∀ v ∈ G, v < n) (hZ : ∀ c ∈ Z, c < n) :
    Comb.eval cast H (queryC n [G] Z) = Hc H G Z :=
  eval_queryC_single cast H n G Z hG hZ

/-- **Conditional mutual informations are recovered**: the atoms covered by two groups `X, Y`
given `Z` sum to `I(X : Y | Z)`. -/
theorem query_mi (n : Nat) (X Y Z : VSet) (hX : ∀ v ∈ X, v < n) (hY : ∀ v ∈ Y, v < n)
    (hZ : ∀ c ∈ Z, c < n) :
    Comb.eval cast H (queryC n [X, Y] Z) = Comb.eval cast H (cmiC X Y Z) := by
  rw [query_eq_coinfo cast H n [X, Y] Z (by simp) (by simpa using ⟨hX, hY⟩) hZ]
  exact Props.C05.coinfo_two cast H X Y Z

/-- The profile at scale `k` is by definition the sum of the atoms shared by at least `k`
variables. -/
theorem profile_def (n k : Nat) :
    profileC n k
      = Comb.sum (((atomSets n).filter (fun S => decide (k ≤ S.length))).map (atomC n)) := rfl

/-- **Complexity profile at scale 1** is the joint entropy (every atom is shared by at least
one variable). -/
theorem profile_one (h0 : H [] = 0) (n : Nat) :
    Comb.eval cast H (profileC n 1) = H (List.range n) := by
  rw [profileC_one, atoms_sum cast H h0]

/-- **The scales of the complexity profile sum to the sum of the marginal entropies**:
`Σ_{k=1..n} profile(k) = Σ_i H(X_i)` (an atom shared by `m` variables is counted at `m` scales,
and lies in the entropy of `m` variables). -/
theorem profile_sum (h0 : H [] = 0) (n : Nat) :
    ((List.range n).map (fun k => Comb.eval cast H (profileC n (k + 1)))).sum
      = ((List.range n).map (fun i => H [i])).sum := by
  simp only [profile_sum_general, h0, sub_zero]

/-- The sum of the marginal entropies as a combination. -/
theorem marginals_eval (n : Nat) :
    Comb.eval cast H (marginalsC n) = ((List.range n).map (fun i => H [i])).sum :=
  eval_marginalsC cast H n

/-- **Complexity profile at the top scale** `n` is the single atom shared by all variables,
the co-information `I[X₀ : … : X_{n-1}]`. -/
theorem profile_top (n : Nat) : profileC n n = atomC n (List.range n) := by
  rcases Nat.eq_zero_or_pos n with rfl | hpos
  · rfl
  · unfold profileC
    rw [atomSets_filter_top n hpos]
    simp [Comb.sum]

example : Comb.canon (atomC 3 [0, 1])
    = [(-1, [0, 1, 2]), (1, [0, 2]), (1, [1, 2]), (-1, [2])] := by decide +kernel
example : (profileC 4 2).canon
    = [(1, [0, 1, 2]), (-3, [0, 1, 2, 3]), (1, [0, 1, 3]), (1, [0, 2, 3]), (1, [1, 2, 3])] := by
  decide +kernel

end Algebra

/-! ## (b) Entropy triangles -/

section Triangles
variable {σ : Type} [DecidableEq σ] (t : Tab (List σ) ℝ) (hnn : ∀ r ∈ t, 0 ≤ r.2)

local notation "Hℝ" => entropyOf (Real.logb 2)
local notation "ev" => Comb.eval (Rat.castHom ℝ)

include hnn in
/-- **Second entropy triangle, non-negativity**: residual entropy `R`, dual total correlation
`B` and total correlation `T` of pairwise disjoint groups (any conditioning set) are
non-negative, for any table with non-negative values; `R` is a sum of conditional entropies.
Disjointness is needed for `B` (C05 `dtc_nonneg`); dit's triangle uses the singleton groups,
which are disjoint (`singles_disjoint`). -/
theorem triangle2_nonneg (groups : List VSet) (Z : VSet) (hdis : groups.Pairwise VDisj) :
    0 ≤ ev (Hℝ t) (residualC groups Z) ∧ 0 ≤ ev (Hℝ t) (dtcC groups Z)
      ∧ 0 ≤ ev (Hℝ t) (tcC groups Z) := by
  refine ⟨?_, Props.C05.dtc_nonneg t hnn groups Z hdis, Props.C05.tc_nonneg t hnn groups Z⟩
  rw [eval_residualC]
  exact residual_sum_nonneg (entropy_Submod t hnn) _ groups Z

/-- The singleton groups of `n` variables are pairwise disjoint. -/
theorem singles_disjoint (n : Nat) : ((List.range n).map (fun i => [i])).Pairwise VDisj := by
  rw [List.pairwise_map]
  refine (List.nodup_range (n := n)).imp ?_
  intro a b hab x hx hx'
  simp only [List.mem_singleton] at hx hx'
  exact hab (hx.symm.trans hx')

/-- **Second entropy triangle, normalisation**: the point `(R/s, T/s, B/s)`, `s = R + B + T`,
has coordinates summing to one whenever `s ≠ 0`. -/
theorem triangle2_sum_one (groups : List VSet) (Z : VSet)
    (hs : ev (Hℝ t) (residualC groups Z) + ev (Hℝ t) (dtcC groups Z)
      + ev (Hℝ t) (tcC groups Z) ≠ 0) :
    ev (Hℝ t) (residualC groups Z)
        / (ev (Hℝ t) (residualC groups Z) + ev (Hℝ t) (dtcC groups Z) + ev (Hℝ t) (tcC groups Z))
      + ev (Hℝ t) (tcC groups Z)
        / (ev (Hℝ t) (residualC groups Z) + ev (Hℝ t) (dtcC groups Z) + ev (Hℝ t) (tcC groups Z))
      + ev (Hℝ t) (dtcC groups Z)
        / (ev (Hℝ t) (residualC groups Z) + ev (Hℝ t) (dtcC groups Z) + ev (Hℝ t) (tcC groups Z))
      = 1 := by
  rw [← add_div, ← add_div, add_right_comm, div_self hs]

/-- **First entropy triangle, normalisation**: with `H_U = hU ≠ 0` the entropy of the uniform
distribution, `H_P = Σ_i H(X_i)` and `R` the residual entropy, the coordinates
`((H_U − H_P)/H_U, (H_P − R)/H_U, R/H_U)` sum to one. -/
theorem triangle1_sum_one (n : Nat) (hU : ℝ) (hU0 : hU ≠ 0) :
    (hU - ev (Hℝ t) (marginalsC n)) / hU
      + (ev (Hℝ t) (marginalsC n)
          - ev (Hℝ t) (residualC ((List.range n).map (fun i => [i])) [])) / hU
      + ev (Hℝ t) (residualC ((List.range n).map (fun i => [i])) []) / hU = 1 := by
  rw [← add_div, ← add_div, sub_add_sub_cancel, sub_add_cancel, div_self hU0]

/-- **First entropy triangle, middle coordinate**: for a table of total mass 1,
`H_P − R = Σ_i I(X_i : rest)`. -/
theorem triangle1_middle_eq (hmass : (t.map (·.2)).sum = 1) (n : Nat) :
    ev (Hℝ t) (marginalsC n) - ev (Hℝ t) (residualC ((List.range n).map (fun i => [i])) [])
      = ((List.range n).map (fun i =>
          ev (Hℝ t) (cmiC [i] (vdiff (List.range n) [i]) []))).sum :=
  marg_sub_residual _ _ (entropyOf_nil t hmass) n

include hnn in
/-- **First entropy triangle, non-negativity of the middle coordinate**: `H_P − R ≥ 0` for a
table with non-negative values and total mass 1 (a sum of mutual informations). Mass 1 is used
for `H(∅) = 0`. The third coordinate `R ≥ 0` is `triangle2_nonneg`; the first, `H_P ≤ H_U`, is not
proved. -/
theorem triangle1_middle_nonneg (hmass : (t.map (·.2)).sum = 1) (n : Nat) :
    0 ≤ ev (Hℝ t) (marginalsC n)
        - ev (Hℝ t) (residualC ((List.range n).map (fun i => [i])) []) := by
  rw [triangle1_middle_eq t hmass n]
  apply List.sum_nonneg
  intro x hx
  obtain ⟨i, _, rfl⟩ := List.mem_map.mp hx
  exact Props.C05.mi_nonneg t hnn _ _

/-- Non-vacuity: a table (with a stored zero) of non-negative values and total mass 1. -/
example : (∀ r ∈ ([(["0", "0"], 1 / 2), (["0", "1"], 0), (["1", "1"], 1 / 2)] :
    Tab (List String) ℝ), 0 ≤ r.2)
    ∧ (([(["0", "0"], 1 / 2), (["0", "1"], 0), (["1", "1"], 1 / 2)] :
      Tab (List String) ℝ).map (·.2)).sum = 1 := by
  constructor
  · intro r hr; simp at hr; rcases hr with rfl | rfl | rfl <;> norm_num
  · norm_num

end Triangles

end Dit.Props.C18
