/-
C17 (companion) — the closed form of `I_∧` (`dit.pid.PID_GK`): the mutual information of the target with the
Gács–Körner meet of the sources of a node, taken on the support (`Core/Wedge.lean`).

Proved here for tables with non-negative values and outcomes of length `n`, a target of variables `< n` and an
injective coding of class indices as symbols (total mass one is needed for `I_∧ ≥ 0` only; that the source sets
of the node are sets of variables `< n` is needed nowhere):
* appending the meet label changes no entropy of the original variables;
* `I_∧(node) ≥ 0`, and `I_∧(node) ≤ I(s : T)` for every source set `s` of the node, hence `I_∧ ≤ I_mmi`
  (the meet is a function of each source: data processing);
* for a single source set the meet is the source itself: `I_∧({s}) = I(s : T)` — the self-redundancy axiom,
  which makes the decomposition consistent on single-source nodes;
* `I_∧` is monotone on the redundancy lattice.
-/
import DitModel.Props.C17
import DitModel.Lemmas.Wedge

namespace Dit.Props.C17Wedge
open Dit Dit.Lemmas.Table Dit.Lemmas.Meet Dit.Lemmas.InfoAlg Dit.Lemmas.InfoReal Dit.Lemmas.Lattice
open Dit.Lemmas.Wedge

variable {σ : Type} [DecidableEq σ]

/-- **Appending the meet label changes no entropy of the original variables** (and dropping stored zeros does
not either): for every set `S` of variables `< n`, `H_S` on `withMeet code t node` is `H_S` on `t`. -/
theorem withMeet_entropy_old (code : Nat → σ) (t : Tab (List σ) ℝ) (node : RNode) (n : Nat)
    (hlen : ∀ k ∈ keys t, k.length = n) (S : VSet) (hS : ∀ v ∈ S, v < n) :
    entropyOf (Real.logb 2) (withMeet code t node) S = entropyOf (Real.logb 2) t S := by
  rw [withMeet_eq, entropyOf_old _ n _ (supportTab_len t n hlen) S hS, entropyOf_supportTab]

/-- Non-vacuity: xor with a stored zero, outcomes of length 3, `S = {0, 1}`. -/
example : (∀ k ∈ keys ([([0, 0, 0], 1 / 4), ([0, 1, 1], 1 / 4), ([1, 0, 1], 1 / 4), ([1, 1, 0], 1 / 4), ([1, 1, 1], 0)] : Tab (List Nat) ℝ), k.length = 3) ∧ ∀ v ∈ [0, 1], v < 3 :=
  ⟨xorZ_len, by decide⟩

/-- The table built on xor with a stored zero: the zero row is dropped; all four outcomes of the support are
connected through `{0}` or `{1}`, so the meet label is constant. -/
example : withMeet (id : Nat → Nat)
      ([([0, 0, 0], 1 / 4), ([0, 1, 1], 1 / 4), ([1, 0, 1], 1 / 4), ([1, 1, 0], 1 / 4), ([1, 1, 1], 0)] : Tab (List Nat) ℝ)
      [[0], [1]]
    = [([0, 0, 0, 0], 1 / 4), ([0, 1, 1, 0], 1 / 4), ([1, 0, 1, 0], 1 / 4), ([1, 1, 0, 0], 1 / 4)] := by
  have hs : supportTab xorZ = xorZ.dropLast := by
    simp [supportTab, xorZ]
  have hl : ∀ o ∈ keys (supportTab xorZ), wlabel id xorZ [[0], [1]] o = 0 := by
    unfold wlabel
    rw [hs]
    decide +kernel
  rw [← xorZ, withMeet_eq_map, List.map_congr_left (g := fun r => (r.1 ++ [0], r.2))
    (fun r hr => by rw [hl r.1 (List.mem_map_of_mem hr)]), hs]
  rfl

/-- **`I_∧ ≥ 0`.** -/
theorem iwedge_nonneg (code : Nat → σ) (t : Tab (List σ) ℝ) (node : RNode) (n : Nat) (T : VSet)
    (hnn : ∀ r ∈ t, 0 ≤ r.2) (hmass : (t.map (·.2)).sum = 1) :
    0 ≤ iwedge (Real.logb 2) code t n T node := by
  unfold iwedge
  exact miOf_nonneg (withMeet code t node) (withMeet_nonneg code node hnn)
    ((withMeet_mass code t node).trans hmass) [n] T

/-- Non-vacuity: xor with a stored zero has non-negative values and total mass one. -/
example : (∀ r ∈ ([([0, 0, 0], 1 / 4), ([0, 1, 1], 1 / 4), ([1, 0, 1], 1 / 4), ([1, 1, 0], 1 / 4), ([1, 1, 1], 0)] : Tab (List Nat) ℝ), 0 ≤ r.2)
    ∧ (([([0, 0, 0], 1 / 4), ([0, 1, 1], 1 / 4), ([1, 0, 1], 1 / 4), ([1, 1, 0], 1 / 4), ([1, 1, 1], 0)] : Tab (List Nat) ℝ).map (·.2)).sum = 1 :=
  ⟨xorZ_nonneg, xorZ_mass⟩

theorem iwedge_le_source (code : Nat → σ) (t : Tab (List σ) ℝ) (node : RNode)
    (n : Nat) (T : VSet) (hnn : ∀ r ∈ t, 0 ≤ r.2)
    (hlen : ∀ k ∈ keys t, k.length = n) (hT : ∀ v ∈ T, v < n) (s : VSet) (hs : s ∈ node) :
    iwedge (Real.logb 2) code t n T node ≤ miOf (Real.logb 2) t s T := by
  rw [iwedge_eq_Imap code t n hlen node T hT, miOf_eq_Imap_support t s T]
  exact Imap_le_of_function _ _ _ _ (supportTab_nonneg hnn)
    (wlabel_function_of_source code t node hs)

/-- Non-vacuity: three copies of a fair bit, sources `{0}{1}`, target `{2}`, `code := id`. -/
example : Function.Injective (id : Nat → Nat)
    ∧ (∀ r ∈ ([([0, 0, 0], 1 / 2), ([1, 1, 1], 1 / 2)] : Tab (List Nat) ℝ), 0 ≤ r.2)
    ∧ (([([0, 0, 0], 1 / 2), ([1, 1, 1], 1 / 2)] : Tab (List Nat) ℝ).map (·.2)).sum = 1
    ∧ (∀ k ∈ keys ([([0, 0, 0], 1 / 2), ([1, 1, 1], 1 / 2)] : Tab (List Nat) ℝ), k.length = 3)
    ∧ (∀ v ∈ [2], v < 3) ∧ [0] ∈ ([[0], [1]] : RNode) ∧ ∀ v ∈ [0], v < 3 :=
  ⟨fun _ _ h => h, bit3_nonneg, bit3_mass, bit3_len, by decide, by decide, by decide⟩

/-- **`I_∧ ≤ I_mmi`** on every node. The proof does not use `hcode`, `hmass`, `hnode`. -/
theorem iwedge_le_immi (code : Nat → σ) (hcode : Function.Injective code) (t : Tab (List σ) ℝ) (node : RNode)
    (hne : node ≠ []) (n : Nat) (T : VSet) (hnn : ∀ r ∈ t, 0 ≤ r.2) (hmass : (t.map (·.2)).sum = 1)
    (hlen : ∀ k ∈ keys t, k.length = n) (hT : ∀ v ∈ T, v < n) (hnode : ∀ s ∈ node, ∀ v ∈ s, v < n) :
    iwedge (Real.logb 2) code t n T node ≤ immi (Real.logb 2) t T node := by
  have _ := hcode
  have _ := hmass
  have _ := hnode
  obtain ⟨_, ⟨s, hs, e⟩, _⟩ := Props.C17.immi_def t T node hne
  rw [e]
  exact iwedge_le_source code t node n T hnn hlen hT s hs

/-- Non-vacuity: xor (with a stored zero), sources `{0}{1}`, target `{2}`, `code := id`. -/
example : Function.Injective (id : Nat → Nat) ∧ ([[0], [1]] : RNode) ≠ []
    ∧ (∀ r ∈ ([([0, 0, 0], 1 / 4), ([0, 1, 1], 1 / 4), ([1, 0, 1], 1 / 4), ([1, 1, 0], 1 / 4), ([1, 1, 1], 0)] : Tab (List Nat) ℝ), 0 ≤ r.2)
    ∧ (([([0, 0, 0], 1 / 4), ([0, 1, 1], 1 / 4), ([1, 0, 1], 1 / 4), ([1, 1, 0], 1 / 4), ([1, 1, 1], 0)] : Tab (List Nat) ℝ).map (·.2)).sum = 1
    ∧ (∀ k ∈ keys ([([0, 0, 0], 1 / 4), ([0, 1, 1], 1 / 4), ([1, 0, 1], 1 / 4), ([1, 1, 0], 1 / 4), ([1, 1, 1], 0)] : Tab (List Nat) ℝ), k.length = 3)
    ∧ (∀ v ∈ [2], v < 3) ∧ ∀ s ∈ ([[0], [1]] : RNode), ∀ v ∈ s, v < 3 :=
  ⟨fun _ _ h => h, by decide, xorZ_nonneg, xorZ_mass, xorZ_len, by decide, by decide⟩

/-- **Self-redundancy**: for a single source set the meet is (equivalent to) the source itself, so
`I_∧({s}) = I(s : T)`. The proof does not use `hnn`, `hmass`, `hsn`. -/
theorem iwedge_self (code : Nat → σ) (hcode : Function.Injective code) (t : Tab (List σ) ℝ) (n : Nat) (T : VSet)
    (hnn : ∀ r ∈ t, 0 ≤ r.2) (hmass : (t.map (·.2)).sum = 1)
    (hlen : ∀ k ∈ keys t, k.length = n) (hT : ∀ v ∈ T, v < n) (s : VSet) (hsn : ∀ v ∈ s, v < n) :
    iwedge (Real.logb 2) code t n T [s] = miOf (Real.logb 2) t s T := by
  have _ := hnn
  have _ := hmass
  have _ := hsn
  rw [iwedge_eq_Imap code t n hlen [s] T hT, miOf_eq_Imap_support t s T]
  exact Imap_equiv _ _ _ _ (wlabel_single code t hcode s)

/-- Non-vacuity: xor (with a stored zero), the single source set `{0, 1}`, target `{2}`. -/
example : Function.Injective (id : Nat → Nat)
    ∧ (∀ r ∈ ([([0, 0, 0], 1 / 4), ([0, 1, 1], 1 / 4), ([1, 0, 1], 1 / 4), ([1, 1, 0], 1 / 4), ([1, 1, 1], 0)] : Tab (List Nat) ℝ), 0 ≤ r.2)
    ∧ (([([0, 0, 0], 1 / 4), ([0, 1, 1], 1 / 4), ([1, 0, 1], 1 / 4), ([1, 1, 0], 1 / 4), ([1, 1, 1], 0)] : Tab (List Nat) ℝ).map (·.2)).sum = 1
    ∧ (∀ k ∈ keys ([([0, 0, 0], 1 / 4), ([0, 1, 1], 1 / 4), ([1, 0, 1], 1 / 4), ([1, 1, 0], 1 / 4), ([1, 1, 1], 0)] : Tab (List Nat) ℝ), k.length = 3)
    ∧ (∀ v ∈ [2], v < 3) ∧ ∀ v ∈ [0, 1], v < 3 :=
  ⟨fun _ _ h => h, xorZ_nonneg, xorZ_mass, xorZ_len, by decide, by decide⟩

/-- **`I_∧` is monotone on the lattice**: if every source set of `b` contains a source set of `a`
(`rle a b`), the meet of `a` is a common function of the sources of `b`, hence a function of their meet, and
`I_∧(a) ≤ I_∧(b)`. The proof does not use `hmass`, `ha`, `hb`. -/
theorem iwedge_monotone (code : Nat → σ) (hcode : Function.Injective code) (t : Tab (List σ) ℝ) (a b : RNode)
    (n : Nat) (T : VSet) (hnn : ∀ r ∈ t, 0 ≤ r.2) (hmass : (t.map (·.2)).sum = 1)
    (hlen : ∀ k ∈ keys t, k.length = n) (hT : ∀ v ∈ T, v < n)
    (ha : ∀ s ∈ a, ∀ v ∈ s, v < n) (hb : ∀ s ∈ b, ∀ v ∈ s, v < n) (h : rle a b = true) :
    iwedge (Real.logb 2) code t n T a ≤ iwedge (Real.logb 2) code t n T b := by
  have _ := hmass
  have _ := ha
  have _ := hb
  rw [iwedge_eq_Imap code t n hlen a T hT, iwedge_eq_Imap code t n hlen b T hT]
  exact Imap_le_of_function _ _ _ _ (supportTab_nonneg hnn)
    (wlabel_function_of_upper code t hcode a b h)

/-- Non-vacuity: three copies of a fair bit, `{0}{1} ≤ {0}` on the lattice, target `{2}`. -/
example : Function.Injective (id : Nat → Nat)
    ∧ (∀ r ∈ ([([0, 0, 0], 1 / 2), ([1, 1, 1], 1 / 2)] : Tab (List Nat) ℝ), 0 ≤ r.2)
    ∧ (([([0, 0, 0], 1 / 2), ([1, 1, 1], 1 / 2)] : Tab (List Nat) ℝ).map (·.2)).sum = 1
    ∧ (∀ k ∈ keys ([([0, 0, 0], 1 / 2), ([1, 1, 1], 1 / 2)] : Tab (List Nat) ℝ), k.length = 3)
    ∧ (∀ v ∈ [2], v < 3) ∧ (∀ s ∈ ([[0], [1]] : RNode), ∀ v ∈ s, v < 3)
    ∧ (∀ s ∈ ([[0]] : RNode), ∀ v ∈ s, v < 3) ∧ rle [[0], [1]] [[0]] = true :=
  ⟨fun _ _ h => h, bit3_nonneg, bit3_mass, bit3_len, by decide, by decide, by decide, by decide⟩

end Dit.Props.C17Wedge
